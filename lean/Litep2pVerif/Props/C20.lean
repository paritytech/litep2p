import Litep2pVerif.Proofs.Bitswap.Prefix
import Litep2pVerif.Proofs.Bitswap.Batch
import Litep2pVerif.Proofs.Bitswap.Proto
import Litep2pVerif.Proofs.Bitswap.Cmd
import Litep2pVerif.Generated.Consts
import Litep2pVerif.Proofs.Node.Wiring
/-!
# C20 — Bitswap blocks are verified against their content identifier; responses are split within
the size limit

The property theorems, each followed by a non-vacuity example, and the toy parameters of the examples (`toyH`,
`toyL`, `toyK`, `toyR`): the inbound path and the batching of `send_response`; the event loop around it (section
`ProtoLevel`, with `WRITE_TIMEOUT` as a budget per message); the command channel (section `CommandChannel`); in
namespace `Wiring`, bitswap's registration. Models: `Model/Bitswap/*.lean`, helper lemmas: `Proofs/Bitswap/*`. The
hash family is a parameter `H : HashFamily` of every statement about the inbound path.
-/
namespace Litep2pVerif.Props.C20
open Litep2pVerif Litep2pVerif.Bitswap

/-- A toy hash family for the examples: only code 0x12 is supported, the "digest" is 32 copies of
the byte sum. -/
def toyH : HashFamily := ⟨fun c => c == 0x12, fun _ d => List.replicate 32 (d.sum % 256)⟩

/-- **Self-certification.** Every `(cid, data)` in the `Response` event the user receives for an
inbound message stems from a received block `(prefix, data)` with a well-formed prefix naming a
supported hash function, and the CID's multihash is that function applied to the received bytes
(code, version and codec taken from the received prefix). A peer therefore cannot make the node
report data under an identifier that does not hash to it. -/
theorem cid_self_certifying (H : HashFamily) (payload : List (Bytes × Bytes))
    (rs : List (Cid × Bytes)) (hev : inboundEvent H payload = some rs)
    (c : Cid) (data : Bytes) (h : (c, data) ∈ rs) :
    ∃ pfx p, (pfx, data) ∈ payload ∧ Prefix.fromBytes pfx = some p ∧ H.supported p.mhType = true ∧
      c.hashCode = p.mhType ∧ c.digest = H.digest p.mhType data ∧
      c.version = p.version ∧ c.codec = p.codec := by
  unfold inboundEvent at hev
  split at hev
  · cases hev
  · cases hev
    obtain ⟨⟨pfx, d⟩, hmem, hb⟩ := List.mem_filterMap.mp h
    obtain ⟨rfl, p, hp, hs, hv, hc, hcode, hdig, _⟩ := blockToResponse_some hb
    exact ⟨pfx, p, hmem, hp, hs, hcode, hdig, hv, hc⟩

/-- Non-vacuity: a message with a valid block (CIDv1, raw, 0x12), a block with an unsupported hash
and a CIDv0 block: the first and third are delivered under the recomputed identifiers. -/
example : inboundEvent toyH [([1, 0x55, 0x12, 32], [1, 2, 3]), ([1, 0x55, 0x11, 20], [9]),
      ([0, 0x70, 0x12, 32], [7])] =
    some [(⟨1, 0x55, 0x12, List.replicate 32 6⟩, [1, 2, 3]), (⟨0, 0x70, 0x12, List.replicate 32 7⟩, [7])] := by
  decide

/-- **Malformed blocks are dropped, the others are unaffected.** If the prefix does not parse, or
names a hash function the node cannot compute, or the digest does not fit a multihash, or
`Cid::new` rejects the combination (CIDv0 that is not dag-pb/sha2-256/32), the block yields no
response: alone it produces no event at all, and inside a message the event is exactly the one the
message without that block would produce. -/
theorem malformed_dropped (H : HashFamily) (pfx data : Bytes) (pre post : List (Bytes × Bytes))
    (hbad : Prefix.fromBytes pfx = none ∨
      ∃ p, Prefix.fromBytes pfx = some p ∧
        (H.supported p.mhType = false ∨ (H.digest p.mhType data).length > MH_ALLOC ∨
         cidNew p.version p.codec p.mhType (H.digest p.mhType data) = none)) :
    blockToResponse H pfx data = none ∧
    inboundEvent H [(pfx, data)] = none ∧
    inboundEvent H (pre ++ (pfx, data) :: post) = inboundEvent H (pre ++ post) := by
  have h1 : blockToResponse H pfx data = none := by
    unfold blockToResponse
    rcases hbad with h | ⟨p, hp, h | h | h⟩
    · simp [h]
    · simp [hp, h]
    · simp [hp, h]
    · simp [hp, h]
  have h2 : inboundResponses H (pre ++ (pfx, data) :: post) = inboundResponses H (pre ++ post) := by
    simp [inboundResponses, List.filterMap_append, h1]
  refine ⟨h1, ?_, ?_⟩
  · simp [inboundEvent, inboundResponses, h1]
  · simp only [inboundEvent, h2]

/-- Non-vacuity: trailing byte, unsupported code, version 2, CIDv0 with the raw codec — each
dropped, alone and between two valid blocks. -/
example :
    inboundEvent toyH [([1, 0x55, 0x12, 32, 0], [1])] = none ∧
    inboundEvent toyH [([1, 0x55, 0x13, 64], [1])] = none ∧
    inboundEvent toyH [([2, 0x55, 0x12, 32], [1])] = none ∧
    inboundEvent toyH [([0, 0x55, 0x12, 32], [1])] = none ∧
    inboundEvent toyH [([1, 0x55, 0x12, 32], [1]), ([1, 0x55, 0x12], [2]), ([1, 0x55, 0x12, 32], [3])] =
      inboundEvent toyH [([1, 0x55, 0x12, 32], [1]), ([1, 0x55, 0x12, 32], [3])] ∧
    Prefix.fromBytes [1, 0x55, 0x12] = none := by
  decide

/-- **Prefix round trip.** `Prefix::from_bytes(p.to_bytes()) = Some(p)` for every prefix a Rust
`Prefix` can hold (version 0/1, `u64` codec and multihash type, `u8` length). -/
theorem prefix_roundtrip (p : Prefix) (h : p.Representable) : Prefix.fromBytes p.toBytes = some p := by
  obtain ⟨hv, hc, hm, hl⟩ := h
  unfold Prefix.fromBytes Prefix.toBytes
  rw [uvarDec_enc _ _ (by omega)]
  simp only
  rw [uvarDec_enc _ _ hc]
  simp only
  rw [uvarDec_enc _ _ hm]
  simp only
  rw [uvarDec_enc_nil _ (by omega)]
  have h1 : ¬ p.version > 1 := by omega
  have h2 : ¬ p.mhLen > 255 := by omega
  simp [h1, h2]

/-- Non-vacuity: the extreme representable prefix (23 bytes) and the usual one. -/
example : (⟨1, 2 ^ 64 - 1, 2 ^ 64 - 1, 255⟩ : Prefix).Representable ∧
    (Prefix.toBytes ⟨1, 2 ^ 64 - 1, 2 ^ 64 - 1, 255⟩).length = 23 ∧
    Prefix.toBytes ⟨1, 0x55, 0x12, 32⟩ = [1, 0x55, 0x12, 32] ∧
    Prefix.fromBytes [1, 0x55, 0x12, 32] = some ⟨1, 0x55, 0x12, 32⟩ := by
  decide

/-- **Batches partition the fitting blocks.** For every list of blocks (and every limit; the
block-count cap at least 1) the `send_response` loop ends by itself within `|blocks| + 1` iterations;
the batches it forms are, in order, a partition of the blocks whose data fits `maxBatch` (each such
block in exactly one batch, order preserved, oversized blocks in none); every batch is non-empty,
carries at most `maxBatch` bytes of data and at most `cap` blocks, and is turned into a message by
`blocks_message` exactly as `mkStep` says (sent iff the encoding fits `maxMsg`). -/
theorem batches_partition {β : Type} (S : Sized β) (maxBatch cap maxMsg : Nat) (hcap : 1 ≤ cap)
    (blocks : List β) :
    (sendResponse S maxBatch cap maxMsg blocks).2 = true ∧
    ((sendResponse S maxBatch cap maxMsg blocks).1.map (·.batch)).flatten =
      blocks.filter (fun b => decide (S.dataLen b ≤ maxBatch)) ∧
    ∀ st ∈ (sendResponse S maxBatch cap maxMsg blocks).1,
      st.batch ≠ [] ∧ (st.batch.map S.dataLen).sum ≤ maxBatch ∧ st.batch.length ≤ cap ∧
      st = mkStep S maxMsg st.batch :=
  sendLoop_spec S maxBatch cap hcap maxMsg (blocks.length + 1) blocks (by omega)

/-- Non-vacuity (the shapes pinned by the unit tests `extract_next_batch_*`, limit 20): exact fill,
an oversized block in the middle, an oversized block first, an empty block, and the cap. -/
example :
    (sendResponse lenPair 20 8 1000 [(4, 10), (4, 10), (4, 10)]).1.map (·.batch) =
      [[(4, 10), (4, 10)], [(4, 10)]] ∧
    (sendResponse lenPair 20 8 1000 [(4, 10), (4, 101), (4, 10)]).1.map (·.batch) = [[(4, 10)], [(4, 10)]] ∧
    (sendResponse lenPair 20 8 1000 [(4, 21), (4, 0), (4, 20), (4, 1)]).1.map (·.batch) =
      [[(4, 0), (4, 20)], [(4, 1)]] ∧
    (sendResponse lenPair 20 2 1000 [(4, 1), (4, 1), (4, 1)]).1.map (·.batch) = [[(4, 1), (4, 1)], [(4, 1)]] ∧
    (sendResponse lenPair 20 8 30 [(4, 10), (4, 10), (4, 10)]).1.map (·.sent) = [false, true] := by
  decide

/-- **Size bound, conditional form.** A batch of at most `n` blocks with prefixes of at most 23
bytes and at most `maxBatch` bytes of data in total encodes to at most `maxBatch + 35·n + 2` bytes;
so the message respects `maxMsg` whenever the number of blocks per batch is bounded accordingly.
(The full statement "every message the loop builds is within `maxMsg`" is FALSE without such a
bound on the block count — `batch_oversize_witness` — because the batching counts data bytes only.) -/
theorem batch_size_bound_partial {β : Type} (S : Sized β) (maxBatch maxMsg n : Nat) (batch : List β)
    (hp : ∀ b ∈ batch, S.prefixLen b ≤ 23) (hsum : (batch.map S.dataLen).sum ≤ maxBatch)
    (hlen : batch.length ≤ n) (hm : maxBatch + 30 < 268435456) (hbound : maxBatch + 35 * n + 2 ≤ maxMsg)
    (len : Nat) (henc : blocksMessageLen S batch = some len) : len ≤ maxMsg :=
  blocksMessageLen_le S maxBatch hp hsum hlen hm hbound henc

/-- Non-vacuity: the computed length of a message of three blocks, and the arithmetic on the real constants: with
at most `MAX_BATCH_BLOCKS` blocks per batch the hypotheses `hm` and `hbound` hold for the real limits. -/
example : blocksMessageLen lenPair [(4, 10), (4, 10), (23, 0)] = some 69 ∧
    Consts.MAX_BATCH_SIZE + 30 < 268435456 ∧
    Consts.MAX_BATCH_SIZE + 35 * Consts.MAX_BATCH_BLOCKS + 2 ≤ Consts.MAX_MESSAGE_SIZE := by
  decide

/-- **Size bound (full, after the repair).** With the node's constants (regenerated from
`bitswap/config.rs`), for every response made of well-formed CIDs (version 0/1, digest at most 64
bytes): every batch the loop forms is encoded into a message of at most `MAX_MESSAGE_SIZE` bytes and
is therefore written to the substream. -/
theorem batch_size_bound (blocks : List (Cid × Bytes))
    (hwf : ∀ b ∈ blocks, b.1.version ≤ 1 ∧ b.1.digest.length ≤ MH_ALLOC) :
    ∀ st ∈ (sendResponse wireBlocks Consts.MAX_BATCH_SIZE Consts.MAX_BATCH_BLOCKS
        Consts.MAX_MESSAGE_SIZE blocks).1,
      ∃ len, st.enc = some len ∧ len ≤ Consts.MAX_MESSAGE_SIZE ∧ st.sent = true :=
  (sendResponse_sent wireBlocks _ _ (by decide) (by decide) (by decide) blocks fun b hb =>
    toPrefix_length_le b.1 (hwf b hb).1 (Nat.le_trans (hwf b hb).2 (by decide))).1

/-- Non-vacuity: a well-formed response of two blocks under a 22-byte prefix (`u64::MAX` codec and
hash code, 64-byte digest); the single batch is encoded in 2 + (1 + 1 + 24 + 3) + (1 + 1 + 24 + 4) = 61
bytes and sent. -/
example :
    let c : Cid := ⟨1, 2 ^ 64 - 1, 2 ^ 64 - 1, List.replicate 64 0⟩
    (c.version ≤ 1 ∧ c.digest.length ≤ MH_ALLOC) ∧
    (sendResponse wireBlocks Consts.MAX_BATCH_SIZE Consts.MAX_BATCH_BLOCKS Consts.MAX_MESSAGE_SIZE
      [(c, [1]), (c, [1, 2])]).1.map (fun st => (st.enc, st.sent)) = [(some 61, true)] := by
  decide

/-- **Every fitting block is sent exactly once, in order.** With the node's constants: the messages
actually written to the substream carry, in order, exactly the blocks whose data is at most
`MAX_BATCH_SIZE` — none lost, none duplicated, none reordered — and the loop terminates. -/
theorem fitting_blocks_sent_once (blocks : List (Cid × Bytes))
    (hwf : ∀ b ∈ blocks, b.1.version ≤ 1 ∧ b.1.digest.length ≤ MH_ALLOC) :
    (sendResponse wireBlocks Consts.MAX_BATCH_SIZE Consts.MAX_BATCH_BLOCKS
        Consts.MAX_MESSAGE_SIZE blocks).2 = true ∧
    (sentBatches (sendResponse wireBlocks Consts.MAX_BATCH_SIZE Consts.MAX_BATCH_BLOCKS
        Consts.MAX_MESSAGE_SIZE blocks).1).flatten =
      blocks.filter (fun b => decide (b.2.length ≤ Consts.MAX_BATCH_SIZE)) :=
  (sendResponse_sent wireBlocks _ _ (by decide) (by decide) (by decide) blocks fun b hb =>
    toPrefix_length_le b.1 (hwf b hb).1 (Nat.le_trans (hwf b hb).2 (by decide))).2

/-- Non-vacuity: a response with an empty block, a small block and a CIDv0 block is one message of
2 + 8 + 13 + 12 bytes. -/
example :
    let c1 : Cid := ⟨1, 0x55, 0x12, List.replicate 32 0⟩
    let c0 : Cid := ⟨0, 0x70, 0x12, List.replicate 32 0⟩
    (sendResponse wireBlocks Consts.MAX_BATCH_SIZE Consts.MAX_BATCH_BLOCKS Consts.MAX_MESSAGE_SIZE
      [(c1, []), (c1, [1, 2, 3]), (c0, [1, 2])]).1.map (fun st => (st.batch.length, st.enc, st.sent)) =
      [(3, some 35, true)] := by
  decide

/-- **Witness of the defect (DESIGN §8-p), the code before the repair** (`cap = 2^64`, i.e. no
bound on the block count): a response of 381301 one-byte blocks with the usual 4-byte prefix, each
of which fits a message, forms ONE batch whose encoding has 4194313 > `MAX_MESSAGE_SIZE` bytes; the
loop skips it, so none of the blocks is sent. -/
theorem batch_oversize_witness :
    (∀ b ∈ List.replicate 381301 ((4, 1) : Nat × Nat), lenPair.dataLen b ≤ Consts.MAX_BATCH_SIZE) ∧
    sendResponse lenPair Consts.MAX_BATCH_SIZE (2 ^ 64) Consts.MAX_MESSAGE_SIZE
        (List.replicate 381301 ((4, 1) : Nat × Nat)) =
      ([⟨List.replicate 381301 (4, 1), some 4194313, false⟩], true) ∧
    Consts.MAX_MESSAGE_SIZE < 4194313 := by
  refine ⟨?_, ?_, by decide⟩
  · intro b hb
    rw [List.eq_of_mem_replicate hb]
    decide
  · rw [sendResponse_replicate lenPair Consts.MAX_BATCH_SIZE (2 ^ 64) Consts.MAX_MESSAGE_SIZE 381301 (4, 1)
      (by decide) (by decide) (by decide)]
    have h : lenPair.entryLen (4, 1) = 11 := by decide
    rw [h]
    have h2 : decide (2 + 381301 * 11 ≤ Consts.MAX_MESSAGE_SIZE) = false := by decide
    rw [h2]

/-- The same response under the repaired code is split at `MAX_BATCH_BLOCKS` (first batch shown on
a short list with cap 2: see the `batches_partition` example); here: the arithmetic that the first
batch of the repaired code is within the limit. -/
example : 2 + Consts.MAX_BATCH_BLOCKS * lenPair.entryLen (4, 1) ≤ Consts.MAX_MESSAGE_SIZE := by decide

/-- `send_response` with the node's constants on a substream whose codec accepts frames of up to
`codecMax` bytes (`bitswap/config.rs`: `UnsignedVarint(Some(MAX_MESSAGE_SIZE))`). -/
abbrev nodeRespond {π : Type} (P : PSized π) (codecMax : Nat) (entries : List (Entry π (Cid × Bytes))) :=
  respond P wireBlocks Consts.MAX_BATCH_SIZE Consts.MAX_BATCH_BLOCKS Consts.MAX_MESSAGE_SIZE codecMax entries

/-- **A presence message is written only within the size limit.** Whatever the response and the
codec's limit: if `send_response` writes a presence message at all, it is the first message, it
carries exactly the presence entries of the response (non-empty, in order), its encoding is the one
`presences_message` produces and that has at most `MAX_MESSAGE_SIZE` bytes (regenerated constant);
every other message is a blocks message. -/
theorem presence_within_limit {π : Type} (P : PSized π) (codecMax : Nat)
    (entries : List (Entry π (Cid × Bytes))) (ps : List π) (len : Nat)
    (h : Frame.presences ps len ∈ (nodeRespond P codecMax entries).1) :
    len ≤ Consts.MAX_MESSAGE_SIZE ∧ ps = presencesOf entries ∧ ps ≠ [] ∧
    presencesMessageLen P ps = some len ∧
    ∃ rest, (nodeRespond P codecMax entries).1 = Frame.presences ps len :: rest ∧
      ∀ f ∈ rest, ∃ batch l, f = Frame.blocks batch l :=
  respond_presence wireBlocks _ _ P _ codecMax entries ps len h

/-- Non-vacuity (small limits so that both outcomes show): two presences (a 36-byte CID with
`DontHave`, 42 bytes, and with `Have`, 40 bytes) and a block; with `maxMsg = 100` the presence message
(84 bytes) is written first, with `maxMsg = 83` it is skipped and only the block goes out; and on the
node's constants the presence message is written. -/
example :
    respond lenPres lenPair 20 8 100 100 [.presence (36, 1), .block (4, 10), .presence (36, 0)] =
      ([.presences [(36, 1), (36, 0)] 84, .blocks [(4, 10)] 22], .ok) ∧
    respond lenPres lenPair 20 8 83 83 [.presence (36, 1), .block (4, 10), .presence (36, 0)] =
      ([.blocks [(4, 10)] 22], .ok) ∧
    (nodeRespond lenPres Consts.MAX_MESSAGE_SIZE [.presence (36, 1), .presence (36, 0)]).1 =
      [.presences [(36, 1), (36, 0)] 84] := by
  decide

/-- **Blocks are sent whatever the presence list.** With the node's constants, on a substream whose
codec accepts every frame of up to `MAX_MESSAGE_SIZE` bytes (the configured codec does), for every
response — any mix of presences and well-formed blocks: `send_response` returns `Ok`; the messages
written are an optional presence message followed by exactly the messages of the block-only response;
the block messages carry, in order, exactly the blocks whose data is at most `MAX_BATCH_SIZE` — none
lost, duplicated or reordered; and every written message has at most `MAX_MESSAGE_SIZE` bytes.

Actual behaviour of the code for an oversized presence list (more than about 10^5 entries): the
presence message is NOT split; it is skipped as a whole with a warning (`respond_cases`, first
case) — the presences are silently lost, the blocks are unaffected. The property speaks about blocks
and message sizes only. The guard matters: without it the write is rejected by the codec and the
function returns before any block is sent (last case of `respond_cases`, excluded here because
`len ≤ MAX_MESSAGE_SIZE ≤ codecMax`). -/
theorem blocks_sent_regardless_of_presences {π : Type} (P : PSized π) (codecMax : Nat)
    (hcodec : Consts.MAX_MESSAGE_SIZE ≤ codecMax) (entries : List (Entry π (Cid × Bytes)))
    (hwf : ∀ b ∈ blocksOf entries, b.1.version ≤ 1 ∧ b.1.digest.length ≤ MH_ALLOC) :
    (nodeRespond P codecMax entries).2 = SendResult.ok ∧
    (∃ pre, (nodeRespond P codecMax entries).1 =
        pre ++ (nodeRespond P codecMax ((blocksOf entries).map Entry.block)).1 ∧
      (pre = [] ∨ ∃ len, pre = [Frame.presences (presencesOf entries) len])) ∧
    (blockBatches (nodeRespond P codecMax entries).1).flatten =
      (blocksOf entries).filter (fun b => decide (b.2.length ≤ Consts.MAX_BATCH_SIZE)) ∧
    ∀ f ∈ (nodeRespond P codecMax entries).1, f.len ≤ Consts.MAX_MESSAGE_SIZE :=
  respond_spec wireBlocks _ _ P (by decide) hcodec (by decide) (by decide) entries fun b hb =>
    toPrefix_length_le b.1 (hwf b hb).1 (Nat.le_trans (hwf b hb).2 (by decide))

/-- Non-vacuity: a response of two presences around two blocks under the configured codec; the
arithmetic of an oversized presence list on the real constants (110 000 `DontHave` entries for 36-byte
CIDs need 2 + 110000·42 bytes > `MAX_MESSAGE_SIZE`); and, with small limits, such a list skipped while
the blocks still go out — against the variant of the code without the guard modelled by a guard limit
above the codec's (`maxMsg = 1000`, `codecMax = 83`): the write fails and nothing is sent. -/
example :
    let c : Cid := ⟨1, 0x55, 0x12, List.replicate 32 0⟩
    (Consts.MAX_MESSAGE_SIZE ≤ Consts.MAX_MESSAGE_SIZE) ∧
    ((nodeRespond wirePres Consts.MAX_MESSAGE_SIZE
        [.presence (c, 1), .block (c, [1, 2, 3]), .presence (c, 0), .block (c, [])]).1.map Frame.len,
      (nodeRespond wirePres Consts.MAX_MESSAGE_SIZE
        [.presence (c, 1), .block (c, [1, 2, 3]), .presence (c, 0), .block (c, [])]).2) = ([84, 23], .ok) ∧
    Consts.MAX_MESSAGE_SIZE < 2 + 110000 * presenceEntryLen 36 1 ∧
    respond lenPres lenPair 20 8 83 83 [.presence (36, 1), .block (4, 10), .presence (36, 0), .block (4, 11)] =
      ([.blocks [(4, 10)] 22, .blocks [(4, 11)] 23], .ok) ∧
    respond lenPres lenPair 20 8 1000 83 [.presence (36, 1), .block (4, 10), .presence (36, 0), .block (4, 11)] =
      ([], .writeError) := by
  decide

/-! ## Protocol level: the event loop around `send_response` (`Model/Bitswap/Proto.lean`)

A response handed to the protocol (`BitswapHandle::send_response`) is written by calls of
`send_response` on a substream. The theorems below say which calls are made in ANY history of
connection / substream / dial events, user commands and write failures at any message index. -/
section ProtoLevel
open Proto

/-- Small limits for the examples: 10 data bytes per batch, 4 blocks per batch, 100-byte messages;
`WRITE_TIMEOUT` = 15 000 ms. -/
def toyL : Limits := ⟨10, 4, 100, 100, 15000⟩
def toyK : Kind := ⟨1, 85, 18, 32⟩
/-- three blocks of 6 bytes: one message each under `toyL` -/
def toyR : List REntry := [.block ⟨toyK, 4, 6, 1⟩, .block ⟨toyK, 4, 6, 2⟩, .block ⟨toyK, 4, 6, 3⟩]

/-- **Every (re)transmission carries the whole response, from its first message.** In every history
that starts with the empty protocol state, each call of `send_request` / `send_response` the protocol
makes is for an action exactly as the user handed it over (never for a part of one), the messages the
substream accepted are the first messages of the complete sequence for that action (so within one call
every block is written at most once and in order, by `fitting_blocks_sent_once`), a call that returns
`Ok` wrote all of them, and a call that fails wrote a strict prefix. In particular, when a cached
substream fails in the middle of a response, the retry over the next substream starts again with the
first message of the response: nothing that the failed substream did not take is skipped. -/
theorem response_delivered_or_dropped_whole (L : Limits) (ops : List Op) (t : Attempt)
    (h : t ∈ (run L {} ops).2) :
    t.action ∈ handed ops ∧
    t.written = (actionFrames L t.action).1.take t.written.length ∧
    (t.ok = true → t.written = (actionFrames L t.action).1) ∧
    (t.ok = false → t.written.length < (actionFrames L t.action).1.length ∨ (actionFrames L t.action).2 = false) := by
  obtain ⟨h1, h2⟩ := run_spec L ops {} t h
  exact ⟨h1.resolve_left nofun, h2⟩

/-- Non-vacuity: a response of three messages over a cached substream that fails at the second
message, then a fresh substream: two calls, the first wrote one message and failed, the second wrote
all three. -/
example :
    ((run toyL {} [.conn 1 true, .command 1 (.response []), .subopen 0 none 0 [], .plan 0 (some 1) 0 [],
        .command 1 (.response toyR), .subopen 1 none 0 []]).2.map fun t => (t.sub, t.written.length, t.ok)) =
      [(0, 0, true), (0, 1, false), (1, 3, true)] := by
  decide

/-- **A failed cached substream: the whole action takes the slow path.** If the peer has a cached
outbound substream and the call on it fails, then afterwards the substream is no longer cached and
the action — as handed over — is the last entry of the peer's queue (a substream or a dial has been
requested), except when no substream can be had at all (`open_substream` fails and `dial` answers
`AlreadyConnected` or an error): then the peer's queue is dropped as a whole. -/
theorem cached_failure_requeues_whole (L : Limits) (st : St) (p s : Nat) (a : Action)
    (hc : alookup p st.outbound = some s) (hf : (attempt L s (st.far s) a).1.ok = false) :
    alookup p (onCommand L st p a).1.outbound = none ∧
    ((∃ q, alookup p (onCommand L st p a).1.pendingOutbound = some (q ++ [a])) ∨
     alookup p (onCommand L st p a).1.pendingOutbound = none) := by
  unfold onCommand
  simp only [hc, hf, Bool.false_eq_true, if_false]
  refine ⟨?_, ?_⟩
  · rw [(enqueue_quiet _ p a).2]
    exact alookup_aerase_self _ _
  · exact (enqueue_lookup _ p a).imp_right And.left

/-- Non-vacuity: the state after the failing call of the example above. -/
example :
    let st := (run toyL {} [.conn 1 true, .command 1 (.response []), .subopen 0 none 0 [], .plan 0 (some 1) 0 []]).1
    alookup 1 st.outbound = some 0 ∧ (attempt toyL 0 (st.far 0) (.response toyR)).1.ok = false ∧
    alookup 1 (onCommand toyL st 1 (.response toyR)).1.pendingOutbound = some [.response toyR] ∧
    (onCommand toyL st 1 (.response toyR)).1.pendingSubstreams = [(1, 1)] := by
  decide

/-- **A fresh substream gets the queue in order.** When an outbound substream opens for a peer with
queued actions, the calls made on it are for the first actions of the queue in queue order, each for
the action as queued (whole); every call but the last returned `Ok`; the queue entry is removed in any
case, and the substream is cached iff every queued action was sent (otherwise it is dropped together
with the rest of the queue). -/
theorem fresh_substream_runs_queue_in_order (L : Limits) (st : St) (p s : Nat) (f : Far) (q : List Action)
    (hq : alookup p st.pendingOutbound = some q) :
    (onOutboundSubstream L st p s f).2.attempts.map (·.action) =
      q.take (onOutboundSubstream L st p s f).2.attempts.length ∧
    (∀ t ∈ (onOutboundSubstream L st p s f).2.attempts, t.sub = s) ∧
    (∀ t ∈ (onOutboundSubstream L st p s f).2.attempts.dropLast, t.ok = true) ∧
    alookup p (onOutboundSubstream L st p s f).1.pendingOutbound = none ∧
    (alookup p (onOutboundSubstream L st p s f).1.outbound = some s ↔
      (alookup p st.outbound = some s ∨
       ((onOutboundSubstream L st p s f).2.attempts.length = q.length ∧
        ∀ t ∈ (onOutboundSubstream L st p s f).2.attempts, t.ok = true))) := by
  obtain ⟨hA, hpend, hout⟩ := onOutboundSubstream_some (L := L) (s := s) (f := f) hq
  obtain ⟨hact, hatt, hdrop, hflag⟩ := runActions_spec L s q f
  rw [hA, hout, hflag]
  refine ⟨hact, fun t ht => ?_, hdrop, hpend ▸ alookup_aerase_self _ _, Iff.rfl⟩
  obtain ⟨a, _, f', rfl⟩ := hatt t ht
  rfl

/-- Non-vacuity: two queued responses, the fresh substream fails at its fifth message: the first
response is sent completely, the second from its first message up to the failure; nothing is cached. -/
example :
    let st := (run toyL {} [.conn 1 true, .command 1 (.response toyR), .command 1 (.response toyR)]).1
    alookup 1 st.pendingOutbound = some [.response toyR, .response toyR] ∧
    ((onOutboundSubstream toyL st 1 0 ⟨some 4, 0, false, []⟩).2.attempts.map fun t => (t.written.length, t.ok)) =
      [(3, true), (1, false)] ∧
    (onOutboundSubstream toyL st 1 0 ⟨some 4, 0, false, []⟩).1.outbound = [] := by
  decide

/-- **Nothing else touches the queue.** The operations that are neither a user command nor one of
the events `SubstreamOpened(outbound)`, `SubstreamOpenFailure`, `ConnectionClosed`, `DialFailure`,
`ConnectionEstablished` (in particular inbound frames, whole or arriving in pieces) leave
`pending_outbound` as it is: a queued response is dropped only where the
handlers say so (dial failure, substream-open failure, connection closed, a failed `open_substream`
after the dial, a failed call on the fresh substream, no way to get a substream at all). -/
theorem queue_untouched_by_other_events (L : Limits) (st : St) (op : Op)
    (h : match op with
      | .view _ _ | .conndead _ | .plan _ _ _ _ | .insub _ | .inmsg _ _ | .inhold _ | .inrest _ _ | .inend _ => True
      | _ => False) :
    (step L st op).1.pendingOutbound = st.pendingOutbound :=
  (step_quiet L st h).1

/-- Non-vacuity: a queued response survives a manager-view change, a dead command channel and an
inbound substream, and is dropped by the dial failure. -/
example :
    ((run toyL {} [.command 2 (.response toyR), .view 2 .dialing, .conn 1 true, .insub 1, .conndead 1]).1.pendingOutbound,
     (run toyL {} [.command 2 (.response toyR), .view 2 .dialing, .conn 1 true, .insub 1, .conndead 1,
        .dialfail 2]).1.pendingOutbound) = ([(2, [.response toyR])], []) := by
  decide

/-! ### time: `WRITE_TIMEOUT` is a budget per message

Every `substream.send_framed(message)` in `send_request` / `send_response` runs under its own
`tokio::time::timeout(WRITE_TIMEOUT, ..)`. Neither a call of `send_response`, nor the flush of the queue in
`on_outbound_substream`, nor an iteration of the event loop has a time limit of its own. The far end of a
substream takes `Far.delays` (ms, one entry per further message, the last repeats) to accept a message;
`Far.Timely wt`: it refuses nothing and none of these exceeds `wt`. -/

/-- **Only single messages time out.** Over a far end that accepts every message within `WRITE_TIMEOUT`
a call of `send_request` / `send_response` writes ALL messages of its action — for a response: every
block that fits a message, once and in order (`blocks_sent_regardless_of_presences`) — and returns what
the codec says (`Ok` unless a message exceeds the codec's limit, which the configured codec never sees),
leaves no partial message, takes the sum of the messages' times — no hypothesis bounds that sum: it may
exceed `WRITE_TIMEOUT` any number of times —, and leaves the far end as timely as it was (the substream
stays usable for the next call). -/
theorem per_frame_timeout_only (L : Limits) (s : Nat) (f : Far) (a : Action) (h : f.Timely L.writeTimeout) :
    (attempt L s f a).1.written = (actionFrames L a).1 ∧
    (attempt L s f a).1.ok = (actionFrames L a).2 ∧
    (attempt L s f a).1.partialBytes = 0 ∧
    (attempt L s f a).1.elapsed = elapsedOf f.delays (actionFrames L a).1.length ∧
    (attempt L s f a).2.Timely L.writeTimeout :=
  attempt_timely L s f a h

/-- Non-vacuity: three messages at 6 s each over a cached substream — 18 s > `WRITE_TIMEOUT` = 15 s in
total, all three written, `Ok`; and five at 14.999 s. -/
example :
    (Far.Timely toyL.writeTimeout ⟨none, 0, false, [6000]⟩) ∧
    ((fun t : Attempt => (t.written.length, t.ok, t.elapsed))
      (attempt toyL 0 ⟨none, 0, false, [6000]⟩ (.response toyR)).1) = (3, true, 18000) ∧
    ((fun t : Attempt => (t.written.length, t.ok, t.elapsed))
      (attempt toyL 0 ⟨none, 0, false, [14999]⟩ (.response (toyR ++ toyR.take 2))).1) = (5, true, 74995) := by
  refine ⟨⟨rfl, by decide⟩, by decide, by decide⟩

/-- **A slow link gets the whole queue.** When the outbound substream opens for a peer with queued
actions (queued while the substream was being opened or the peer dialled) and its far end accepts every
message within `WRITE_TIMEOUT`, then — however long the flush takes as a whole — every queued action is
sent completely and in queue order (each call writes all messages of its action and returns `Ok`),
nothing stays queued, and the substream is cached. (`hc`: no message exceeds the codec's limit.) -/
theorem slow_link_flushes_whole_queue (L : Limits) (st : St) (p s : Nat) (f : Far) (q : List Action)
    (hq : alookup p st.pendingOutbound = some q) (hf : f.Timely L.writeTimeout)
    (hc : ∀ a ∈ q, (actionFrames L a).2 = true) :
    (onOutboundSubstream L st p s f).2.attempts.map (fun t => (t.action, t.written, t.ok)) =
      q.map (fun a => (a, (actionFrames L a).1, true)) ∧
    alookup p (onOutboundSubstream L st p s f).1.pendingOutbound = none ∧
    alookup p (onOutboundSubstream L st p s f).1.outbound = some s := by
  obtain ⟨h1, h2⟩ := runActions_timely L s q f hf hc
  obtain ⟨hA, hpend, hout⟩ := onOutboundSubstream_some (L := L) (s := s) (f := f) hq
  exact ⟨hA ▸ h1, hpend ▸ alookup_aerase_self _ _, hout.2 (Or.inr h2)⟩

/-- Non-vacuity: a request and a response of three messages queued during the dial, the fresh substream
takes 5.001 s per message — 20 s in all: four messages in two calls, the substream is cached. -/
example :
    let st := (run toyL {} [.command 2 (.request [⟨toyK, 36, 7, 0⟩]), .command 2 (.response toyR), .conn 2 true]).1
    alookup 2 st.pendingOutbound = some [.request [⟨toyK, 36, 7, 0⟩], .response toyR] ∧
    ((onOutboundSubstream toyL st 2 0 ⟨none, 0, false, [5001]⟩).2.attempts.map
      fun t => (t.written.length, t.ok, t.elapsed)) = [(1, true, 5001), (3, true, 15003)] ∧
    (onOutboundSubstream toyL st 2 0 ⟨none, 0, false, [5001]⟩).1.outbound = [(2, 0)] := by
  decide

/-- **A message slower than `WRITE_TIMEOUT` fails its call** (`Error::Timeout`): if the far end refuses
nothing, accepts the first `j` messages of the action in time and takes longer than `WRITE_TIMEOUT` for
the next one, the call writes exactly those `j` messages, no byte of the slow one, and returns an error
(the cached substream is then dropped and the action re-queued — `cached_failure_requeues_whole` —, a
fresh one is dropped with the rest of the queue — `fresh_substream_runs_queue_in_order`). -/
theorem frame_over_timeout_fails_call (L : Limits) (s : Nat) (f : Far) (a : Action) (j : Nat)
    (hb : f.budget = none) (hj : j < (actionFrames L a).1.length)
    (hpre : timely L.writeTimeout f.delays j = j)
    (hlate : L.writeTimeout < delayHead (delaysAfter j f.delays)) :
    (attempt L s f a).1.written = (actionFrames L a).1.take j ∧
    (attempt L s f a).1.ok = false ∧
    (attempt L s f a).1.partialBytes = 0 := by
  have ht := timely_late j hpre hlate hj
  have hne := beq_false_of_ne (Nat.ne_of_lt hj)
  simp only [attempt, Far.take, Far.partialOf, hb, ht, hne, Bool.false_and, and_self]

/-- Non-vacuity: 6 s, 6 s, then 15.001 s: two of the three messages are written, the call fails. -/
example :
    timely toyL.writeTimeout [6000, 6000, 15001] 2 = 2 ∧
    toyL.writeTimeout < delayHead (delaysAfter 2 [6000, 6000, 15001]) ∧
    ((fun t : Attempt => (t.written.length, t.ok, t.elapsed))
      (attempt toyL 0 ⟨none, 0, false, [6000, 6000, 15001]⟩ (.response toyR)).1) = (2, false, 12000) := by
  decide

end ProtoLevel

section CommandChannel
open Proto Cmd Litep2pVerif.Kad.Events

/-- **A response handed to `send_response` is never dropped on the way to the event loop.** Whatever the capacity
(`> 0`) of the command channel and however many commands the user hands over while `run()` is not polled - the
channel fills up and the user's `send(..).await` suspends holding the next command -, once the loop runs it
receives exactly the commands handed over, each once, in that order, and nothing is left in the channel; the
protocol state (and what was dialled / opened / written) is therefore that of handling all of them in order. -/
theorem response_command_never_dropped (L : Limits) (cap : Nat) (hcap : 0 < cap) (st : St) (cmds : List Command) :
    received cap cmds = cmds ∧
    (heldThenDrained ({ cap := cap } : Chan Command) cmds).pending = 0 ∧
    burst L cap st cmds = handleAll L st cmds := by
  obtain ⟨hgot, hpend⟩ := heldThenDrained_got cap hcap cmds
  exact ⟨hgot, hpend, congrArg (handleAll L st) hgot⟩

/-- Non-vacuity: capacity 2, five responses: the user suspends after two, the loop receives all five in order; with
`try_send` (the seeded change) it receives two. -/
example :
    let cmds : List Command := (List.range 5).map fun i => (1, Action.response [.block ⟨⟨1, 85, 18, 32⟩, 36, 1 + i, 0⟩])
    suspendedAt 2 cmds = some 2 ∧ received 2 cmds = cmds ∧ (receivedTry 2 cmds).length = 2 ∧
    (burst ⟨100, 100, 1000, 1000, 15000⟩ 2 {} cmds).1.pendingOutbound.map (fun e => e.2.length) = [5] := by decide

end CommandChannel

#print axioms response_command_never_dropped
#print axioms cid_self_certifying
#print axioms malformed_dropped
#print axioms prefix_roundtrip
#print axioms batches_partition
#print axioms batch_size_bound_partial
#print axioms batch_size_bound
#print axioms fitting_blocks_sent_once
#print axioms batch_oversize_witness
#print axioms presence_within_limit
#print axioms blocks_sent_regardless_of_presences
#print axioms response_delivered_or_dropped_whole
#print axioms cached_failure_requeues_whole
#print axioms fresh_substream_runs_queue_in_order
#print axioms queue_untouched_by_other_events
#print axioms per_frame_timeout_only
#print axioms slow_link_flushes_whole_queue
#print axioms frame_over_timeout_fails_call

end Litep2pVerif.Props.C20

/-! ## Wiring — bitswap's registration

Over the wiring model `Model/Node/Wiring.lean` (`Node.new c` = `Litep2p::new(ConfigBuilder…build())`, `notes` / `tcpHeld` =
what the constructed protocol objects / the TCP transport hold, `protocolCodec` = `ProtocolSet::protocol_codec`), tied to
the real code by the `node` area: real nodes built through the public API print what the CONSTRUCTED objects hold and what
a connection's `ProtocolSet` answers for every main and fallback name; the driver prints the model's; compared exactly. -/
namespace Litep2pVerif.Props.C20.Wiring
open Litep2pVerif Litep2pVerif.Node

/-- Kademlia setter calls of the sample: a later call overrides an earlier one; zero bounds. -/
def sampleSets : List KadSet := [.maxRecords 5, .replication 3, .maxRecords 0, .maxProviderKeys 0, .validationMode false]

/-- A configuration with fallback names, zero store bounds and non-default transport settings (non-vacuity examples). -/
def sample : Config :=
  { keepAliveMs := some 600, listen := [1],
    notif := [{ name := "/n/new", max := 32, handshake := "01", fallback := ["/n/a"], mode := 'a', sync := some 7, async := none,
                dial := some false }],
    rr := [{ name := "/r/new", max := 256, timeoutMs := 800, fallback := ["/r/a", "/r/b"], maxInbound := some 3 }],
    user := [⟨"/u/a", .identity 8⟩],
    kad := [{ names := ["/k/2", "/k/1"], max := some 2048,
              sets := sampleSets }],
    ping := some 1, identify := true, bitswap := true, maxParallelDials := some 0,
    tcpSets := [.readAhead 3, .parallelDials 7, .writeBuffer 4] }

/-- An enabled bitswap is registered under its name as a keep-alive protocol with the varint codec bounded by
`MAX_MESSAGE_SIZE` — the bound the batch limits of this property are proved against —, that is the codec a connection answers
for its name, and its protocol object is constructed. -/
theorem bitswap_config_reaches_protocol (c : Config) (w : Wired) (h : Node.new c = .ok w) (hb : c.bitswap = true) :
    (∃ r ∈ w.regs, r.name = bitswapName ∧ r.codec = .varint (some Consts.BITSWAP_MAX_MESSAGE_SIZE) ∧ r.keepAlive = true) ∧
    protocolCodec w.regs bitswapName = some (.varint (some Consts.BITSWAP_MAX_MESSAGE_SIZE)) ∧
    Note.bitswap ∈ notes (build c) := by
  obtain ⟨hreg, _, rfl⟩ := wire_ok h
  have hm := bitswap_mem_registrations (build c) hb
  exact ⟨⟨_, hm, rfl, rfl, rfl⟩, (protocolSet_of_claim hreg hm List.mem_cons_self).1, notes_bitswap_mem _ hb⟩

example : ∃ w, Node.new sample = .ok w ∧ protocolCodec w.regs bitswapName = some (.varint (some 4194304)) :=
  ⟨_, rfl, by decide⟩

end Litep2pVerif.Props.C20.Wiring

#print axioms Litep2pVerif.Props.C20.Wiring.bitswap_config_reaches_protocol
