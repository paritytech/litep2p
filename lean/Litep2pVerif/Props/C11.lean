import Litep2pVerif.Proofs.Notif.Inv2
import Litep2pVerif.Proofs.Notif.Handle
import Litep2pVerif.Proofs.Notif.Handshake
import Litep2pVerif.Proofs.Node.Wiring
/-!
C11 — notification streams follow a strict open/close protocol towards the user.

Model: `Model/Notif/Peer.lean` (per-peer machine, all handlers), `Model/Notif/Sys.lean` (composition with
the connection tasks, the handshake service, the validation answers and the transport as a labelled
transition system, per peer). `Reach` = every schedule and every environment behaviour allowed by the
guards. `ReachP` = `Reach` minus the two known findings, i.e. every step additionally satisfies

* `prompt` (scheduling), in two parts:
  1. (finding `stale-connection-task`) a connection task that has ENTERED `close_connection` finishes (notice
     delivered, `NotificationStreamClosed` reported) before the protocol handles anything else for that peer —
     false only if `Substream::close()` stays pending inside the task;
  2. (finding `late-closed-report`) a connection task whose shutdown oneshot has fired but which the executor
     has NOT POLLED since may stay unpolled while the protocol handles any further events of that peer
     (disconnect, reconnect, a new negotiation …) — nothing is assumed about when it runs, except that it runs
     before the protocol next reports `opened` or an open failure for that peer (otherwise its
     `NotificationStreamClosed` comes late on the user channel: `grammar_alternation_witness`). A task that is
     merely not scheduled (the `hold` of the adapter/driver) is therefore inside `ReachP`; only a stalled
     `close()` or an `opened` overtaking the old `closed` is outside;
* `freshAnswer` (usage; finding `stale-validation-answer`): a validation answer reaches the protocol only
  while the inbound substream it was given for is the one being validated (or none is).

Which of them a theorem really uses is said at the theorem. The full statements (over `Reach`) are FALSE of
the code: see the `_witness` theorems (replayed on the real component by checks/c11.py).

A third finding, `dangling-pending-open` (`SubstreamOpenFailure` for the outbound substream of an accepted or
simultaneously opened stream left `Closed{pending_open: Some(dead id)}`, and the next open request reused the
dead id and was never answered), is repaired in the code (`fix: notification: do not reuse a pending outbound
substream that already failed to open`); the model mirrors the repaired `on_open_substream`, and
`open_answered_once_partial` needs no hypothesis about it (see `open_after_late_failure`).
-/
namespace Litep2pVerif.Notif

/-- The pairs (state, event) on which a handler hits `debug_assert!(false)` — the computed table. -/
def bugSpec (slot : Slot) : Ev → Bool
  | .connEst _ =>
    match slot with
    | none | some .dialing | some (.valPending .clo) => false
    | _ => true
  | .connClosed => slot.isNone
  | .outbound sid _ pendOk =>
    match slot with
    | some (.outInit s) => !(s == sid && pendOk)
    | some (.validating _ .sending _) | some (.validating _ (.opn _) _) => false
    | some (.validating (.init s) _ _) => s != sid
    | some (.closed (some s)) => s != sid
    | _ => true
  | .inbound _ => slot.isNone
  | .openFailure sid found =>
    !found ||
    match slot with
    | some (.outInit _) | some (.validating ..) => false
    | some (.closed pend) => pend != some sid
    | _ => true
  | .hsNegotiated .outbound _ _ _ _ =>
    match slot with
    | some (.validating .neg _ _) => false
    | _ => true
  | .hsNegotiated .inbound _ _ _ _ =>
    match slot with
    | some (.validating _ .reading _) | some (.validating _ .sending _) => false
    | _ => true
  | .hsError =>
    match slot with
    | some (.validating ..) => false
    | _ => true
  | _ => false

/-- Every (state, event) pair yields a state and a list of effects (the handlers are total functions);
a `debug_assert!(false)` fires exactly on the pairs of the table `bugSpec`. -/
theorem bug_table (slot : Slot) (ev : Ev) : Out.bug ∈ (handle slot ev).2 ↔ bugSpec slot ev = true := by
  handler_simp [bugSpec]
  -- left, for `outInit s` answered under `sid`: the failed test `s = sid ∧ pendOk`, had as an implication, wanted as a disjunction
  exact Decidable.not_or_of_imp ‹_›

example : Out.bug ∈ (handle (some (.closed none)) (.connEst none)).2 ∧ bugSpec (some (.closed none)) (.connEst none) = true ∧
    Out.bug ∉ (handle (some .dialing) (.connEst none)).2 ∧ bugSpec (some .dialing) (.connEst none) = false := by decide

/-- No handler gets stuck: the only dead state, `Poisoned`, is entered only together with a `bug` effect
(i.e. on a pair of the table). -/
theorem handler_total (slot : Slot) (ev : Ev) (h : (handle slot ev).1 = some .poisoned) :
    bugSpec slot ev = true ∨ slot = some .poisoned := by
  rw [← bug_table]
  revert h
  handler_simp []

-- the hypothesis of `handler_total` is satisfiable in both ways: a pair of the table that poisons the state, and
-- the poisoned state staying poisoned without a new `bug`; a pair outside the table does not poison
example : (handle (some (.closed none)) (.connEst none)).1 = some .poisoned ∧
    bugSpec (some (.closed none)) (.connEst none) = true ∧
    (handle (some (.opn 3)) .hsError).1 = some .poisoned ∧ bugSpec (some (.opn 3)) .hsError = true ∧
    (handle (some .poisoned) .cmdClose).1 = some .poisoned ∧ bugSpec (some .poisoned) .cmdClose = false ∧
    (handle (some .dialing) (.connEst none)).1 ≠ some .poisoned ∧ bugSpec (some .dialing) (.connEst none) = false := by
  decide

/-- Opened and closed strictly alternate on the user channel, starting with opened, and no open failure is
reported while a stream is open — `grammar` folds exactly these three rules over the channel.
FULL statement (`∀ s, Reach s → …`) is false: `grammar_alternation_witness`. -/
theorem grammar_alternation_partial {s : PeerSys} (h : ReachP s) : ∃ b, grammar s.log = some b :=
  ⟨_, (inv2_reach h).i1.g⟩

theorem grammar_none (l : List UEv) : l.foldl gstep none = none := by
  induction l with
  | nil => rfl
  | cons e r ih => simpa [List.foldl_cons, gstep] using ih

/-- An open failure is never reported while the user's stream is open. -/
theorem no_failure_while_open_partial {s : PeerSys} (h : ReachP s) (pre post : List UEv) (e : Err)
    (hl : s.log = pre ++ .fail e :: post) : grammar pre = some false := by
  obtain ⟨b, hb⟩ := grammar_alternation_partial h
  rw [hl, grammar, List.foldl_append, List.foldl_cons] at hb
  rcases hp : pre.foldl gstep (some false) with _ | b0
  · rw [hp] at hb; simp [gstep, grammar_none] at hb
  · cases b0
    · exact hp
    · rw [hp] at hb; simp [gstep, grammar_none] at hb

/-- When the connection to the peer is lost, every connection task of the peer has been told to shut down
(it is closing or its oneshot has fired) and the slot is not `Open`; and once the tasks have finished, the
user has been told `closed` for every `opened`. -/
theorem closed_on_disconnect {s : PeerSys} (h : ReachP s) :
    (s.tasks = [] → grammar s.log = some false) ∧
    (enabled s .connClosed = true → prompt s .connClosed = true →
      ∀ k ∈ (step s .connClosed).tasks, k.phase ≠ .running ∨ k.signalled = true) := by
  refine ⟨fun ht => by have := (inv2_reach h).i1.g; rw [ht] at this; exact this, ?_⟩
  intro he hp k hk
  by_cases hph : k.phase = .running
  · right
    by_cases hsig : k.signalled = true
    · exact hsig
    · -- a running, unsignalled task belongs to an `Open` slot, and the handler does not leave one
      have hslot := (inv2_step .connClosed (inv2_reach h) he hp).i1.run k hk hph (by simpa using hsig)
      have hs : (step s .connClosed).slot = (handle s.slot .connClosed).1 := rh_slot s .connClosed
      rw [hs] at hslot
      rcases connClosed_leaves s.slot with hl | hl <;> rw [hl] at hslot <;> cases hslot
  · exact .inl hph

/-- Whether the peer is in the handle's `peers` map after the handle has yielded `polled`: the handle inserts the
peer when it yields `opened`, removes it when it yields `closed`, and forwards a notification only for peers in the map. -/
def handleView (polled : List UEv) : Bool :=
  polled.foldl (fun v e => match e with | .opened .. => true | .closed => false | _ => v) false

theorem view_of_grammar (l : List UEv) : ∀ (v b : Bool), l.foldl gstep (some v) = some b →
    l.foldl (fun v e => match e with | .opened .. => true | .closed => false | _ => v) v = b := by
  induction l with
  | nil => intro v b h; simpa using h
  | cons e r ih =>
    intro v b h
    rw [List.foldl_cons] at h ⊢
    cases e <;> cases v <;> simp only [gstep] at h <;>
      first | exact ih _ _ h | (rw [grammar_none] at h; cases h)

/-- Notifications reach the user only between `opened` and `closed`: on a user channel that follows the grammar,
the handle's `peers` map holds the peer exactly while a stream is open. -/
theorem notif_only_while_open (polled : List UEv) (b : Bool) (h : grammar polled = some b) :
    handleView polled = b := view_of_grammar polled false b h

-- ---------------------------------------------------------------- concrete runs (for the examples and witnesses)

/-- Run a list of labels; `okActs` checks the guards along the way. -/
def finalActs (l : List Act) (s : PeerSys) : PeerSys := l.foldl step s

def okActs : List Act → PeerSys → Bool
  | [], _ => true
  | a :: rest, s => enabled s a && okActs rest (step s a)

theorem okActs_reach (l : List Act) : ∀ s, Reach s → okActs l s = true → Reach (finalActs l s) := by
  induction l with
  | nil => intro s hr _; exact hr
  | cons a rest ih =>
    intro s hr h
    simp only [okActs, Bool.and_eq_true] at h
    exact ih _ (.step a hr h.1) h.2

/-- One stream opened through an inbound substream accepted by the user. -/
def openOnce (sid pin pout t : Nat) : List Act :=
  [.subInbound pin, .hsNegotiated .inbound 5 false 9, .validation pin true true sid, .hsNegotiated .inbound 1 false 9,
   .subOpened sid pout, .hsNegotiated .outbound 7 false t]

def happy : List Act := [.connEst true 0] ++ openOnce 0 0 1 0 ++ [.cmdClose, .taskSeesSignal 0, .taskNotice 0, .taskReport 0]

def happyOpen : List Act := [.connEst true 0] ++ openOnce 0 0 1 0

def okActsP : List Act → PeerSys → Bool
  | [], _ => true
  | a :: rest, s => enabled s a && prompt s a && freshAnswer s a && okActsP rest (step s a)

theorem okActsP_reach (l : List Act) : ∀ s, ReachP s → okActsP l s = true → ReachP (finalActs l s) := by
  induction l with
  | nil => intro s hr _; exact hr
  | cons a rest ih =>
    intro s hr h
    simp only [okActsP, Bool.and_eq_true] at h
    exact ih _ (.step a hr h.1.1.1 h.1.1.2 h.1.2) h.2

theorem reachP_of (l : List Act) (h : okActsP l {} = true) : ReachP (finalActs l {}) := okActsP_reach l {} .init h


/-- No reachable state of the restricted system has fired a `debug_assert!(false)`: the ghost log records every
`bug` output of every handler run so far, and it contains none.
Uses `prompt` only (a stale shutdown notice is the way to a `bug`); `freshAnswer` is not needed for it. FULL statement (`∀ s, Reach s → …`) is false: `no_bug_reachable_witness`. -/
theorem no_bug_reachable_partial {s : PeerSys} (h : ReachP s) : UEv.bug ∉ s.log := (inv2_reach h).nb

example : ∃ s, ReachP s ∧ UEv.opened .inbound 7 0 0 ∈ s.log ∧ UEv.closed ∈ s.log ∧ s.log.length = 5 :=
  ⟨_, reachP_of happy (by decide), by decide, by decide, by decide⟩

/-- … and the next step does not fire one either (the same fact, said about handler outputs). -/
theorem no_bug_next_partial {s : PeerSys} (h : ReachP s) (a : Act) (he : enabled s a = true) :
    Out.bug ∉ outsOf s a := by
  rcases hev : evOf s a with _ | ⟨s1, ev⟩
  · simp [outsOf, hev]
  · simp only [outsOf, hev, (evOf_same hev).1]
    exact (handle_move (pre_of (inv2_reach h) he hev)).nobug

example : ∃ s a, ReachP s ∧ enabled s a = true ∧ outsOf s a = [.shutdown 0] :=
  ⟨_, .cmdClose, reachP_of happyOpen (by decide), by decide, by decide⟩

/-- A request to open a stream to a connected peer with no negotiation in progress is answered by exactly one
of opened / open failure.

1. Taken up: in state `Closed` with no live pending substream (`pending_open` is `None`, or names a substream
   that has already failed to open and is no longer in `pending_outbound`) — connected, nothing in progress —
   an open command appends the ghost marker `request` to the user channel (followed at once by `NoConnection` if
   the transport refuses the substream).
2. Safety: on the user channel `request` markers and answers (`opened`, open failure) alternate strictly — no
   answer without a request, no second request before the answer, no second answer (`lfold`, see
   `Proofs/Notif/Env.lean`); an answer is outstanding exactly when the slot says so (`owed`). The ledger counts
   the user's own Reject of the peer's inbound substream as the answer: the code then reports nothing
   (`ValidationResult::Reject` in `on_validation_result`), also when the user's own open request dies with it.
3. Quiescence: once the environment has discharged its obligations — peer connected, no substream request
   unanswered by the transport, no handshake in progress, no validation unanswered, no negotiation timer that
   would change the state — nothing is owed: every request has been answered.

Uses `prompt` only (`freshAnswer` is not needed). FULL statement (over `Reach`) is false:
`open_answered_once_witness`. -/
theorem open_answered_once_partial {s : PeerSys} (h : ReachP s) :
    (∀ pend, s.slot = some (.closed pend) → (∀ x, pend = some x → x ∉ s.pending) → ∀ sd dk ok sid,
      (step s (.cmdOpen sd dk ok sid)).log = s.log ++ [.request] ∨
      (step s (.cmdOpen sd dk ok sid)).log = s.log ++ [.request, .fail .noconn]) ∧
    lfold s.log = some (decide (owed s.slot = 1)) ∧
    (s.connected = true → s.requested = [] → s.hsIn = none → s.hsOut = none → s.validations = [] →
      (handle s.slot .timer).1 = s.slot → owed s.slot = 0) := by
  have hi := inv2_reach h
  refine ⟨?_, ?_, ?_⟩
  · intro pend hs hdead sd dk ok sid
    simp only [step, evOf, post]
    rw [rh_log, hs]
    rcases pend with _ | x
    · cases (ok && s.connected) <;> simp [handle, onOpenSubstream, takesUp, owes, owed, newEvs, tlF]
    · have hx : x ∉ s.pending := hdead x rfl
      cases (ok && s.connected) <;> simp [handle, onOpenSubstream, takesUp, owes, owed, newEvs, tlF, hx]
  · rw [hi.lg]; rcases owed_cases s.slot with h0 | h0 <;> simp [owes, h0]
  · intro hc hrq hin hout hval htimer
    have h1 := hi.c; have h2 := hi.rq; have h3 := hi.ho; have h4 := hi.hi; have h5 := hi.vl; have h6 := hi.wf
    rw [hc] at h1; rw [hrq] at h2; rw [hout] at h3; rw [hin] at h4; rw [hval] at h5
    rcases hsl : s.slot with _ | st
    · rfl
    · rw [hsl] at h1 h2 h3 h4 h5 h6 htimer
      cases st
      case validating out inb dir =>
        cases out
        case closed => simp [owed]
        case init x => simp [pendOf, isClosedSome, slotSid] at h2
        case neg => simp [outNeg] at h3
        case opn hs po =>
          cases inb
          case closed => simp [handle, onTimer] at htimer
          case reading => simp [inbEntry] at h4
          case validating p => have := h5 p (by simp [slotVal]); simp at this
          case sending => simp [inbEntry] at h4
          case opn pi => simp [slotWf] at h6
      case dialing => simp [slotConn] at h1
      case outInit x => simp [pendOf, isClosedSome, slotSid] at h2
      all_goals rfl

/-- The user's own request, the peer's inbound substream, then the transport opens the outbound one: answered by
`opened`; afterwards everything is quiet and nothing is owed. -/
def ownRequest : List Act :=
  [.connEst true 0, .cmdOpen true true true 0, .subInbound 0, .hsNegotiated .inbound 5 false 9,
   .validation 0 true true 1, .hsNegotiated .inbound 1 false 9, .subOpened 0 1, .hsNegotiated .outbound 7 false 0]

/-- The user asks for a stream and then rejects the peer's inbound substream: nothing is reported. -/
def ownReject : List Act :=
  [.connEst true 0, .cmdOpen true true true 0, .subInbound 0, .hsNegotiated .inbound 5 false 9, .validation 0 false true 1]

-- 1: the hypothesis holds after the connection is established; 2 and 3: a request answered by `opened`, all quiet
-- (the hypotheses of 3 hold) and nothing owed; a request whose answer is outstanding, with the transport owing the
-- substream; the Reject path
example : ∃ s, ReachP s ∧ s.slot = some (.closed none) ∧
    (step s (.cmdOpen true true true 0)).log = [.request] ∧ (step s (.cmdOpen true true false 0)).log = [.request, .fail .noconn] :=
  ⟨_, reachP_of [.connEst true 0] (by decide), by decide, by decide, by decide⟩

/-- The repaired path (former finding `dangling-pending-open`): `SubstreamOpenFailure` for the outbound substream
of an accepted stream leaves `Closed{pending_open: Some(0)}` with id 0 dead; the next open request is taken up, a
new substream is requested from the transport, and the transport owes the answer. -/
def lateFailure : List Act :=
  [.connEst true 0, .subInbound 0, .hsNegotiated .inbound 5 false 9, .validation 0 true true 0,
   .hsNegotiated .inbound 1 false 9, .subFailed 0]

theorem open_after_late_failure : ∃ s, ReachP s ∧ s.slot = some (.closed (some 0)) ∧ 0 ∉ s.pending ∧
    (step s (.cmdOpen true true true 1)).log = s.log ++ [.request] ∧
    (step s (.cmdOpen true true true 1)).slot = some (.outInit 1) ∧
    (step s (.cmdOpen true true true 1)).requested = [1] :=
  ⟨_, reachP_of lateFailure (by decide), by decide, by decide, by decide, by decide, by decide⟩

example : ∃ s, ReachP s ∧ s.log = [.request, .validate 5 0, .accepted 0, .opened .outbound 7 0 0] ∧
    lfold s.log = some false ∧ s.connected = true ∧ s.requested = [] ∧ s.hsIn = none ∧ s.hsOut = none ∧
    s.validations = [] ∧ (handle s.slot .timer).1 = s.slot ∧ owed s.slot = 0 :=
  ⟨_, reachP_of ownRequest (by decide), by decide, by decide, by decide, by decide, by decide, by decide, by decide,
    by decide, by decide⟩

example : ∃ s, ReachP s ∧ s.log = [.request] ∧ lfold s.log = some true ∧ owed s.slot = 1 ∧ s.requested = [0] :=
  ⟨_, reachP_of [.connEst true 0, .cmdOpen true true true 0] (by decide), by decide, by decide, by decide, by decide⟩

example : ∃ s, ReachP s ∧ s.log = [.request, .validate 5 0, .rejected 0] ∧ lfold s.log = some false ∧
    s.slot = some (.closed (some 0)) :=
  ⟨_, reachP_of ownReject (by decide), by decide, by decide, by decide⟩

/-- A stream is reported opened only after the user accepted that very inbound substream, or auto-accept applied
to it.

1. On the user channel every `opened` (its last component is the inbound substream the stream runs on) is
   preceded, within its negotiation round — no other `opened`, no open failure and no Reject in between —, by
   the marker `accepted p` or `autoAccepted p` of exactly that substream `p` (`afold`, see
   `Proofs/Notif/Env.lean`).
2. The marker `accepted q` is produced only by the step that delivers the user's Accept given for substream
   `q` (this is where `freshAnswer` is needed: the code applies an answer to whatever substream of that peer is
   under validation).
3. The marker `autoAccepted q` is produced only when the handshake of inbound substream `q` has been read,
   auto-accept is configured, and the user itself has an open request for that peer outstanding.

Uses `prompt` and `freshAnswer`. FULL statement is false: `inbound_after_accept_witness`. -/
theorem inbound_after_accept_partial {s : PeerSys} (h : ReachP s) :
    (∃ c, afold s.log = some c) ∧
    (∀ a q, enabled s a = true → freshAnswer s a = true → Out.accepted q ∈ outsOf s a →
      ∃ ok sid, a = .validation q true ok sid) ∧
    (∀ a q, Out.autoAccepted q ∈ outsOf s a →
      owed s.slot = 1 ∧ s.hsIn = some (q, false) ∧ ∃ hs t, a = .hsNegotiated .inbound hs true t) := by
  have hi := inv2_reach h
  refine ⟨⟨_, hi.ac⟩, ?_, ?_⟩
  · intro a q he hf hq
    rcases hev : evOf s a with _ | ⟨s1, ev⟩
    · simp [outsOf, hev] at hq
    · simp only [outsOf, hev, (evOf_same hev).1] at hq
      obtain ⟨hv, r, rfl⟩ := accepted_pure _ _ _ hq
      cases a
      case hsNegotiated d hs auto t =>
        obtain ⟨-, p, hp, -⟩ := evOf_hsNegotiated hev
        cases hp
      all_goals simp [evOf] at hev
      case validation p acc ok sid =>
        obtain ⟨-, rfl, -⟩ := hev
        unfold slotVal at hv
        split at hv
        · rename_i hsl
          cases hv
          simp only [freshAnswer, hsl, decide_eq_true_eq] at hf
          exact ⟨ok, sid, by rw [hf]⟩
        · cases hv
  · intro a q hq
    rcases hev : evOf s a with _ | ⟨s1, ev⟩
    · simp [outsOf, hev] at hq
    · simp only [outsOf, hev] at hq
      obtain ⟨hb, ho, hs, t, rfl⟩ := auto_pure _ _ _ hq
      cases a
      case hsNegotiated d hs' auto t' =>
        obtain ⟨rfl, p, hp, hd⟩ := evOf_hsNegotiated hev
        cases hp
        obtain ⟨b, hin⟩ := hd
        have h4 := hi.hi
        rw [hin, hb] at h4
        simp at h4
        exact ⟨by simpa [owes] using ho, by rw [hin, h4], _, _, rfl⟩
      all_goals simp [evOf] at hev

-- 1: an `opened` preceded by the acceptance of its inbound substream 0; 2: the step delivering the user's Accept
-- for substream 0 produces `accepted 0`; 3: with auto-accept and an own request outstanding, the handshake of
-- inbound substream 0 produces `autoAccepted 0`
example : ∃ s, ReachP s ∧ s.log = [.validate 5 0, .request, .accepted 0, .opened .inbound 7 0 0] ∧ afold s.log = some none :=
  ⟨_, reachP_of happyOpen (by decide), by decide, by decide⟩

example : ∃ s a, ReachP s ∧ enabled s a = true ∧ freshAnswer s a = true ∧ Out.accepted 0 ∈ outsOf s a :=
  ⟨_, .validation 0 true true 0, reachP_of [.connEst true 0, .subInbound 0, .hsNegotiated .inbound 5 false 9] (by decide),
    by decide, by decide, by decide⟩

example : ∃ s a, ReachP s ∧ enabled s a = true ∧ Out.autoAccepted 0 ∈ outsOf s a :=
  ⟨_, .hsNegotiated .inbound 5 true 9, reachP_of [.connEst true 0, .cmdOpen true true true 0, .subInbound 0] (by decide),
    by decide, by decide⟩


/-- The old task is signalled by the user's close but is not polled (pure scheduling, no stalled `close()`) before a
second stream to the same peer is negotiated and reported: opened, opened. Part 2 of `prompt` excludes exactly
this (finding `late-closed-report`). -/
def lateClosed : List Act :=
  [.connEst true 0] ++ openOnce 0 0 1 0 ++ [.cmdClose] ++ openOnce 1 2 3 1

/-- FULL `grammar_alternation` fails: a reachable state whose user channel is not alternating. -/
theorem grammar_alternation_witness : ∃ s, Reach s ∧ grammar s.log = none := by
  refine ⟨finalActs lateClosed {}, okActs_reach lateClosed {} .init ?_, ?_⟩ <;> decide

/-- The stale shutdown notice (DESIGN §8-j): the task saw the remote close, the user closed the stream and
the remote opened a new inbound substream before the task's notice arrived; the notice resets the new
`Validating` state and the handshake event then hits `debug_assert!(false)`. -/
def staleNotice : List Act :=
  [.connEst true 0] ++ openOnce 0 0 1 0 ++
  [.taskSeesClose 0, .cmdClose, .subInbound 2, .taskNotice 0, .notice, .hsNegotiated .inbound 5 false 9]

/-- FULL `no_bug_reachable` fails. -/
theorem no_bug_reachable_witness : ∃ s, Reach s ∧ UEv.bug ∈ s.log := by
  refine ⟨finalActs staleNotice {}, okActs_reach staleNotice {} .init ?_, ?_⟩ <;> decide

/-- An accepted stream meets a stale shutdown notice: the task of the previous stream saw the remote close, the
user closed that stream, the peer opened a new inbound substream and the user accepted it (taken up: `request`, an
outbound substream requested from the transport, handshake sent); then the old task's notice arrives and resets
`Validating{OutboundInitiated, Open}` to `Closed`; the transport's answer finds nothing to answer for. (An open
*command* cannot be hit this way on the real component: the handle refuses `open_substream` until it has yielded
`NotificationStreamClosed`, which the task reports after its notice. The transition system does not model that
guard of the handle.) -/
def staleRequest : List Act :=
  [.connEst true 0] ++ openOnce 0 0 1 0 ++
  [.taskSeesClose 0, .cmdClose, .subInbound 2, .hsNegotiated .inbound 5 false 9, .validation 2 true true 1,
   .hsNegotiated .inbound 1 false 9, .taskNotice 0, .notice, .taskReport 0, .subFailed 1]

/-- FULL `open_answered_once` fails: everything is quiet and the slot owes nothing, yet the last request on the
user channel has never been answered. -/
theorem open_answered_once_witness : ∃ s, Reach s ∧ s.connected = true ∧ s.requested = [] ∧ s.hsIn = none ∧
    s.hsOut = none ∧ s.validations = [] ∧ s.tasks = [] ∧ s.notices = 0 ∧ (handle s.slot .timer).1 = s.slot ∧
    owed s.slot = 0 ∧ lfold s.log = some true := by
  refine ⟨finalActs staleRequest {}, okActs_reach staleRequest {} .init ?_, ?_⟩ <;> decide

/-- The user's Accept for inbound substream 0 (whose negotiation has failed meanwhile) is applied to inbound
substream 2, which is opened without ever having been accepted. -/
def staleAccept : List Act :=
  [.connEst true 0, .cmdOpen true true true 0, .subInbound 0, .subOpened 0 1, .hsNegotiated .inbound 5 false 9,
   .hsError .outbound, .subInbound 2, .hsNegotiated .inbound 6 false 9, .validation 0 true true 1,
   .hsNegotiated .inbound 1 false 9, .subOpened 1 3, .hsNegotiated .outbound 7 false 0]

/-- FULL `inbound_after_accept` fails: a stream whose inbound substream is pipe 2 is opened although the
validation request for pipe 2 is still unanswered (the only answer the user gave was for pipe 0). -/
theorem inbound_after_accept_witness : ∃ s, Reach s ∧
    UEv.opened .inbound 7 0 2 ∈ s.log ∧ 2 ∈ s.validations ∧ 0 ∉ s.validations := by
  refine ⟨finalActs staleAccept {}, okActs_reach staleAccept {} .init ?_, ?_, ?_, ?_⟩ <;> decide

-- non-vacuity: the hypotheses of the partial theorems are satisfiable on a state with an open stream
example : ∃ s, ReachP s ∧ grammar s.log = some false ∧ UEv.closed ∈ s.log ∧ s.tasks = [] :=
  ⟨_, reachP_of happy (by decide), by decide, by decide, by decide⟩

example : ∃ s, ReachP s ∧ grammar s.log = some true ∧ enabled s .connClosed = true ∧ prompt s .connClosed = true :=
  ⟨_, reachP_of happyOpen (by decide), by decide, by decide, by decide⟩

example : ∃ s pre e post, ReachP s ∧ s.log = pre ++ UEv.fail e :: post :=
  ⟨_, [.request], .rejected, [], reachP_of [.connEst true 0, .cmdOpen true true true 0, .subFailed 0] (by decide), by decide⟩

example : handleView [.opened .inbound 1 0 0] = true ∧ handleView [.opened .inbound 1 0 0, .closed] = false := by decide

/-- A task held across a reconnect: the stream is open, the connection is lost (the task is signalled) and
re-established, the peer opens a new inbound substream and its handshake is read and announced to the user — all
before the executor polls the old task. Then the old task runs (closes quietly, reports `closed`) and the new
negotiation completes. -/
def heldAcrossReconnect : List Act :=
  [.connEst true 0] ++ openOnce 0 0 1 0 ++
  [.connClosed, .connEst true 1, .subInbound 2, .hsNegotiated .inbound 5 false 9,
   .taskSeesSignal 0, .taskNotice 0, .taskReport 0,
   .validation 2 true true 1, .hsNegotiated .inbound 1 false 9, .subOpened 1 3, .hsNegotiated .outbound 7 false 1]

-- the restricted system contains schedules in which a signalled task is not polled while the protocol handles a
-- disconnect, a reconnect and the start of a new negotiation (part 2 of `prompt` is not vacuous), and all the
-- partial theorems speak about them
example : ∃ s, ReachP s ∧ grammar s.log = some true ∧ UEv.closed ∈ s.log ∧ s.slot = some (.opn 1) ∧
    UEv.bug ∉ s.log ∧ lfold s.log = some false :=
  ⟨_, reachP_of heldAcrossReconnect (by decide), by decide, by decide, by decide, by decide, by decide⟩

example : ∃ s, ReachP s ∧ Busy s = true ∧ InClose s = false ∧ s.connected = true ∧
    s.slot = some (.validating .closed (.validating 2) .inbound) :=
  ⟨_, reachP_of (heldAcrossReconnect.take 11) (by decide), by decide, by decide, by decide, by decide⟩

/-! ### The handle's batch commands (`open_substream_batch`, `try_open_substream_batch`, `close_substream_batch`)

`Model/Notif/Handle.lean`: the handle splits the peers it is given into those that have a stream in its view
(`toIgnore`) and the others (`toAdd`, a set), sends ONE command for the latter, and the protocol runs
`on_open_substream` once per peer of the set, in the set's iteration order (`batchOpen`, any order). -/
section Batch
open NotifHandle

/-- **Every peer of a batch gets its own, exactly-one `on_open_substream`, whatever the iteration order of the
set**: a peer named in the call is either already in the handle's view — then it is in `toIgnore` (what
`open_substream_batch` returns as `Err`; `try_open_substream_batch` does not report it) and its world is
untouched — or its world makes exactly the step a single `open_substream` makes, with its own arguments; the
worlds of all other peers are untouched. Duplicates in the call count once. -/
theorem batch_open_answers_each (ms : Multi) (view peers : List Nat) (order : List (Nat × OpenArgs))
    (hset : ∀ p, p ∈ order.map (·.1) ↔ p ∈ toAdd view peers) (hn : (order.map (·.1)).Nodup) :
    (∀ p ∈ peers,
      (p ∈ view ∧ p ∈ toIgnore view peers ∧ getP (batchOpen ms order) p = getP ms p) ∨
      (p ∉ view ∧ ∃ a, (p, a) ∈ order ∧ getP (batchOpen ms order) p = step (getP ms p) a.act)) ∧
    (∀ q, q ∉ peers → getP (batchOpen ms order) q = getP ms q) := by
  refine ⟨fun p hp => ?_, fun q hq => ?_⟩
  · by_cases hv : p ∈ view
    · refine .inl ⟨hv, (mem_toIgnore view peers p).2 ⟨hp, hv⟩, batchOpen_other order ms p ?_⟩
      rw [hset, mem_toAdd]
      exact fun h => h.2 hv
    · have hm : p ∈ order.map (·.1) := (hset p).2 ((mem_toAdd view peers p).2 ⟨hp, hv⟩)
      obtain ⟨⟨p', a⟩, hm', rfl⟩ := List.mem_map.1 hm
      exact .inr ⟨hv, a, hm', batchOpen_each order ms p' a hn hm'⟩
  · refine batchOpen_other order ms q ?_
    rw [hset, mem_toAdd]
    exact fun h => hq h.1

/-- … hence the answer ledger of `open_answered_once_partial` holds for every peer after a batch (each single
step being one the restricted system allows). -/
theorem batch_open_answered_once (ms : Multi) (order : List (Nat × OpenArgs)) (hn : (order.map (·.1)).Nodup)
    (hr : ∀ p, ReachP (getP ms p))
    (he : ∀ x ∈ order, enabled (getP ms x.1) x.2.act = true ∧ prompt (getP ms x.1) x.2.act = true) (p : Nat) :
    lfold (getP (batchOpen ms order) p).log = some (decide (owed (getP (batchOpen ms order) p).slot = 1)) :=
  (open_answered_once_partial (batchOpen_reachP order ms hn hr he p)).2.1

/-- The batch results, exactly as the code computes them: `open_substream_batch` sends the command also when it
returns `Err(to_ignore)`; the `try_` variant returns the peers it did NOT send a command for when the channel is
full and says nothing about the ignored ones; nothing to close ⇒ no command. -/
theorem batch_results (view peers : List Nat) :
    openBatch view peers false = (some (.openSet (toAdd view peers)),
      if (toIgnore view peers).isEmpty then .ok else .ignored (toIgnore view peers)) ∧
    openBatch view peers true = (none, .blocked) ∧
    tryOpenBatch view peers true = (none, .full (toAdd view peers)) ∧
    tryOpenBatch view peers false = (some (.openSet (toAdd view peers)), .ok) ∧
    ((toIgnore view peers).isEmpty = true → ∀ full, closeBatch view peers full = (none, .ok) ∧
      tryCloseBatch view peers full = (none, .none)) := by
  refine ⟨rfl, rfl, rfl, rfl, fun h full => ?_⟩
  simp [closeBatch, tryCloseBatch, h]

def twoPeers : Multi := [(1, finalActs [.connEst true 0] {}), (2, finalActs [.connEst true 0] {})]

-- non-vacuity: peer 1 and 2 connected and idle, peer 2 already in the handle's view: `open_substream_batch([2,1,1,3])`
example : toAdd [2] [2, 1, 1, 3] = [1, 3] ∧ toIgnore [2] [2, 1, 1, 3] = [2] ∧
    (getP (batchOpen twoPeers [(3, ⟨false, false, false, 9⟩), (1, ⟨true, true, true, 7⟩)]) 1).slot = some (.outInit 7) ∧
    (getP (batchOpen twoPeers [(3, ⟨false, false, false, 9⟩), (1, ⟨true, true, true, 7⟩)]) 3).log = [.request, .fail .dialfail] ∧
    (getP (batchOpen twoPeers [(3, ⟨false, false, false, 9⟩), (1, ⟨true, true, true, 7⟩)]) 2).slot = some (.closed none) := by
  decide

example : openBatch [2] [2, 1, 1, 3] false = (some (.openSet [1, 3]), .ignored [2]) ∧
    tryOpenBatch [2] [2, 1] true = (none, .full [1]) ∧ tryCloseBatch [2] [1, 3] false = (none, .none) ∧
    closeBatch [2] [1, 2, 2] false = (some (.closeSet [2]), .ok) := by decide

end Batch

/-! ### The handshake service (`HandshakeService`, negotiation.rs) — `Model/Notif/Handshake.lean` -/
section Handshake
open NotifHs

/-- **Handshake bytes over the limit are refused by both sides, never truncated.**
Reading (either direction): the first unread frame of the substream is handed over unchanged if it is within
the limit, and the entry fails — nothing is handed over, nothing is consumed — if it is above.
Sending (accepted inbound substream or outbound substream): a local handshake above the limit (it is read when
it is to be sent, so `set_handshake` counts up to that moment) makes the entry fail with nothing written.
Whatever the service hands to the protocol, in any poll of any history and for any iteration order of its hash
map, is within the limit. -/
theorem handshake_bounded (maxSize : Nat) (hsLocal : List Nat) :
    (∀ (f : List Nat) (rest : List (List Nat)) (e : Entry), e.state = .readHandshake → e.expired = false →
      e.sub.reset = false → e.sub.toLocal = f :: rest →
      (f.length > maxSize → entryPoll maxSize hsLocal e = (e, .error)) ∧
      (f.length ≤ maxSize →
        entryPoll maxSize hsLocal e = ({ e with sub := { e.sub with toLocal := rest } }, .ready f))) ∧
    (∀ (e : Entry), (e.state = .sendHandshake ∨ e.state = .sinkReady) → e.expired = false →
      hsLocal.length > maxSize →
      (entryPoll maxSize hsLocal e).2 = .error ∧ (entryPoll maxSize hsLocal e).1.sub = e.sub) ∧
    (∀ (s : Service) (order : List Key), ReadyBounded maxSize s →
      ReadyBounded maxSize (poll maxSize hsLocal s order).1 ∧
      ∀ p d hs, (poll maxSize hsLocal s order).2 = some (.negotiated p d hs) → hs.length ≤ maxSize) :=
  ⟨fun f rest e h1 h2 h3 h4 => read_bounded maxSize hsLocal f rest e h1 h2 h3 h4,
   fun e h1 h2 h3 => send_bounded maxSize hsLocal e h1 h2 h3,
   fun s order h => poll_bounded maxSize hsLocal s order h⟩

/-- A handed-over handshake is the empty marker of a sent handshake or exactly the first unread frame of that
entry's substream; every frame an entry writes is the local handshake, within the limit. -/
theorem handshake_exact (maxSize : Nat) (hsLocal : List Nat) (e : Entry) :
    (∀ hs, (entryPoll maxSize hsLocal e).2 = .ready hs →
      hs.length ≤ maxSize ∧ (hs = [] ∨ ∃ rest, e.sub.toLocal = hs :: rest)) ∧
    (entryPoll maxSize hsLocal e).1.key = e.key :=
  entryPoll_spec maxSize hsLocal e

/-- The order inside one `poll_next`: a queued result goes out before any I/O (`pop_event`); an entry whose timer
has fired fails before its substream is looked at; removing an entry (repaired defect) removes the results queued
for it. -/
theorem handshake_poll_order (maxSize : Nat) (hsLocal : List Nat) :
    (∀ (s : Service) (order : List Key) (ev : Event), (popEvent s.entries s.ready).2 = some ev →
      (poll maxSize hsLocal s order).2 = some ev ∧ subsAfter maxSize hsLocal s order = s.entries) ∧
    (∀ e : Entry, e.expired = true → entryPoll maxSize hsLocal e = (e, .error)) ∧
    (∀ (s : Service) (k : Key), ∀ r ∈ (s.remove k).ready, r.1 ≠ k) :=
  ⟨fun s order ev h => ready_first maxSize hsLocal s order ev h,
   fun e h => expired_fails maxSize hsLocal e h,
   fun s k => remove_purges s k⟩

/-- The defect that was repaired (`fix: notification handshake service drops queued results of removed
substreams`): the peer's inbound handshake `[7]` is read and queued in the same poll in which its outbound
substream fails; the protocol removes both entries; with the OLD removal the queued result survives (the empty
service is not polled) and the peer's NEXT inbound substream — on which nothing has arrived yet — is handed out
at once with the old handshake. With the repaired removal the new substream stays pending. -/
def staleIn : Entry := { peer := 1, dir := .inbound, state := .readHandshake, sub := { toLocal := [[7]] } }
def staleOut : Entry := { peer := 1, dir := .outbound, state := .readHandshake, sub := { reset := true } }
def staleSvc : Service := (poll 64 [1] { entries := [staleIn, staleOut] } [(1, .inbound), (1, .outbound)]).1
def freshIn : Entry := { peer := 1, dir := .inbound, state := .readHandshake }

theorem handshake_stale_result_witness :
    (poll 64 [1] { entries := [staleIn, staleOut] } [(1, .inbound), (1, .outbound)]).2 = some (.error 1 .outbound) ∧
    (poll 64 [1] (((staleSvc.removeOld (1, .outbound)).removeOld (1, .inbound)).insert freshIn) [(1, .inbound)]).2
      = some (.negotiated 1 .inbound [7]) ∧
    (poll 64 [1] (((staleSvc.remove (1, .outbound)).remove (1, .inbound)).insert freshIn) [(1, .inbound)]).2 = none := by
  decide

-- non-vacuity
example : entryPoll 4 [1, 2] { peer := 1, dir := .outbound, state := .sendHandshake, sub := { toLocal := [[9, 9, 9, 9, 9]] } }
    = ({ peer := 1, dir := .outbound, state := .readHandshake, sub := { toLocal := [[9, 9, 9, 9, 9]], toRemote := [[1, 2]] } }, .error) := by
  decide
example : (entryPoll 4 [1, 2, 3, 4, 5] { peer := 1, dir := .inbound, state := .sendHandshake }).2 = .error ∧
    (entryPoll 5 [1, 2, 3, 4, 5] { peer := 1, dir := .inbound, state := .sendHandshake }).2 = .ready [] := by decide
example : ReadyBounded 4 { entries := [staleIn], ready := [((1, .inbound), [1, 2, 3, 4])] } := by
  intro r hr; simp at hr; subst hr; decide
example : (popEvent [staleIn] [((2, .inbound), [5]), ((1, .inbound), [6])]).2 = some (.negotiated 1 .inbound [6]) ∧
    (entryPoll 4 [] { staleIn with expired := true }).2 = .error := by decide

end Handshake

#print axioms handler_total
#print axioms bug_table
#print axioms grammar_alternation_partial
#print axioms grammar_alternation_witness
#print axioms no_failure_while_open_partial
#print axioms open_answered_once_witness
#print axioms inbound_after_accept_witness
#print axioms closed_on_disconnect
#print axioms no_bug_reachable_witness
#print axioms no_bug_reachable_partial
#print axioms no_bug_next_partial
#print axioms open_answered_once_partial
#print axioms open_after_late_failure
#print axioms inbound_after_accept_partial
#print axioms notif_only_while_open
#print axioms batch_open_answers_each
#print axioms batch_open_answered_once
#print axioms batch_results
#print axioms handshake_bounded
#print axioms handshake_exact
#print axioms handshake_poll_order
#print axioms handshake_stale_result_witness

end Litep2pVerif.Notif

/-! ## Wiring — what `Litep2p::new` hands over (coverage round `node`)

Over the wiring model `Model/Node/Wiring.lean` (`Node.new c` = `Litep2p::new(ConfigBuilder…build())`), which is tied to
the real `ConfigBuilder`/`Litep2p::new` by the `node` area: the adapter prints the ACTUAL registration record of a node built
through the public API, the driver prints the model's, compared field by field on every run. -/
namespace Litep2pVerif.Props.C11.Wiring
open Litep2pVerif Litep2pVerif.Node

/-- A configuration with every kind of protocol (used by the non-vacuity examples). -/
def sample : Config :=
  { keepAliveMs := some 600, limits := some (some 2, none), listen := [1, 2],
    notif := [⟨"/n/a", 1024, "0102", ["/n/old"], 'a', some 64, some 64, none⟩],
    rr := [⟨"/r/a", 256, 800, ["/r/old"], none⟩, ⟨"/r/b", 64, 800, [], some 1⟩],
    user := [⟨"/u/a", .varint none⟩], kad := [⟨[], none, []⟩], ping := some 1, identify := true, bitswap := true,
    known := some [(0, [.listen 0, .closed, .quic, .wrongPeer 0, .noPeer 0])] }

/-- Every configured notification protocol is registered under its own name with its OWN codec and maximum notification
size, its own fallback names, as a keep-alive protocol — and no other registration bears that name. -/
theorem notification_registered_with_own_codec_and_size (c : Config) (w : Wired) (h : Node.new c = .ok w) :
    ∀ p ∈ (build c).notif, ∃ r ∈ w.regs, r.name = p.name ∧ r.codec = .varint (some p.max) ∧ r.fallback = p.fallback ∧
      r.keepAlive = true ∧ ∀ r' ∈ w.regs, r'.name = p.name → r' = r := by
  intro p hp
  obtain ⟨hreg, _, rfl⟩ := wire_ok h
  refine ⟨_, notif_mem_registrations _ hp, rfl, rfl, rfl, rfl, ?_⟩
  exact fun r' hr' he => unique_of_registered hreg (notif_mem_registrations _ hp) hr' he

example : ∃ w, Node.new sample = .ok w ∧
    (w.regs.filter (fun r => r.name = "/n/a")).map (fun r => (r.codec, r.fallback)) = [(.varint (some 1024), ["/n/old"])] :=
  ⟨_, rfl, by decide⟩

/-- Every configured notification protocol object is constructed with its OWN channel sizes (the crate defaults when the
setters were not called), auto-accept and dialing switches and handshake bytes. -/
theorem notification_config_reaches_protocol (c : Config) :
    ∀ p ∈ (build c).notif,
      Note.notif p.name (p.sync.getD Consts.NODE_NOTIF_SYNC_CHANNEL_SIZE) (p.async.getD Consts.NODE_NOTIF_ASYNC_CHANNEL_SIZE)
        (p.mode == 'a') (p.dial.getD true) p.handshake ∈ notes (build c) :=
  fun _ hp => notes_notif_mem _ hp

example : Note.notif "/n/a" 64 64 true true "0102" ∈ notes (build sample) := by decide

end Litep2pVerif.Props.C11.Wiring

#print axioms Litep2pVerif.Props.C11.Wiring.notification_registered_with_own_codec_and_size
#print axioms Litep2pVerif.Props.C11.Wiring.notification_config_reaches_protocol
