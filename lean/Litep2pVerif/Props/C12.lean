import Litep2pVerif.Model.Notif.Channel
import Litep2pVerif.Proofs.Common.List
/-!
C12 — notifications arrive in order, without loss or duplication, while open.
Model: `Model/Notif/Channel.lean`. "Every schedule" = every sequence of the model's operations (`Op`),
including every choice of the reader between the two per-mode buffers and every read size.
-/
namespace Litep2pVerif.Chan

/-- Operations of one open period. -/
inductive Op
  | sync (m : Msg) | async (m : Msg) | letIn (fuel : Nat) | poll (picks : List Nat) | read (n : Nat) (frames : List (Nat × Nat))
  | rsend (m : Msg) | rclose | close | user

-- `.letIn` under `alive`: once the task has ended no waiting sender is let in (the driver answers them `noconn`, Driver/C12.lean)
def apply (c : Chan) : Op → Chan
  | .sync m => (syncSend c m).1
  | .async m => (asyncSend c m).1
  | .letIn f => if c.alive then (letIn c f).1 else c
  | .poll picks => (taskPoll c picks).1
  | .read n fr => (remoteRead c n fr).getD c
  | .rsend m => { c with inQ := c.inQ ++ [m] }
  | .rclose => { c with inClosed := true }
  | .close => { c with signalled := true }
  | .user => (pollHandle c).1

/-- The parked notification (`next_notification`), by the queue it was taken from. -/
def parkS : Option (Bool × Msg) → List Msg | some (true, m) => [m] | _ => []
def parkA : Option (Bool × Msg) → List Msg | some (false, m) => [m] | _ => []

/-- Ledger of one mode: what the remote has read, what the task handed to the substream, what it holds
parked, what is queued — together (`led`) exactly the accepted notifications while the task lives, a prefix of them
afterwards. -/
def Led (alive : Bool) (led acc : List Msg) : Prop := led <+: acc ∧ (alive = true → led = acc)

theorem Led.refl {alive : Bool} {l : List Msg} : Led alive l l := ⟨List.prefix_rfl, fun _ => rfl⟩

theorem Led.push {alive : Bool} {l acc : List Msg} (h : Led alive l acc) (m : Msg) (ha : alive = true) :
    Led alive (l ++ [m]) (acc ++ [m]) := by
  rw [h.2 ha]; exact .refl

theorem Led.dead {alive : Bool} {l l' acc : List Msg} (h : Led alive l acc) (hl : l' <+: l) : Led false l' acc :=
  ⟨hl.trans h.1, nofun⟩

def ledS (c : Chan) : List Msg := c.delS ++ c.sBuf ++ parkS c.parked ++ c.syncQ
def ledA (c : Chan) : List Msg := c.delA ++ c.aBuf ++ parkA c.parked ++ c.asyncQ

/-- A definition, not a structure: an operation that touches no field of the ledgers keeps it by unfolding. -/
def Inv (c : Chan) : Prop := Led c.alive (ledS c) c.accS ∧ Led c.alive (ledA c) c.accA

/-- `max m.size 3`: a payload carries a tag byte and a two-byte sequence number for the oracle, so it has at least three
bytes whatever size was asked for (`payload` in the adapter `src/verif/c12.rs`, `Msg.bytes` in the model). -/
def sizesOk (c : Chan) : Prop := ∀ m ∈ c.notifQ, max m.size 3 ≤ c.cfg.maxSize

/-- What the senders, the connection task, the remote side and the handle can do to a channel (every operation but
`reopen`). -/
structure Later (c c' : Chan) : Prop where
  gen : c'.gen = c.gen
  alive : c.alive = false → c'.alive = false
  inv : Inv c → Inv c'
  sizes : sizesOk c → sizesOk c'

theorem Later.refl {c : Chan} : Later c c := ⟨rfl, id, id, id⟩

theorem Later.trans {a b c : Chan} (h1 : Later a b) (h2 : Later b c) : Later a c :=
  ⟨h2.gen.trans h1.gen, fun h => h2.alive (h1.alive h), fun h => h2.inv (h1.inv h),
    fun h => h2.sizes (h1.sizes h)⟩

theorem letIn_later (f : Nat) : ∀ c : Chan, c.alive = true → Later c (letIn c f).1 := by
  induction f with
  | zero => exact fun c _ => .refl
  | succ n ih =>
    intro c ha
    simp only [letIn]
    split
    · exact .refl
    · split
      · rename_i m _ _ _
        refine .trans ?_ (ih _ ha)
        exact ⟨rfl, id, fun h => ⟨h.1, by simpa [ledA] using h.2.push m ha⟩, id⟩
      · exact .refl

/-- Reading moves the head of a per-mode buffer to what the remote has read: the ledger is the same list. -/
theorem remoteRead_later : ∀ (fr : List (Nat × Nat)) (c : Chan) (n : Nat) (c' : Chan), remoteRead c n fr = some c' →
    Later c c' := by
  intro fr
  induction fr with
  | nil =>
    intro c n c' hr
    simp only [remoteRead] at hr
    split at hr
    · cases hr; exact ⟨rfl, id, id, id⟩
    · cases hr
  | cons x rest ih =>
    intro c n c' hr
    obtain ⟨mode, seq⟩ := x
    simp only [remoteRead] at hr
    split at hr
    · split at hr
      · split at hr
        · rename_i m tl hb _
          refine .trans ?_ (ih _ _ _ hr)
          exact ⟨rfl, id, fun h => ⟨by simpa [ledS, hb] using h.1, h.2⟩, id⟩
        · cases hr
      · cases hr
    · split at hr
      · split at hr
        · rename_i m tl hb _
          refine .trans ?_ (ih _ _ _ hr)
          exact ⟨rfl, id, fun h => ⟨h.1, by simpa [ledA, hb] using h.2⟩, id⟩
        · cases hr
      · cases hr

theorem closeTask_later (c : Chan) : Later c (closeTask c) :=
  ⟨rfl, fun _ => rfl, fun h => ⟨h.1.dead (by simp [ledS, closeTask, parkS]), h.2.dead (by simp [ledA, closeTask, parkA])⟩, id⟩

theorem flush_later (c : Chan) : Later c (flush c) := ⟨rfl, id, id, id⟩

/-- The inbound half moves a frame into the shared channel only if it is within the maximum. -/
theorem readOne_later (c : Chan) : Later c (readOne c).1 := by
  unfold readOne
  split
  · exact .refl
  · split
    · exact .refl
    · split
      · exact ⟨rfl, id, id, id⟩
      · rename_i m rest _ hsz
        refine ⟨rfl, id, id, fun hf x hx => ?_⟩
        rcases List.mem_append.1 hx with hx | hx
        · exact hf x hx
        · rw [List.mem_singleton.1 hx]
          exact Nat.le_of_not_lt hsz

/-- For the ledgers, taking the next notification is parking it. -/
theorem nextNotif_later {c c1 : Chan} {picks picks1 : List Nat} {p : Bool × Msg}
    (h : nextNotif c picks = some (p, c1, picks1)) : c1.parked = none ∧ Later c { c1 with parked := some p } := by
  unfold nextNotif at h
  split at h
  · rename_i q hq
    cases h
    exact ⟨rfl, rfl, id, by simp [Inv, ledS, ledA, hq], id⟩
  · rename_i hq
    split at h
    · cases h
    · cases h; exact ⟨hq, rfl, id, by simp [Inv, ledS, ledA, parkS, parkA, *], id⟩
    · cases h; exact ⟨hq, rfl, id, by simp [Inv, ledS, ledA, parkS, parkA, *], id⟩
    · split at h <;> cases h <;> exact ⟨hq, rfl, id, by simp [Inv, ledS, ledA, parkS, parkA, *], id⟩

theorem pollReady_cases (c : Chan) : (pollReady c).1 = c ∨ (pollReady c).1 = flush c := by
  unfold pollReady
  split
  · exact .inr rfl
  · exact .inl rfl

/-- `poll_ready` at most flushes, which no field of the ledgers sees. Stated with any `q` parked on both sides, to follow
`nextNotif_later`, which has the notification it took parked. -/
theorem pollReady_later (c : Chan) (q : Option (Bool × Msg)) :
    (pollReady c).1.parked = c.parked ∧ Later { c with parked := q } { (pollReady c).1 with parked := q } := by
  rcases pollReady_cases c with e | e <;> rw [e] <;> exact ⟨rfl, rfl, id, id, id⟩

theorem pushOut_later {c : Chan} {p : Bool × Msg} (hp : c.parked = none) :
    Later { c with parked := some p } (pushOut c p) := by
  obtain ⟨b, m⟩ := p
  cases b <;> exact ⟨rfl, id, fun h => by simpa [Inv, pushOut, ledS, ledA, parkS, parkA, hp] using h, id⟩

theorem outLoop_later (f : Nat) : ∀ (c : Chan) (picks : List Nat), Later c (outLoop c picks f).1 := by
  induction f with
  | zero => exact fun c picks => .refl
  | succ n ih =>
    intro c picks
    simp only [outLoop]
    split
    · exact .refl
    · rename_i p c1 picks1 hn
      obtain ⟨hp, h1⟩ := nextNotif_later hn
      obtain ⟨hq, h2⟩ := pollReady_later c1 (some p)
      split
      · split
        · -- `start_send` refuses: the connection closes; `closeTask` clears `parked`, so the notification taken is dropped
          exact (h1.trans h2).trans (closeTask_later _)
        · exact (h1.trans h2).trans ((pushOut_later (hq.trans hp)).trans (ih _ picks1))
      · exact h1.trans h2

theorem pollNext_later (c : Chan) (picks : List Nat) : Later c (pollNext c picks).1 := by
  have ho := outLoop_later (c.syncQ.length + c.asyncQ.length + 1) c picks
  unfold pollNext
  -- the result of the outbound loop occurs six times in `pollNext`: name it before splitting
  generalize outLoop c picks (c.syncQ.length + c.asyncQ.length + 1) = o at ho ⊢
  split
  · exact ho
  · exact ho.trans ((flush_later _).trans (readOne_later _))

theorem taskLoop_later (f : Nat) : ∀ (c : Chan) (picks : List Nat), Later c (taskLoop c picks f).1 := by
  induction f with
  | zero => exact fun c picks => .refl
  | succ n ih =>
    intro c picks
    have hp := pollNext_later c picks
    simp only [taskLoop]
    split
    · exact hp
    · split
      · exact hp.trans (closeTask_later _)
      · exact hp
    · exact hp.trans (ih _ _)

theorem taskPoll_later (c : Chan) (picks : List Nat) : Later c (taskPoll c picks).1 := by
  unfold taskPoll
  split
  · exact .refl
  · split
    · exact closeTask_later c
    · exact taskLoop_later 4096 c picks

theorem apply_later (c : Chan) (op : Op) : Later c (apply c op) := by
  cases op with
  | sync m =>
    simp only [apply, syncSend]
    split
    · exact .refl
    · split
      · exact .refl
      · rename_i hal
        have hal : c.alive = true := by simp at hal; exact hal.1
        split
        · exact ⟨rfl, id, id, id⟩
        · exact ⟨rfl, id, fun h => ⟨by simpa [ledS] using h.1.push m hal, h.2⟩, id⟩
  | async m =>
    simp only [apply, asyncSend]
    split
    · exact .refl
    · split
      · exact .refl
      · rename_i hal
        have hal : c.alive = true := by simp at hal; exact hal.1
        split
        · exact ⟨rfl, id, fun h => ⟨h.1, by simpa [ledA] using h.2.push m hal⟩, id⟩
        · exact ⟨rfl, id, id, id⟩
  | letIn f =>
    simp only [apply]
    split
    · rename_i ha; exact letIn_later f c ha
    · exact .refl
  | poll picks => exact taskPoll_later c picks
  | read n fr =>
    simp only [apply]
    cases hr : remoteRead c n fr with
    | none => exact .refl
    | some c' => exact remoteRead_later fr c n c' hr
  | rsend _ | rclose | close => exact ⟨rfl, id, id, id⟩
  | user => exact ⟨rfl, id, id, fun _ => nofun⟩

inductive Reach (c0 : Chan) : Chan → Prop
  | init : Reach c0 (reopen c0)
  | step {c : Chan} (op : Op) : Reach c0 c → Reach c0 (apply c op)

theorem reach_inv {c0 c : Chan} (h : Reach c0 c) : Inv c := by
  induction h with
  | init => exact ⟨.refl, .refl⟩
  | step op _ ih => exact (apply_later _ op).inv ih

/-- For each sending mode and every schedule, what the remote has read is a prefix of the notifications
accepted for sending in this open period, in order. -/
theorem per_mode_prefix {c0 c : Chan} (h : Reach c0 c) : c.delS <+: c.accS ∧ c.delA <+: c.accA := by
  have i := reach_inv h
  exact ⟨.trans (by simp [ledS]) i.1.1, .trans (by simp [ledA]) i.2.1⟩

/-- … hence delivered at most once (accepted sequence numbers are distinct). -/
theorem at_most_once {c0 c : Chan} (h : Reach c0 c) (hs : c.accS.Nodup) (ha : c.accA.Nodup) :
    c.delS.Nodup ∧ c.delA.Nodup :=
  ⟨hs.sublist (per_mode_prefix h).1.sublist, ha.sublist (per_mode_prefix h).2.sublist⟩

/-- … and without gaps: the k-th notification read is the k-th accepted one. -/
theorem no_gap_within_open_period {c0 c : Chan} (h : Reach c0 c) (k : Nat) (m : Msg) :
    (c.delS[k]? = some m → c.accS[k]? = some m) ∧ (c.delA[k]? = some m → c.accA[k]? = some m) :=
  ⟨getElem?_of_prefix (per_mode_prefix h).1, getElem?_of_prefix (per_mode_prefix h).2⟩

/-- Nothing is lost while the stream is open: as long as the task lives, what the remote has read, what the task
handed to the substream, the one notification it keeps parked under back-pressure and what is still queued are —
in this order, per mode — exactly the accepted notifications, for every schedule and every choice of `select!`.
Hence once queues, parked slot and substream are empty, the remote has read exactly what was accepted. -/
theorem no_loss_while_open {c0 c : Chan} (h : Reach c0 c) (ha : c.alive = true) :
    (c.delS ++ c.sBuf ++ parkS c.parked ++ c.syncQ = c.accS ∧ c.delA ++ c.aBuf ++ parkA c.parked ++ c.asyncQ = c.accA) ∧
    (c.sBuf = [] → c.aBuf = [] → c.parked = none → c.syncQ = [] → c.asyncQ = [] → c.delS = c.accS ∧ c.delA = c.accA) := by
  have i := reach_inv h
  exact ⟨⟨i.1.2 ha, i.2.2 ha⟩, fun h1 h2 h3 h4 h5 =>
    ⟨by simpa [ledS, parkS, h1, h3, h4] using i.1.2 ha, by simpa [ledA, parkA, h2, h3, h5] using i.2.2 ha⟩⟩

/-- The synchronous send is a single non-blocking step: ok | clogged | no-connection; a refused
notification changes no queue; the queue bound is kept; `ForceClose` is sent only on the first clog. -/
theorem sync_never_blocks (c : Chan) (m : Msg) :
    ((syncSend c m).2.1 = .ok ∨ (syncSend c m).2.1 = .clogged ∨ (syncSend c m).2.1 = .noconn) ∧
    ((syncSend c m).2.1 ≠ .ok → (syncSend c m).1.syncQ = c.syncQ ∧ (syncSend c m).1.accS = c.accS) ∧
    (c.syncQ.length ≤ c.cfg.syncCap → (syncSend c m).1.syncQ.length ≤ c.cfg.syncCap) ∧
    ((syncSend c m).2.2 = true → c.clogged = false ∧ (syncSend c m).1.clogged = true) := by
  unfold syncSend
  split
  · simp
  · split
    · simp
    · split
      · simp
      · rename_i hlt
        simp at hlt
        simp; omega

theorem closeTask_notifQ (c : Chan) : (closeTask c).notifQ = c.notifQ ∧ (closeTask c).cfg = c.cfg := ⟨rfl, rfl⟩

/-- A frame larger than the configured maximum is never moved into the shared inbound channel (nor,
therefore, yielded to the user): a poll of the task, whatever it sends, parks or reads, keeps every
notification in that channel within the maximum. -/
theorem oversize_not_delivered (c : Chan) (picks : List Nat)
    (h : ∀ m ∈ c.notifQ, max m.size 3 ≤ c.cfg.maxSize) :
    ∀ m ∈ (taskPoll c picks).1.notifQ, max m.size 3 ≤ (taskPoll c picks).1.cfg.maxSize :=
  (taskPoll_later c picks).sizes h

def demoCfg : Cfg := { syncCap := 2, asyncCap := 1, notifCap := 2, pipeCap := 16, maxSize := 32 }
def demo : Chan := [Op.user, .sync ⟨0, 1, 5⟩, .sync ⟨0, 2, 5⟩, .async ⟨1, 1, 5⟩, .poll [], .read 12 [(0, 1), (1, 1)]].foldl apply (reopen { cfg := demoCfg })

example : demo.delS = [⟨0, 1, 5⟩] ∧ demo.delA = [⟨1, 1, 5⟩] ∧ demo.accS.length = 2 := by decide
example : (syncSend { cfg := demoCfg, viewHas := true, alive := true, syncQ := [⟨0, 1, 5⟩, ⟨0, 2, 5⟩] } ⟨0, 3, 5⟩).2 = (.clogged, true) := by decide
example : (taskPoll { cfg := demoCfg, alive := true, inQ := [⟨2, 1, 4⟩, ⟨2, 2, 40⟩, ⟨2, 3, 4⟩] } []).1.notifQ = [⟨2, 1, 4⟩] ∧
    (taskPoll { cfg := demoCfg, alive := true, inQ := [⟨2, 1, 4⟩, ⟨2, 2, 40⟩, ⟨2, 3, 4⟩] } []).2 = some true := by decide

/-- Back-pressure (boundary 10 bytes, pipe of 4): the task sends a1 and s1, parks s2; the remote reads 4 bytes. -/
def bpCfg : Cfg := { syncCap := 2, asyncCap := 1, notifCap := 2, pipeCap := 4, maxSize := 32, boundary := 10 }
def bpParked : Chan := [Op.user, .sync ⟨0, 1, 5⟩, .sync ⟨0, 2, 5⟩, .async ⟨1, 1, 5⟩, .poll [1, 0], .read 4 []].foldl apply
  (reopen { cfg := bpCfg })
def bpDrained : Chan := [Op.poll [], .read 4 [(1, 1)], .poll [], .read 4 [(0, 1)], .poll [], .read 4 [], .poll [],
  .read 2 [(0, 2)]].foldl apply bpParked

example : bpParked.alive = true ∧ bpParked.parked = some (true, ⟨0, 2, 5⟩) ∧ bpParked.sBuf = [⟨0, 1, 5⟩] ∧
    bpParked.aBuf = [⟨1, 1, 5⟩] ∧ bpParked.sinkBytes = 8 ∧ bpParked.accS.length = 2 ∧ bpParked.delS = [] := by decide
example : bpDrained.alive = true ∧ bpDrained.sBuf = [] ∧ bpDrained.aBuf = [] ∧ bpDrained.parked = none ∧
    bpDrained.syncQ = [] ∧ bpDrained.asyncQ = [] ∧ bpDrained.delS = [⟨0, 1, 5⟩, ⟨0, 2, 5⟩] ∧ bpDrained.delA = [⟨1, 1, 5⟩] := by
  decide

/-! ### Sink clones (`NotificationHandle::notification_sink`, `NotificationSink::{send_sync,send_async}_notification`)

A clone is tied to the queues of ONE stream (`g` = its stream number). `Dead g c`: that stream's task has ended
(`close_connection`: the user is sent `NotificationStreamClosed` and the queue receivers are gone) or a later
stream has replaced it. -/

def Dead (g : Nat) (c : Chan) : Prop := g < c.gen ∨ (g = c.gen ∧ c.alive = false)

/-- Everything that can happen to the channel: the operations of `Op`, sends through any sink clone, the handle's
own async send polled once, a new stream. -/
inductive OpX
  | op (o : Op) | reopen | ssend (g : Nat) (m : Msg) | sasend (g : Nat) (m : Msg) | hasync (m : Msg)

def applyX (c : Chan) : OpX → Chan
  | .op o => apply c o
  | .reopen => reopen c
  | .ssend g m => (sinkSync c g m).1
  | .sasend g m => (sinkAsync c g m).1
  | .hasync m => (asyncOnce c m).1

theorem Later.dead {c c' : Chan} (h : Later c c') {g : Nat} (hd : Dead g c) : Dead g c' := by
  rcases hd with hd | ⟨hg, ha⟩
  · exact .inl (h.gen ▸ hd)
  · exact .inr ⟨hg.trans h.gen.symm, h.alive ha⟩

/-- The stream number never decreases and only `reopen` (a NEW number) makes a task. -/
theorem dead_stays (g : Nat) (c : Chan) (x : OpX) (h : Dead g c) : Dead g (applyX c x) := by
  cases x with
  | op o => exact (apply_later c o).dead h
  | reopen =>
    have : g ≤ c.gen := by rcases h with h | ⟨h, _⟩ <;> omega
    exact .inl (Nat.lt_succ_of_le this)
  -- a send returns the channel as it is or with longer queues and ledgers
  | ssend _ m | sasend _ m | hasync m =>
    simp only [applyX, sinkSync, sinkAsync, asyncOnce]
    (repeat' split) <;> exact h

theorem dead_stays_all (g : Nat) (ops : List OpX) (c : Chan) (h : Dead g c) : Dead g (ops.foldl applyX c) :=
  List.foldlRecOn (motive := Dead g) ops applyX h fun c hc x _ => dead_stays g c x hc

theorem dead_sink_fails (c : Chan) (g : Nat) (m : Msg) (h : Dead g c) :
    sinkSync c g m = (c, .noconn) ∧ sinkAsync c g m = (c, .noconn) := by
  have : (!c.alive || g != c.gen) = true := by
    rcases h with h | ⟨_, h⟩
    · simp [Nat.ne_of_lt h]
    · simp [h]
  simp [sinkSync, sinkAsync, this]

/-- **A `NotificationSink` obtained before the close never delivers after the user was sent
`NotificationStreamClosed`.** `closeTask` — `close_connection`, the only place that reports `closed` — leaves the
stream dead (`g ≤ c.gen`: the sink of the current or of an earlier stream). From then on, whatever else happens
(`ops`, a new stream to the same peer included), a send through a clone of that sink answers `NoConnection` (sync) /
`PeerDoesntExist` (async) and changes nothing, hence nothing of it can ever be delivered. -/
theorem sink_send_after_close_fails (c : Chan) (g : Nat) (hg : g ≤ c.gen) (ops : List OpX) (m : Msg) :
    (closeTask c).evQ = c.evQ ++ ["closed"] ∧
    sinkSync (ops.foldl applyX (closeTask c)) g m = (ops.foldl applyX (closeTask c), .noconn) ∧
    sinkAsync (ops.foldl applyX (closeTask c)) g m = (ops.foldl applyX (closeTask c), .noconn) := by
  have hd : Dead g (closeTask c) := (Nat.lt_or_eq_of_le hg).imp_right fun h => ⟨h, rfl⟩
  exact ⟨rfl, dead_sink_fails _ g m (dead_stays_all g ops _ hd)⟩

/-- While the stream lives a clone behaves like the sink in the handle, minus the handle's bookkeeping: full sync
queue ⇒ `ChannelClogged` and nothing else (no `ForceClose`, no `clogged` mark); the handle's async send polled once
and dropped leaves no trace when it would have had to wait. -/
theorem sink_clone_live (c : Chan) (m : Msg) (ha : c.alive = true) :
    (c.syncQ.length ≥ c.cfg.syncCap → sinkSync c c.gen m = (c, .clogged)) ∧
    (c.syncQ.length < c.cfg.syncCap →
      sinkSync c c.gen m = ({ c with syncQ := c.syncQ ++ [m], accS := c.accS ++ [m] }, .ok)) ∧
    ((asyncOnce c m).2 = .blocked → (asyncOnce c m).1 = c) := by
  refine ⟨fun h => ?_, fun h => ?_, fun h => ?_⟩
  · simp [sinkSync, ha, h]
  · have : ¬ c.syncQ.length ≥ c.cfg.syncCap := by omega
    simp [sinkSync, ha, this]
  · unfold asyncOnce at h ⊢
    split at h
    · cases h
    · split at h
      · cases h
      · split at h
        · cases h
        · rename_i h1 h2 h3
          simp [h1, h2, h3]

-- non-vacuity: a sink taken from the open stream (number 1) works; after the task has closed it answers
-- NoConnection, also when a new stream (number 2) is open and the handle's own sink works again
def sinkDemo : Chan := [OpX.op .user, .ssend 1 ⟨0, 1, 5⟩, .op .close, .op (.poll [])].foldl applyX (reopen { cfg := demoCfg })
example : getSink ((pollHandle (reopen { cfg := demoCfg })).1) = some 1 ∧ sinkDemo.accS = [⟨0, 1, 5⟩] ∧
    Dead 1 sinkDemo ∧ (sinkSync sinkDemo 1 ⟨0, 2, 5⟩).2 = .noconn ∧
    (sinkSync ([OpX.reopen, .op .user].foldl applyX sinkDemo) 1 ⟨0, 2, 5⟩).2 = .noconn ∧
    (sinkSync ([OpX.reopen, .op .user].foldl applyX sinkDemo) 2 ⟨0, 2, 5⟩).2 = .ok ∧
    (syncSend ([OpX.reopen, .op .user].foldl applyX sinkDemo) ⟨0, 2, 5⟩).2.1 = .ok := by
  refine ⟨by decide, by decide, .inr ⟨by decide, by decide⟩, by decide, by decide, by decide, by decide⟩
example : (asyncOnce { cfg := demoCfg, viewHas := true, alive := true, asyncQ := [⟨1, 1, 5⟩] } ⟨1, 2, 5⟩).2 = .blocked := by decide

#print axioms per_mode_prefix
#print axioms at_most_once
#print axioms no_gap_within_open_period
#print axioms no_loss_while_open
#print axioms sync_never_blocks
#print axioms oversize_not_delivered

#print axioms sink_send_after_close_fails
#print axioms sink_clone_live

end Litep2pVerif.Chan
