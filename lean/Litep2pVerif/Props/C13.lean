import Litep2pVerif.Proofs.ReqResp.Env
import Litep2pVerif.Proofs.Node.Wiring
import Litep2pVerif.Proofs.ReqResp.Handle
import Litep2pVerif.Generated.Consts
/-!
# C13 — Every request gets exactly one terminal outcome with the matching payload

Property theorems only (model: `Model/ReqResp/Ledger.lean`, lemmas: `Proofs/ReqResp/*.lean`).
`Reach m s`: `s` is reachable from the initial state (inbound limit `m`) by any interleaving of user
commands, transport events and future completions allowed by `Allowed` (fresh substream ids,
substream events name the right peer, only existing futures complete, `Canceled` only after the
cancel channel fired, a response only if the responder wrote it on that substream).
Ghost history components of the state: `issued` (requests handed to the protocol), `opened`
(substream id ↦ request, one entry per successful `open_substream`), `sentOn` (substreams on which a
request future was started), `written` (the payload that future writes), `wire` (what the responder wrote on a substream), `log` (events).

`ReachE m e` (`Model/ReqResp/Env.lean`): the same step relation with an observer of what the transport
manager owes: `e.dialsOwed` lists the peers for which the protocol's `dial` call was answered `Ok` and
to which neither `ConnectionEstablished` nor `DialFailure` has been delivered since. The answer of
every `dial` call is an arbitrary input (`Ok`, `AlreadyConnected`, `TriedToDialSelf`,
`NoAddressAvailable`, `ChannelClogged`, `TaskClosed`), independent of what the protocol has been told
about the peer. `Model/ReqResp/Handle.lean` is the user-facing `RequestResponseHandle`.
-/
namespace Litep2pVerif.Props.C13
open Litep2pVerif Litep2pVerif.ReqResp

/-- **Inbound bound.** With `max_concurrent_inbound_requests = n`, in every reachable state the
inbound requests being read plus those waiting for the user's answer number at most `n`. -/
theorem inbound_bound (n : Nat) (s : State) (h : Reach (some n) s) :
    s.pendingInboundRequests.length + s.pendingOutboundResponses.length ≤ n :=
  let b := reach_inb (some n) s h
  b.1.bound n b.2

/-- Non-vacuity: limit 1, two inbound substreams from a connected peer: the second is refused. -/
example :
    let s := [Input.connectionEstablished 1 (fun _ => .error .closed), .inboundSubstream 1, .inboundSubstream 1].foldl
      step (init (some 1))
    s.pendingInboundRequests = [⟨1, 0⟩] ∧ s.nextRid = 1 := by decide

/-- **Cancel window.** A cancel for a request whose future is not in flight (still waiting for the
dial or the substream, or already finished: `rid ∉ pending_outbound_cancels`) changes nothing at
all. A cancel in the window fires the cancel channel and produces no event; the future then may
finish as `Canceled`, and that completion produces no event either. -/
theorem cancel_effect (s : State) (rid : Rid) :
    (rid ∉ s.pendingCancels → onCancelRequest s rid = s) ∧
    (rid ∈ s.pendingCancels → onCancelRequest s rid =
      { s with pendingCancels := s.pendingCancels.erase rid, cancelSent := s.cancelSent ++ [rid] }) ∧
    (∀ f, (onSubstreamEvent s f (.error .canceled)).log = s.log) :=
  ⟨cancel_noop s rid, cancel_effective s rid, canceled_no_event s⟩

/-- Non-vacuity: a cancel before the substream is open is ignored, after it it takes effect. -/
example :
    let s0 := [Input.connectionEstablished 1 (fun _ => .error .closed),
      .send 1 ⟨⟨3, 0⟩, none⟩ .reject (.ok ()) (.ok 0)].foldl step (init none)
    let s1 := step s0 (.outboundSubstream 1 0 none)
    (step s0 (.cancel 0)).cancelSent = [] ∧ (step s1 (.cancel 0)).cancelSent = [0] := by decide

/-- **At most one terminal event.** In every reachable state, every request id has at most one
`ResponseReceived`/`RequestFailed` event in the log of events handed to the user. -/
theorem at_most_one_terminal (m : Option Nat) (s : State) (h : Reach m s) (r : Rid) :
    terminals s.log r ≤ 1 :=
  (reach_inv m s h).terminals_le_one r

/-- Non-vacuity: a request answered by the responder, then the connection closes: one event. -/
example :
    let s := [Input.connectionEstablished 1 (fun _ => .error .closed), .send 1 ⟨⟨3, 0⟩, none⟩ .reject (.ok ()) (.ok 0),
      .outboundSubstream 1 0 none, .responderWrites 0 ⟨2, 9⟩, .futureDone ⟨1, 0, 0⟩ (.response ⟨2, 9⟩),
      .connectionClosed 1].foldl step (init none)
    terminals s.log 0 = 1 ∧ s.log = [.responseReceived 1 0 ⟨2, 9⟩] := by decide

/-- **Ledger.** In every reachable state, every request the user issued (`issuedCount = 1`; ids that
were never issued have 0 everywhere) is in exactly one of four places: waiting in its peer's dial
queue, registered as active with its peer, finished with exactly one terminal event, or finished
silently by a cancel that took effect (`cancelDone`, which implies the cancel channel fired).
Moreover it is in at most one of dial queue / pending substream / request future, and a request
waiting for its substream is registered as active with that very peer.
(False before the per-peer dial queue: the second request queued for a peer erased the first.) -/
theorem request_located (m : Option Nat) (s : State) (h : Reach m s) (r : Rid) :
    terminals s.log r + dialCount s r + activeCount s r + s.cancelDone.count r = issuedCount s r ∧
    issuedCount s r ≤ 1 ∧
    dialCount s r + outCount s r + futCount s r ≤ 1 ∧
    (r ∈ s.cancelDone → r ∈ s.cancelSent) ∧
    (∀ e ∈ s.pendingOutbound, ∃ pc, alFind e.2.peer s.peers = some pc ∧ e.2.rid ∈ pc.active) :=
  let i := reach_inv m s h
  ⟨i.ledger r, i.issuedLe r, i.excl r, i.cancelSub r, i.owned⟩

/-- Non-vacuity (§8-k): three requests while the peer is being dialed are all queued, and all fail
once the dial fails. -/
example :
    let s := [Input.send 1 ⟨⟨3, 0⟩, none⟩ .dial (.ok ()) (.error .noPeer), .send 1 ⟨⟨4, 1⟩, none⟩ .dial (.ok ()) (.error .noPeer),
      .send 1 ⟨⟨5, 2⟩, none⟩ .dial (.ok ()) (.error .noPeer)].foldl step (init none)
    (dialCount s 0, dialCount s 1, dialCount s 2) = (1, 1, 1) ∧
    (let s' := step s (.dialFailure 1); (terminals s'.log 0, terminals s'.log 1, terminals s'.log 2) = (1, 1, 1)) := by
  decide

/-- **Owner invariant.** In every reachable state the peers are registered once, and every request
id in a peer's `active` set is waited for by a pending substream that was opened to that very peer or
by a request future filed under that very peer (so a transport event or a future completion that
settles it is still owed). -/
theorem active_owned (m : Option Nat) (s : State) (h : Reach m s) :
    (s.peers.map Prod.fst).Nodup ∧
    ∀ e ∈ s.peers, ∀ r ∈ e.2.active,
      (∃ o ∈ s.pendingOutbound, o.2.peer = e.1 ∧ o.2.rid = r) ∨
      (∃ f ∈ s.pendingInbound, f.peer = e.1 ∧ f.rid = r) :=
  let o := reach_own m s h
  ⟨o.nodup, o.owned⟩

/-- Non-vacuity: two requests to a connected peer, one waiting for its substream, one in flight. -/
example :
    let s := [Input.connectionEstablished 1 (fun _ => .error .closed), .send 1 ⟨⟨3, 0⟩, none⟩ .reject (.ok ()) (.ok 0),
      .send 1 ⟨⟨4, 1⟩, none⟩ .reject (.ok ()) (.ok 1), .outboundSubstream 1 0 none].foldl step (init none)
    (s.peers.map fun e => (e.1, e.2.active)) = [(1, [1, 0])] ∧
    s.pendingOutbound = [(1, ⟨1, 1, ⟨⟨4, 1⟩, none⟩⟩)] ∧ s.pendingInbound = [⟨1, 0, 0⟩] := by decide

/-- **Exactly one at quiescence.** In every reachable state in which the environment owes nothing
(`EnvQuiescent`: the transport manager has no accepted dial to conclude, no substream open is waited
for, no request future is running — stated over the manager's obligations, not over the protocol's
`pending_dials`), every issued request has exactly one terminal event, unless a cancel took effect
for it (the cancel channel fired, `cancelSent`), in which case it has either exactly one terminal
event or none and was finished by the cancel. In particular every request whose cancel channel never
fired has exactly one. This covers the window in which the manager still answers `AlreadyConnected`
for a peer the protocol has dropped (or never registered): whatever `dial` answers, a request is
never left parked without a dial being owed. -/
theorem exactly_one_at_quiescence (m : Option Nat) (e : EnvState) (h : ReachE m e) (hq : EnvQuiescent e)
    (r : Rid) (hi : issuedCount e.s r = 1) :
    ((terminals e.s.log r = 1 ∧ e.s.cancelDone.count r = 0) ∨
     (terminals e.s.log r = 0 ∧ e.s.cancelDone.count r = 1 ∧ r ∈ e.s.cancelSent)) ∧
    (r ∉ e.s.cancelSent → terminals e.s.log r = 1) :=
  reach_exactly_one m e.s (reachE_reach m e h) (envQuiescent_quiescent m e h hq) r hi

/-- Non-vacuity: a quiescent state with one failed and one silently cancelled request. -/
example :
    let e := [Input.connectionEstablished 1 (fun _ => .error .closed), .send 1 ⟨⟨3, 0⟩, none⟩ .reject (.ok ()) (.ok 0),
      .send 2 ⟨⟨3, 1⟩, none⟩ .reject (.ok ()) (.ok 1), .outboundSubstream 1 0 none, .cancel 0,
      .futureDone ⟨1, 0, 0⟩ (.error .canceled)].foldl stepE (initE none)
    e.dialsOwed = [] ∧ e.s.pendingOutbound = [] ∧ e.s.pendingInbound = [] ∧
    issuedCount e.s 0 = 1 ∧ issuedCount e.s 1 = 1 ∧
    terminals e.s.log 0 = 0 ∧ e.s.cancelDone = [0] ∧ e.s.cancelSent = [0] ∧ terminals e.s.log 1 = 1 := by decide

/-- Non-vacuity (the window): the connection to peer 1 closes, the protocol is told first; a request
with `DialOptions::Dial` issued before the manager catches up is answered `AlreadyConnected` and
fails at once; the state owes nothing and the request has its one terminal event. A second request
whose dial is accepted is parked and `dialsOwed` says so until the dial fails. -/
example :
    let e := [Input.connectionEstablished 1 (fun _ => .error .closed), .connectionClosed 1,
      .send 1 ⟨⟨3, 0⟩, none⟩ .dial (.error .alreadyConnected) (.error .noPeer)].foldl stepE (initE none)
    let e' := stepE e (.send 1 ⟨⟨4, 1⟩, none⟩ .dial (.ok ()) (.error .noPeer))
    e.dialsOwed = [] ∧ e.s.pendingDials = [] ∧ terminals e.s.log 0 = 1 ∧
    e'.dialsOwed = [1] ∧ dialCount e'.s 1 = 1 ∧ terminals e'.s.log 1 = 0 ∧
    (stepE e' (.dialFailure 1)).dialsOwed = [] ∧ terminals (stepE e' (.dialFailure 1)).s.log 1 = 1 := by decide

/-- **Parked only while a dial is owed.** In every reachable state every peer with a queue in
`pending_dials` is owed the conclusion of a dial by the transport manager, and the queues have
distinct peers. -/
theorem parked_only_while_dial_owed (m : Option Nat) (e : EnvState) (h : ReachE m e) :
    (e.s.pendingDials.map Prod.fst).Nodup ∧ ∀ d ∈ e.s.pendingDials, d.1 ∈ e.dialsOwed :=
  let i := reachE_dialOwed m e h
  ⟨i.nodup, fun d hd => i.owed d.1 (List.mem_map_of_mem hd)⟩

/-- Non-vacuity: two requests parked for peer 1 after one accepted dial and one "dial in progress". -/
example :
    let e := [Input.send 1 ⟨⟨3, 0⟩, none⟩ .dial (.ok ()) (.error .noPeer),
      .send 1 ⟨⟨4, 1⟩, none⟩ .dial (.ok ()) (.error .noPeer)].foldl stepE (initE none)
    (e.s.pendingDials.map fun d => (d.1, d.2.map (·.rid))) = [(1, [0, 1])] ∧ e.dialsOwed = [1, 1] := by decide

/-- **The answer of `dial` settles the request.** For a peer the protocol has not registered and
`DialOptions::Dial`: if `dial` answers `Ok` the request is parked, no event is emitted and the
manager owes the conclusion of a dial of that peer; if it answers any error the request fails at once
with `Rejected(DialFailed(Some(error)))`, nothing is parked and nothing is owed. -/
theorem dial_answer_settles (e : EnvState) (peer : Peer) (req : Request) (dialAns : Except DialErr Unit)
    (openAns : Except SubErr Sid) (hp : alFind peer e.s.peers = none) :
    match dialAns with
    | .ok _ =>
      (stepE e (.send peer req .dial dialAns openAns)).s.pendingDials =
        pushDial peer ⟨peer, e.s.nextRid, req⟩ e.s.pendingDials ∧
      (stepE e (.send peer req .dial dialAns openAns)).s.log = e.s.log ∧
      (stepE e (.send peer req .dial dialAns openAns)).dialsOwed = e.dialsOwed ++ [peer]
    | .error err =>
      (stepE e (.send peer req .dial dialAns openAns)).s.pendingDials = e.s.pendingDials ∧
      (stepE e (.send peer req .dial dialAns openAns)).s.log =
        e.s.log ++ [.requestFailed peer e.s.nextRid (.rejected (.dialFailed (some err)))] ∧
      (stepE e (.send peer req .dial dialAns openAns)).dialsOwed = e.dialsOwed := by
  cases dialAns with
  | ok u => cases u; simp [stepE, step, onSendRequest, hp, Input.concludesDial, dialOks]
  | error err => simp [stepE, step, onSendRequest, hp, Input.concludesDial, dialOks, emit]

/-- Non-vacuity: every refusal of `dial` fails the request with that very error. -/
example :
    ([DialErr.noAddress, .alreadyConnected, .clogged, .triedToDialSelf, .taskClosed].map fun err =>
      (stepE (initE none) (.send 1 ⟨⟨3, 0⟩, none⟩ .dial (.error err) (.error .noPeer))).s.log) =
    [DialErr.noAddress, .alreadyConnected, .clogged, .triedToDialSelf, .taskClosed].map fun err =>
      [Event.requestFailed 1 0 (.rejected (.dialFailed (some err)))] := by decide

/-- **Responder sees each request once.** In every reachable state, for every request id `r`:
* outbound: at most one substream was ever opened for `r` (`opened` records every successful
  `open_substream` with the request it was made for); a request future — which writes the request
  once — was started at most once, and only on a substream that was opened for exactly this request
  as it was issued; substream ids are never shared between requests; every started future writes
  exactly one payload on its substream (`written`), namely the request's main payload, or its
  fallback payload if the substream was negotiated with the request's fallback protocol;
* inbound: `r` was handed to the user (`RequestReceived`) at most once, never while it is still
  being read, inbound ids never collide with outbound request ids, and the user is asked for an
  answer only to a request it has seen. -/
theorem responder_sees_once (m : Option Nat) (s : State) (h : Reach m s) (r : Rid) :
    (openedCount s r ≤ 1 ∧ outCount s r + sentCount s r ≤ openedCount s r ∧
     (∀ o ∈ s.sentOn, o ∈ s.opened ∧ o.2 ∈ s.issued) ∧ (s.opened.map Prod.fst).Nodup ∧
     s.written.map Prod.fst = s.sentOn.map Prod.fst ∧
     (∀ w ∈ s.written, ∃ c fb, (w.1, c) ∈ s.sentOn ∧ w.2 = c.request.payloadFor fb)) ∧
    (receivedCount s.log r + inReadCount s r + issuedCount s r ≤ 1 ∧
     awaitCount s r ≤ receivedCount s.log r) := by
  have hs := reach_sub m s h
  have hb := (reach_inb m s h).1
  have hw := reach_wr m s h
  exact ⟨⟨reach_opened_le_one m s h r, hs.sentCnt r,
    fun o ho => ⟨hs.sentSub o ho, hs.openedIssued o (hs.sentSub o ho)⟩, hs.openedNodup, hw.keys, hw.ok⟩,
    hb.once r, hb.await r⟩

/-- Non-vacuity: an outbound request written on its substream, an inbound request handed over. -/
example :
    let s := [Input.connectionEstablished 1 (fun _ => .error .closed), .send 1 ⟨⟨3, 0⟩, none⟩ .reject (.ok ()) (.ok 0),
      .outboundSubstream 1 0 none, .inboundSubstream 1, .inboundRead ⟨1, 1⟩ (some ⟨5, 7⟩)].foldl step (init none)
    openedCount s 0 = 1 ∧ sentCount s 0 = 1 ∧ s.sentOn = [(0, ⟨1, 0, ⟨⟨3, 0⟩, none⟩⟩)] ∧ s.opened = s.sentOn ∧
    receivedCount s.log 1 = 1 ∧ awaitCount s 1 = 1 ∧ s.log = [.requestReceived 1 1 ⟨5, 7⟩] := by decide

/-- Non-vacuity (fallback): the substream is negotiated with the request's fallback protocol 7, the
future writes the fallback payload; negotiated with another fallback protocol, the main payload. -/
example :
    let s0 := [Input.connectionEstablished 1 (fun _ => .error .closed),
      .send 1 ⟨⟨3, 0⟩, some (7, ⟨5, 1⟩)⟩ .reject (.ok ()) (.ok 0)].foldl step (init none)
    (step s0 (.outboundSubstream 1 0 (some 7))).written = [(0, ⟨5, 1⟩)] ∧
    (step s0 (.outboundSubstream 1 0 (some 8))).written = [(0, ⟨3, 0⟩)] ∧
    (step s0 (.outboundSubstream 1 0 none)).written = [(0, ⟨3, 0⟩)] := by decide

/-- **An inbound request is handed over exactly when it was read.** The completion of the read of
an inbound request appends exactly one `RequestReceived` with the id and the bytes read if the read
succeeded and the request is still registered with its connected peer; otherwise (read failure,
connection closed in between) nothing is emitted. -/
theorem inbound_delivered (s : State) (f : InFut) (request : Option Payload) :
    (step s (.inboundRead f request)).log =
      match alFind f.peer s.peers, request with
      | some pc, some req => if f.rid ∈ pc.activeInbound then s.log ++ [.requestReceived f.peer f.rid req] else s.log
      | _, _ => s.log := by
  simp only [step, onInboundRequest]
  repeat' split
  all_goals simp_all [emit]

/-- Non-vacuity: delivered once; a failed read delivers nothing. -/
example :
    let s := [Input.connectionEstablished 1 (fun _ => .error .closed), .inboundSubstream 1].foldl step (init none)
    (step s (.inboundRead ⟨1, 0⟩ (some ⟨5, 7⟩))).log = [.requestReceived 1 0 ⟨5, 7⟩] ∧
    (step s (.inboundRead ⟨1, 0⟩ none)).log = [] := by decide

/-- **Response matches.** In every reachable state, whenever `ResponseReceived{peer, rid, payload}`
is in the log there is a substream `sid` such that: `sid` was opened for exactly this request
(`(sid, ⟨peer, rid, req⟩) ∈ opened`, with `req` the payload the user issued under `rid`), the request
future was started on it, the responder wrote `payload` on `sid` (`wire`), and `sid` is the only
substream ever opened for `rid` and was opened for no other request. -/
theorem response_matches (m : Option Nat) (s : State) (h : Reach m s) (p : Peer) (r : Rid) (pl : Payload)
    (hm : Event.responseReceived p r pl ∈ s.log) :
    ∃ sid req, (sid, (⟨p, r, req⟩ : Ctx)) ∈ s.opened ∧ (sid, (⟨p, r, req⟩ : Ctx)) ∈ s.sentOn ∧
      (⟨p, r, req⟩ : Ctx) ∈ s.issued ∧ (sid, pl) ∈ s.wire ∧
      (∀ o ∈ s.opened, o.2.rid = r → o = (sid, ⟨p, r, req⟩)) ∧
      (∀ o ∈ s.opened, o.1 = sid → o = (sid, ⟨p, r, req⟩)) :=
  reach_response_matches m s h p r pl hm

/-- Non-vacuity: two requests answered in the opposite order; each response is the one written on
the substream of its own request. -/
example :
    let s := [Input.connectionEstablished 1 (fun _ => .error .closed), .send 1 ⟨⟨3, 0⟩, none⟩ .reject (.ok ()) (.ok 0),
      .send 1 ⟨⟨4, 1⟩, none⟩ .reject (.ok ()) (.ok 1), .outboundSubstream 1 0 none, .outboundSubstream 1 1 none,
      .responderWrites 1 ⟨2, 9⟩, .futureDone ⟨1, 1, 1⟩ (.response ⟨2, 9⟩),
      .responderWrites 0 ⟨6, 8⟩, .futureDone ⟨1, 0, 0⟩ (.response ⟨6, 8⟩)].foldl step (init none)
    s.log = [.responseReceived 1 1 ⟨2, 9⟩, .responseReceived 1 0 ⟨6, 8⟩] ∧
    s.opened = [(0, ⟨1, 0, ⟨⟨3, 0⟩, none⟩⟩), (1, ⟨1, 1, ⟨⟨4, 1⟩, none⟩⟩)] ∧ s.sentOn = s.opened ∧
    s.wire = [(1, ⟨2, 9⟩), (0, ⟨6, 8⟩)] := by decide

/-- **Every internal outcome becomes at most one user-visible terminal event.** Whatever way the
per-request future ends (`FutOutcome`: write timed out / refused as too large / failed, cancelled,
response timed out, response, read error, end of stream), `on_substream_event` hands the user exactly
the events `terminalEvents` of the future's result if the request is still active with its
registered peer and nothing otherwise; that list has at most one element, every element is a terminal
event of that request, and it is empty exactly for the outcome `Canceled`. -/
theorem outcome_translation_total (s : State) (f : Fut) (o : FutOutcome) :
    ((onSubstreamEvent s f o.result).log =
      match alFind f.peer s.peers with
      | some pc => if f.rid ∈ pc.active then s.log ++ terminalEvents f.peer f.rid o.result else s.log
      | none => s.log) ∧
    (terminalEvents f.peer f.rid o.result).length ≤ 1 ∧
    (∀ ev ∈ terminalEvents f.peer f.rid o.result, Event.terminalFor f.rid ev = true) ∧
    (terminalEvents f.peer f.rid o.result = [] ↔ o = .canceled) :=
  ⟨substreamEvent_log s f o.result, terminalEvents_length _ _ _, terminalEvents_terminal _ _ _,
    (terminalEvents_nil_iff _ _ _).trans (result_canceled_iff o)⟩

/-- Non-vacuity: the eight outcomes of an active request's future and what the user sees. -/
example :
    let s := [Input.connectionEstablished 1 (fun _ => .error .closed), .send 1 ⟨⟨3, 0⟩, none⟩ .reject (.ok ()) (.ok 0),
      .outboundSubstream 1 0 none].foldl step (init none)
    ([FutOutcome.sendTimeout, .sendTooLarge, .sendError .io, .canceled, .responseTimeout, .response ⟨2, 9⟩,
      .readError .readFailure, .eof].map fun o => (onSubstreamEvent s ⟨1, 0, 0⟩ o.result).log) =
    [[.requestFailed 1 0 .timeout], [.requestFailed 1 0 .tooLargePayload],
     [.requestFailed 1 0 (.rejected (.substreamOpenError .io))], [], [.requestFailed 1 0 .timeout],
     [.responseReceived 1 0 ⟨2, 9⟩], [.requestFailed 1 0 (.rejected (.substreamOpenError .readFailure))],
     [.requestFailed 1 0 (.rejected .substreamClosed)]] := by decide

/-- **Error-kind translation.** `impl From<SubstreamError> for RejectReason` is total: the four
`NotConnected` shapes become `ConnectionClosed`, every other error is kept inside
`SubstreamOpenError`; `on_substream_open_failure` reports `UnsupportedProtocol` exactly for a failed
multistream-select negotiation and `Rejected(reason)` otherwise, and it reports exactly one failure
for the request that waited for the substream. -/
theorem error_kind_translation (e : SubErr) :
    (RejectReason.ofSubErr e = if e.isNotConnected then .connectionClosed else .substreamOpenError e) ∧
    (openFailureError e = if e = .unsupported then .unsupportedProtocol else .rejected (.ofSubErr e)) ∧
    (∀ (s : State) (sid : Sid) (ctx : Ctx), alFind sid s.pendingOutbound = some ctx →
      (onSubstreamOpenFailure s sid e).log = s.log ++ [.requestFailed ctx.peer ctx.rid (openFailureError e)]) :=
  ⟨ofSubErr_eq e, openFailureError_eq e, fun s sid ctx h => substreamOpenFailure_log s sid e ctx h⟩

/-- Non-vacuity: the translation of every modelled `SubstreamError` shape. -/
example :
    ([SubErr.notConnected, .yamuxNotConnected, .negotiationNotConnected, .msNotConnected, .io, .yamux,
      .negotiation, .unsupported, .closed].map openFailureError) =
    [.rejected .connectionClosed, .rejected .connectionClosed, .rejected .connectionClosed,
     .rejected .connectionClosed, .rejected (.substreamOpenError .io), .rejected (.substreamOpenError .yamux),
     .rejected (.substreamOpenError .negotiation), .unsupportedProtocol,
     .rejected (.substreamOpenError .closed)] := by decide

/-- **The handle's stream is a faithful image of the protocol's events.** Polling the handle over
any sequence of internal events never panics (the `From` impl's `panic!` arm is unreachable) and
yields exactly one user event per internal event, with the same peer, request id, payload, error and
fallback protocol (`InnerEvent.toUser`). Hence, for the event log of any reachable state and any
fallback protocols, the user receives at most one terminal event per request id — distinct internal
terminal outcomes never produce two user events — and exactly as many as the log has. -/
theorem handle_stream_faithful (h : Handle) (evs : List InnerEvent) (m : Option Nat) (s : State)
    (hr : Reach m s) (fb : Event → Option Nat) (r : Rid) :
    (h.pollAll evs).2 = evs.map (fun ev => some ev.toUser) ∧
    userTerminals h s.log fb r = terminals s.log r ∧ userTerminals h s.log fb r ≤ 1 :=
  ⟨pollAll_events h evs, userTerminals_eq h s.log fb r,
    (userTerminals_eq h s.log fb r).symm ▸ (reach_inv m s hr).terminals_le_one r⟩

/-- Non-vacuity: an inbound request negotiated with fallback 2, a response over fallback 7 and a
failure pass through the handle unchanged; the inbound request is filed under its id. -/
example :
    let h : Handle := { capacity := 4 }
    let r := h.pollAll [.requestReceived 1 (some 2) 5 ⟨4, 4⟩, .responseReceived 1 (some 7) 0 ⟨2, 9⟩,
      .requestFailed 2 1 .timeout]
    r.2 = [some (.requestReceived 1 (some 2) 5 ⟨4, 4⟩), some (.responseReceived 1 0 (some 7) ⟨2, 9⟩),
      some (.requestFailed 2 1 .timeout)] ∧ r.1.pendingResponses = [5] := by decide

/-- **Request ids and the command channel.** `try_send_request{,_with_fallback}` always takes the
next id from the shared counter; the command is queued and the id returned iff the channel has room,
otherwise the call fails (`ChannelClogged`) and the handle is unchanged. Of `k` requests handed over
back to back exactly `min k (capacity − queued)` are accepted and the counter advances by `k`. -/
theorem request_ids_and_channel (h : Handle) (n : Nat) (mk : Rid → Command) (k : Nat)
    (hc : h.queue.length ≤ h.capacity) :
    ((h.trySend n mk).2.1 = n + 1 ∧
     (h.queue.length < h.capacity →
       (h.trySend n mk).2.2 = some n ∧ (h.trySend n mk).1.queue = h.queue ++ [mk n]) ∧
     (¬ h.queue.length < h.capacity → (h.trySend n mk).2.2 = none ∧ (h.trySend n mk).1 = h)) ∧
    ((h.trySendMany n mk k).2.1 = n + k ∧
     (h.trySendMany n mk k).2.2 = min k (h.capacity - h.queue.length)) :=
  ⟨trySend_spec h n mk, trySendMany_spec h n mk k⟩

/-- Non-vacuity: capacity 2, five requests: two accepted, three clogged, five ids used. -/
example :
    let h : Handle := { capacity := 2 }
    let r := h.trySendMany 10 (fun rid => .sendRequest 1 rid ⟨1, 0⟩ .dial) 5
    r.2 = (15, 2) ∧ r.1.queue = [.sendRequest 1 10 ⟨1, 0⟩ .dial, .sendRequest 1 11 ⟨1, 0⟩ .dial] := by decide

/-- The command channel of the real handle has `DEFAULT_CHANNEL_SIZE` slots. -/
example : Litep2pVerif.Consts.RR_COMMAND_CHANNEL_SIZE = 4096 := by decide

/-- **An inbound request is answered at most once.** `send_response`, `send_response_with_feedback`
and `reject_request` consume the pending response of the request: after any of them a further
answer or rejection of the same request has no effect (and an answer to an id the user never received
has none either). -/
theorem answer_at_most_once (h : Handle) (rid : Rid) (hn : h.pendingResponses.Nodup) (ev : InnerEvent) :
    (h.poll ev).1.pendingResponses.Nodup ∧
    (rid ∉ h.pendingResponses → (h.sendResponse rid).2 = false ∧ (h.rejectRequest rid).2 = false) ∧
    ((h.sendResponse rid).1.sendResponse rid).2 = false ∧
    ((h.sendResponse rid).1.rejectRequest rid).2 = false ∧
    ((h.rejectRequest rid).1.sendResponse rid).2 = false ∧
    ((h.rejectRequest rid).1.rejectRequest rid).2 = false :=
  ⟨nodup_poll h ev hn, fun hm => by simp [Handle.sendResponse, Handle.rejectRequest, hm], answer_once h rid hn⟩

/-- Non-vacuity: the first answer takes effect, the second does not. -/
example :
    let h := (({ capacity := 4 } : Handle).poll (.requestReceived 1 none 5 ⟨4, 4⟩)).1
    (h.sendResponse 5).2 = true ∧ ((h.sendResponse 5).1.sendResponse 5).2 = false ∧
    (h.rejectRequest 5).2 = true ∧ ((h.rejectRequest 5).1.sendResponse 5).2 = false ∧
    (h.sendResponse 6).2 = false := by decide

#print axioms inbound_bound
#print axioms cancel_effect
#print axioms at_most_one_terminal
#print axioms request_located
#print axioms active_owned
#print axioms exactly_one_at_quiescence
#print axioms parked_only_while_dial_owed
#print axioms dial_answer_settles
#print axioms responder_sees_once
#print axioms inbound_delivered
#print axioms response_matches
#print axioms outcome_translation_total
#print axioms error_kind_translation
#print axioms handle_stream_faithful
#print axioms request_ids_and_channel
#print axioms answer_at_most_once

end Litep2pVerif.Props.C13

/-! ## Wiring — what `Litep2p::new` hands over (coverage round `node`)

Over the wiring model `Model/Node/Wiring.lean` (`Node.new c` = `Litep2p::new(ConfigBuilder…build())`), which is tied to
the real `ConfigBuilder`/`Litep2p::new` by the `node` area: the adapter prints the ACTUAL registration record of a node built
through the public API, the driver prints the model's, compared field by field on every run. -/
namespace Litep2pVerif.Props.C13.Wiring
open Litep2pVerif Litep2pVerif.Node

/-- A configuration with every kind of protocol (used by the non-vacuity examples). -/
def sample : Config :=
  { keepAliveMs := some 600, limits := some (some 2, none), listen := [1, 2],
    notif := [⟨"/n/a", 1024, "0102", ["/n/old"], 'a', some 64, some 64, none⟩],
    rr := [⟨"/r/a", 256, 800, ["/r/old"], none⟩, ⟨"/r/b", 64, 800, [], some 1⟩],
    user := [⟨"/u/a", .varint none⟩], kad := [⟨[], none, []⟩], ping := some 1, identify := true, bitswap := true,
    known := some [(0, [.listen 0, .closed, .quic, .wrongPeer 0, .noPeer 0])] }

/-- Every configured request-response protocol is registered under its own name with its OWN codec and maximum message
size, its own fallback names, as a keep-alive protocol — and no other registration bears that name. -/
theorem registered_with_own_codec_and_size (c : Config) (w : Wired) (h : Node.new c = .ok w) :
    ∀ p ∈ (build c).rr, ∃ r ∈ w.regs, r.name = p.name ∧ r.codec = .varint (some p.max) ∧ r.fallback = p.fallback ∧
      r.keepAlive = true ∧ ∀ r' ∈ w.regs, r'.name = p.name → r' = r := by
  intro p hp
  obtain ⟨hreg, _, rfl⟩ := wire_ok h
  refine ⟨_, rr_mem_registrations _ hp, rfl, rfl, rfl, rfl, ?_⟩
  exact fun r' hr' he => unique_of_registered hreg (rr_mem_registrations _ hp) hr' he

example : ∃ w, Node.new sample = .ok w ∧
    (w.regs.filter (fun r => r.name = "/r/a" || r.name = "/r/b")).map (fun r => (r.codec, r.fallback)) =
      [(.varint (some 256), ["/r/old"]), (.varint (some 64), [])] := ⟨_, rfl, by decide⟩

-- a name claimed twice is refused (`register_protocol` panics), whatever the order
example : Node.new { sample with rr := [⟨"/n/a", 64, 800, [], none⟩] } = .panic := by decide
example : Node.new { sample with rr := [⟨"/r/a", 64, 800, ["/n/old"], none⟩] } = .panic := by decide

/-- Every configured request-response protocol object is constructed with its OWN request timeout and its own bound on
concurrent inbound requests. -/
theorem request_response_config_reaches_protocol (c : Config) :
    ∀ p ∈ (build c).rr, Note.rr p.name p.timeoutMs p.maxInbound ∈ notes (build c) :=
  fun _ hp => notes_rr_mem _ hp

example : Note.rr "/r/b" 800 (some 1) ∈ notes (build sample) := by decide

end Litep2pVerif.Props.C13.Wiring

#print axioms Litep2pVerif.Props.C13.Wiring.registered_with_own_codec_and_size
#print axioms Litep2pVerif.Props.C13.Wiring.request_response_config_reaches_protocol
