import Litep2pVerif.Proofs.Substream.Codec
import Litep2pVerif.Proofs.Substream.Sink
import Litep2pVerif.Proofs.Substream.Roundtrip
import Litep2pVerif.Proofs.Substream.TokioCodec
import Litep2pVerif.Proofs.Node.Wiring
/-!
# C04 — Framed substream messages round-trip exactly within configured limits

Property theorems. Models: `Model/Substream/Codec.lean` (`Stream::poll_next`,
`read_payload_size`, unsigned-varint loops), `Model/Substream/Sink.lean` (`Sink`, `send_framed`) and
`Model/Substream/TokioCodec.lean` (the `tokio_util` codecs of `src/codec/`); helper lemmas in `Proofs/Substream/`. The
models describe the tree after four `fix:` commits (initial read buffer sized from the codec; `poll_flush` returns
`Pending` while frames remain; length-prefix cursor reset on a length error; the `Identity` encoder refuses items
shorter than the frame); on the tree before them `no_oob`, `flush_complete` and `tokio_identity_roundtrip` are false
(see the `example`s marked *pre-fix*). Namespace `Wiring`: the codec of a substream negotiated under a fallback name.
-/
namespace Litep2pVerif.Props.C04
open Litep2pVerif Litep2pVerif.Substream

/-- **No out-of-bounds slice, no failed debug assertion.** For every codec configuration
(`Identity(n)` for every `n`, `UnsignedVarint(max)` for every `max`), whatever the carrier does
(any bytes in any fragmentation, `Pending`, errors, end of stream, in any order) and however long the
caller keeps polling (also after errors), no `poll_next` call panics. -/
theorem no_oob (codec : Codec) (car : Carrier) : ∀ o ∈ recvAll codec car, o.isPanic = false :=
  recvAllF_no_panic codec _ _ car (rinv_init codec)

/-- Non-vacuity: `Identity(2048)` (above the 1024-byte buffer other codecs start with) receives its
frame; garbage after a length error is answered with errors. -/
example : received (.identity 3) [.data [1, 2], .pending, .data [3, 4, 5, 6]] = [.frame [1, 2, 3], .frame [4, 5, 6]] := by
  decide
example : received (.varint (some 2)) [.data [3, 9, 0x80, 0x80], .err, .data [0x80, 0x80, 0x80, 0x80, 0x80, 0x80, 0x80, 0x80, 1]] =
    [.err .readFailure, .err .readFailure, .eof, .err .readFailure] := by decide
/-- *pre-fix*: the checked slice does catch the defect — with the 1024-byte initial buffer of the old
constructor, `Identity(2048)` panics on the first poll. -/
example : (pollNext (.identity 2048) ⟨1024, [], 0, none, []⟩ [.data [7]]).1.isPanic = true := by decide
/-- *pre-fix*: without the cursor reset, polling again after an over-long prefix indexes past the end of `size_vec`. -/
example : (pollNext (.varint none) ⟨0, [], SIZE_VEC_LEN, none, List.replicate SIZE_VEC_LEN 0x80⟩ [.data [1]]).1.isPanic = true := by decide

/-- **Allocation bound.** With a maximum configured, in every state the reader can reach — whatever
bytes a peer sends — `read_buffer` is never longer than `max` (or the fixed initial buffer), and a
frame body is only ever awaited for an announced size `≤ max`. -/
theorem alloc_bound (m : Nat) (st : RState) (h : Reach (.varint (some m)) st) :
    st.rbLen ≤ Nat.max INITIAL_READ_BUFFER m ∧ ∀ fs, st.cur = some fs → fs ≤ m ∧ st.rbLen = fs := by
  have hinv := reach_inv h
  obtain ⟨ha, hb⟩ := hinv
  refine ⟨ha, ?_⟩
  intro fs hfs
  rw [hfs] at hb
  obtain ⟨h1, _, _, _, h5⟩ := hb
  exact ⟨by simpa [overMax] using h5, h1⟩

/-- Every state `poll_next` passes through is covered by `alloc_bound` (and `no_oob`'s invariant). -/
theorem alloc_bound_covers (codec : Codec) (st : RState) (car : Carrier) (h : Reach codec st) :
    Reach codec (pollNext codec st car).2.1 := reach_pollNextF codec _ st car h

/-- Non-vacuity: a state awaiting a 2-byte body under `max = 2` is reachable. -/
example : Reach (.varint (some 2)) ⟨2, [], 0, some 2, []⟩ :=
  Reach.step (RState.init (.varint (some 2))) 1 (.ok [2]) Reach.init (by rfl) (by intro bs h; cases h; decide)

theorem received_consume (codec : Codec) (hc : codec ≠ .identity 0) (car : Carrier) (hd : DataOnly car) :
    received codec car = (consume codec (RState.init codec) (carBytes car)).1 :=
  recvAllF_consume codec hc _ _ car (rinv_init codec) hd (Nat.lt_succ_self _)

/-- **Round trip.** For every codec configuration (`Identity(n)`, `n ≥ 1`; `UnsignedVarint(max)`, any
`max`), every list of messages the sender accepts (lengths below 2^64), and every behaviour of a
healthy carrier — the wire bytes cut into arbitrary segments, each inner read returning any
non-empty part of a segment that fits, `Pending` anywhere, the reader polled again after every
`Pending` — the frames the reader returns are exactly the messages, in order, and nothing else. -/
theorem stream_roundtrip (codec : Codec) (hc : codec ≠ .identity 0) (msgs : List Bytes)
    (hm : ∀ m ∈ msgs, accepts codec m = true ∧ m.length < 2 ^ 64)
    (car : Carrier) (hd : DataOnly car) (hb : carBytes car = encodeAll codec msgs) :
    received codec car = msgs.map .frame := by
  rw [received_consume codec hc car hd, hb]
  exact (consume_all codec hc msgs _ (idle_init codec) hm).1

example : received (.varint (some 300)) [.data [3, 1], .pending, .pending, .data [2, 3, 0, 0x82], .data [0x01],
      .data (List.replicate 100 5), .pending, .data (List.replicate 30 5)] =
    [.frame [1, 2, 3], .frame [], .frame (List.replicate 130 5)] ∧
    encodeAll (.varint (some 300)) [[1, 2, 3], [], List.replicate 130 5] = [3, 1, 2, 3, 0, 0x82, 0x01] ++ List.replicate 130 5 := by
  decide

/-- **Oversized incoming length.** With `UnsignedVarint(Some(max))`, a length prefix announcing more
than `max` (followed by anything, fragmented anyhow) makes the first result of the reader an error —
not a frame, not a panic (`no_oob`), and no buffer is allocated for it (`alloc_bound`). -/
theorem oversize_error (m L : Nat) (rest : Bytes) (hL : L < 2 ^ 64) (hbig : m < L)
    (car : Carrier) (hd : DataOnly car) (hb : carBytes car = encodeUsize L ++ rest) :
    (received (.varint (some m)) car).head? = some (.err .readFailure) := by
  rw [received_consume _ (by simp) car hd, hb]
  exact consume_oversize m L rest _ (idle_init _) hL hbig

example : received (.varint (some 10)) [.data [11], .pending, .data [1, 2, 3]] = [.err .readFailure, .frame [2], ] := by decide

/-- **Malformed incoming length.** Ten continuation bytes in a row (no terminating byte within
`usize_buffer`), for every `max` including `None`: the first result of the reader is an error. -/
theorem malformed_len_error (max : Option Nat) (pre : Bytes) (b : Nat) (rest : Bytes)
    (hpre : ∀ x ∈ pre, isLast x = false) (hb : isLast b = false) (hlen : pre.length + 1 = USIZE_LEN)
    (car : Carrier) (hd : DataOnly car) (hbytes : carBytes car = pre ++ [b] ++ rest) :
    (received (.varint max) car).head? = some (.err .readFailure) := by
  rw [received_consume _ (by simp) car hd, hbytes]
  exact consume_overlong max pre b rest _ (idle_init _) hpre hb hlen

example : received (.varint none) [.data (List.replicate 10 0x80), .data [0x80, 0x01]] = [.err .readFailure] ∧
    received (.varint none) [.data [0x80, 0x00, 5]] = [.err .readFailure] := by decide

/-- **Oversize refused at the sender.** A message the codec does not admit (`Identity(n)`: length
≠ n; `UnsignedVarint(Some max)`: length > max) is refused by `start_send` with the sink unchanged,
and by `send_framed` before any byte is handed to the carrier. -/
theorem oversize_refused (codec : Codec) (st : WState) (item : Bytes) (evs : List WrEv) (fls : List FlEv)
    (h : accepts codec item = false) :
    startSend codec st item = (.refused, st) ∧ sendFramed codec item evs fls = (.refused, []) := by
  obtain ⟨h1, h2⟩ := startSend_refused codec st item h
  exact ⟨h1, by simp [sendFramed, h2]⟩

example : accepts (.varint (some 2)) [1, 2, 3] = false ∧ accepts (.identity 2) [1] = false ∧
    accepts (.varint (some 2)) [1, 2] = true := by decide

/-- **Stream invariant of the sink.** For every history of `poll_ready`+`start_send` and `poll_flush`
calls and every flow-control behaviour of the carrier (any accepted byte counts, `Pending` anywhere,
any inner flush result; no carrier failure): the bytes handed to the carrier so far, followed by the
bytes still queued, are exactly the concatenated frames of the accepted messages, in order; and
`pending_out_bytes` is the number of queued bytes. -/
theorem sink_stream (codec : Codec) (ops : List SinkOp) (hne : ∀ op ∈ ops, OpNoErr op) :
    (sinkRun codec ops).wire ++ queued (sinkRun codec ops).st = encodeAll codec (sinkRun codec ops).accepted ∧
    (sinkRun codec ops).st.bytes = (queued (sinkRun codec ops).st).length :=
  sinkRun_inv codec ops hne

example :
    let r := sinkRun (.varint (some 3)) [.send [7, 7] [] .ready, .send [1, 2, 3, 4] [] .ready, .send [] [] .ready,
      .flush [.accept 0, .accept 0, .pending] .ready, .flush [.accept 5, .accept 0] .pending]
    r.accepted = [[7, 7], []] ∧ r.wire = [2, 7, 7, 0] ∧ r.last = .pending ∧ r.st = ⟨[], some [], 0⟩ := by decide

/-- **Flush complete.** If `poll_flush` returns `Ready(Ok)` then nothing is queued any more
(`pending_out_frames` empty, `pending_out_frame` none, `pending_out_bytes` 0) and every byte that was
queued has been handed to the carrier, in order. -/
theorem flush_complete (st : WState) (evs : List WrEv) (fl : FlEv) (hne : NoErr evs) (hw : WInv st)
    (h : (pollFlush evs st fl).1 = .ready) :
    (pollFlush evs st fl).2.1.frames = [] ∧ (pollFlush evs st fl).2.1.frame = none ∧
    (pollFlush evs st fl).2.1.bytes = 0 ∧ (pollFlush evs st fl).2.2 = queued st := by
  obtain ⟨h1, h2, h3⟩ := pollFlush_spec evs st fl hne
  obtain ⟨hf, hfs, hq⟩ := queued_of_takeFrame_none (h2 h)
  have hb := h3 hw
  unfold WInv at hb
  rw [hq] at hb h1
  exact ⟨hfs, hf, by simpa using hb, by simpa using h1⟩

/-- Non-vacuity: a flush that meets `Pending` after 3 of 5 bytes is `Pending` (the pre-fix code
returned the inner flush result, `Ready`, here); the next one completes. -/
example : pollFlush [.accept 2, .pending] ⟨[[1, 2, 3, 4, 5]], none, 5⟩ .ready = (.pending, ⟨[], some [4, 5], 2⟩, [1, 2, 3]) ∧
    pollFlush [.accept 9] ⟨[], some [4, 5], 2⟩ .ready = (.ready, ⟨[], none, 0⟩, [4, 5]) := by decide

/-- **send_framed complete.** If `send_framed` returns `Ok`, the bytes handed to the carrier are
exactly the frame of the message — for every behaviour of the carrier. -/
theorem send_framed_complete (codec : Codec) (item : Bytes) (evs : List WrEv) (fls : List FlEv) (w : Bytes)
    (h : sendFramed codec item evs fls = (.ok, w)) : w = encodeMsg codec item ∧ accepts codec item = true := by
  unfold sendFramed at h
  cases hb : framedBufs codec item with
  | none => simp [hb] at h
  | some bufs =>
    obtain ⟨hfl, hacc⟩ := framedBufs_some codec item bufs hb
    simp only [hb] at h
    obtain ⟨h1, h2⟩ := writeAlls_spec evs bufs
    rcases hw : writeAlls evs bufs with ⟨o, w', rest', evs'⟩
    rw [hw] at h h1 h2
    cases o with
    | done =>
      simp only [Prod.mk.injEq] at h
      have := h2 rfl
      simp only at this h1
      rw [this] at h1
      refine ⟨?_, hacc⟩
      rw [← h.2, ← hfl]; simpa using h1
    | blocked => simp at h
    | failed => simp at h

example : sendFramed (.varint none) [5, 6, 7] [.pending, .accept 0, .accept 0, .pending, .accept 5] [.pending, .ready] =
    (.ok, [3, 5, 6, 7]) := by decide

/-- **Both send paths put the same bytes on the carrier.** A message sent through an empty sink and
flushed to completion hands over the same bytes as a completed `send_framed` of the same message. -/
theorem sink_eq_send_framed (codec : Codec) (item : Bytes) (st' : WState)
    (evs₁ : List WrEv) (fls : List FlEv) (w : Bytes) (evs₂ : List WrEv) (fl : FlEv)
    (hf : sendFramed codec item evs₁ fls = (.ok, w))
    (hs : startSend codec WState.init item = (.ok, st')) (hne : NoErr evs₂)
    (hr : (pollFlush evs₂ st' fl).1 = .ready) :
    (pollFlush evs₂ st' fl).2.2 = w := by
  obtain ⟨hq, _, hwi⟩ := startSend_spec codec _ st' item hs
  obtain ⟨_, _, _, hout⟩ := flush_complete st' evs₂ fl hne (hwi winv_init) hr
  rw [hout, hq, (send_framed_complete codec item evs₁ fls w hf).1]
  simp [WState.init, queued]

example : (startSend (.identity 2) WState.init [8, 9]).1 = .ok ∧
    (pollFlush [.accept 0, .pending, .accept 0] (startSend (.identity 2) WState.init [8, 9]).2 .ready).1 = .pending := by decide

/-- **A completed flush delivers.** End to end: after any history of sink operations whose last one
is a `poll_flush` that returned `Ready(Ok)` (any flow-control behaviour before), a reader fed the
bytes the carrier was given — in any fragmentation, with no further action by the sender — returns
exactly the accepted messages, in order. -/
theorem flush_delivers (codec : Codec) (hc : codec ≠ .identity 0) (ops : List SinkOp) (evs : List WrEv) (fl : FlEv)
    (hne : ∀ op ∈ ops ++ [.flush evs fl], OpNoErr op)
    (hready : (sinkRun codec (ops ++ [.flush evs fl])).last = .ready)
    (hlen : ∀ m ∈ (sinkRun codec (ops ++ [.flush evs fl])).accepted, m.length < 2 ^ 64)
    (car : Carrier) (hd : DataOnly car) (hb : carBytes car = (sinkRun codec (ops ++ [.flush evs fl])).wire) :
    received codec car = (sinkRun codec (ops ++ [.flush evs fl])).accepted.map .frame := by
  have hinv := sinkRun_inv codec (ops ++ [.flush evs fl]) hne
  have hacc := sinkRun_accepts codec (ops ++ [.flush evs fl])
  have hq := sinkRun_flush_ready codec ops evs fl (hne _ (by simp)) hready
  apply stream_roundtrip codec hc _ (fun m h => ⟨hacc m h, hlen m h⟩) car hd
  rw [hb, ← hinv.1, hq]; simp

example :
    let r := sinkRun (.identity 2) [.send [1, 2] [] .ready, .flush [.accept 0, .pending] .ready,
      .send [3, 4] [] .ready, .send [5] [] .ready, .flush [.accept 0, .accept 5] .ready]
    r.last = .ready ∧ r.wire = [1, 2, 3, 4] ∧ r.accepted = [[1, 2], [3, 4]] ∧
    received (.identity 2) [.data [1], .data [2, 3, 4]] = [.frame [1, 2], .frame [3, 4]] := by decide

/-! ## The `tokio_util` codecs of `src/codec/` (`UnsignedVarint` over `unsigned_varint::codec::UviBytes`, `Identity`)

Model: `Model/Substream/TokioCodec.lean` (buffers are byte lists; `reserve` requests are outputs). -/

/-- **decode (encode x) = x.** An item within the maximum is written as its length prefix and its bytes,
and a decoder in its initial state, given those bytes followed by anything, returns exactly the item,
leaves the rest in the buffer and reserves nothing. -/
theorem tokio_uvi_roundtrip (st : UviState) (item dst rest : Bytes) (hl : st.len = none) (hm : item.length ≤ st.max)
    (h64 : item.length < 2 ^ 64) :
    uviEncode st item dst = some (dst ++ encodeUsize item.length ++ item) ∧
    uviDecode st (encodeUsize item.length ++ item ++ rest) = (.frame item, st, rest, none) :=
  ⟨uviEncode_accepts st item dst hm, uviDecode_encode st item rest hl hm h64⟩

example : uviEncode (UviState.new (some 3)) [7, 8, 9] [1] = some [1, 3, 7, 8, 9] ∧
    uviDecode (UviState.new (some 3)) [3, 7, 8, 9, 0x80] = (.frame [7, 8, 9], UviState.new (some 3), [0x80], none) := by decide

/-- **Progress on every prefix.** Cut the encoding of an item at any point before its end: the decoder
answers `None` for the first part — never an error, never a frame — asking `reserve` for no more than
the maximum, and, fed the remainder, returns exactly the item and is back in its initial state with an
empty buffer. -/
theorem tokio_uvi_prefix_need_more (st : UviState) (item : Bytes) (k : Nat) (hl : st.len = none) (hm : item.length ≤ st.max)
    (h64 : item.length < 2 ^ 64) (hk : k < (encodeUsize item.length ++ item).length) :
    ∃ st' buf rsv, uviDecode st ((encodeUsize item.length ++ item).take k) = (.needMore, st', buf, rsv) ∧
      (∀ r, rsv = some r → r ≤ st.max) ∧
      uviDecode st' (buf ++ (encodeUsize item.length ++ item).drop k) = (.frame item, st, [], none) :=
  uviDecode_prefix st item k hl hm h64 hk

example : uviDecode (UviState.new (some 300)) [0x82] = (.needMore, UviState.new (some 300), [0x82], none) ∧
    uviDecode (UviState.new (some 300)) [0x82, 0x01, 5] = (.needMore, { max := 300, len := some 130 }, [5], some 129) := by decide

/-- **Maximum-size rule.** The encoder refuses an item above the maximum (nothing is written); the
decoder answers an announced length above the maximum with an error as soon as the prefix is complete,
whatever follows, and reserves nothing for it. -/
theorem tokio_uvi_max_rule (st : UviState) (item dst : Bytes) (n : Nat) (rest : Bytes) (hl : st.len = none)
    (hn : n < 2 ^ 64) (hbig : st.max < n) (hitem : st.max < item.length) :
    uviEncode st item dst = none ∧
    uviDecode st (encodeUsize n ++ rest) = (.err .permissionDenied, st, rest, none) :=
  ⟨uviEncode_refuses st item dst hitem, uviDecode_oversize st n rest hl hn hbig⟩

example : uviEncode (UviState.new (some 2)) [1, 2, 3] [] = none ∧
    (uviDecode (UviState.new (some 2)) [3, 1, 2, 3]).1 = .err .permissionDenied ∧
    (uviDecode (UviState.new none) [0x81, 0x80, 0x80, 0x40]).1 = .err .permissionDenied ∧
    (uviDecode (UviState.new none) [0xff, 0xff, 0xff, 0x3f]).2.2.2 = some (UVI_DEFAULT_MAX - 1) := by decide

/-- **No allocation beyond the declared maximum.** In every state the decoder can be in (any bytes, any
chunking, also after errors), one `decode` call asks `reserve` for at most `max` bytes, a returned frame
has at most `max` bytes, and the next state is again such a state. (`UnsignedVarint::new(None)` declares
`UviBytes`' default of 128 MiB.) -/
theorem tokio_uvi_alloc_bound (st : UviState) (src : Bytes) (h : UviInv st) :
    UviInv (uviDecode st src).2.1 ∧ (uviDecode st src).2.1.max = st.max ∧
    (∀ r, (uviDecode st src).2.2.2 = some r → r ≤ st.max) ∧
    (∀ f, (uviDecode st src).1 = .frame f → f.length ≤ st.max) :=
  uviDecode_spec st src h

example : UviInv (UviState.new (some 5)) ∧ UviInv (UviState.new none) ∧ (UviState.new none).max = 128 * 1024 * 1024 :=
  ⟨uviInv_new _, uviInv_new _, rfl⟩

/-- **`Identity(n)`**, `n ≥ 1`: a whole frame round-trips (the rest stays buffered); fewer than `n`
buffered bytes are `None` with the buffer untouched; an item of any other length is refused by the
encoder; a returned frame has exactly `n` bytes. -/
theorem tokio_identity_roundtrip (n : Nat) (item rest dst src : Bytes) (hn : 0 < n) (hl : item.length = n) :
    (idEncode n item dst = some (dst ++ item) ∧ idDecode n (item ++ rest) = (.frame item, rest)) ∧
    (src.length < n → idDecode n src = (.needMore, src)) ∧
    (∀ other, other.length ≠ n → idEncode n other dst = none) ∧
    (∀ f, (idDecode n src).1 = .frame f → f.length = n) :=
  ⟨idDecode_encode n item rest dst hn hl, idDecode_short n src, fun o h => idEncode_refuses n o dst h,
    fun f h => idDecode_frame_len n src f h⟩

/-- Non-vacuity, and the *pre-fix* witness: the original encoder accepted the 1-byte item (`len ≤ n`);
the decoder then glues it to the next frame — `decode (encode x) ≠ x`. -/
example : idEncode 3 [1, 2, 3] [9] = some [9, 1, 2, 3] ∧ idEncode 3 [1] [] = none ∧
    idDecode 3 [1, 2] = (.needMore, [1, 2]) ∧ idDecode 3 ([1] ++ [4, 5, 6]) = (.frame [1, 4, 5], [6]) := by decide

#print axioms no_oob
#print axioms alloc_bound
#print axioms oversize_refused
#print axioms sink_stream
#print axioms flush_complete
#print axioms send_framed_complete
#print axioms sink_eq_send_framed
#print axioms stream_roundtrip
#print axioms oversize_error
#print axioms malformed_len_error
#print axioms flush_delivers
#print axioms tokio_uvi_roundtrip
#print axioms tokio_uvi_prefix_need_more
#print axioms tokio_uvi_max_rule
#print axioms tokio_uvi_alloc_bound
#print axioms tokio_identity_roundtrip

end Litep2pVerif.Props.C04

/-! ## Wiring — the framing codec of a substream negotiated under a FALLBACK name (added after seeded C04-e2)

Over the wiring model `Model/Node/Wiring.lean` (`Node.new c` = `Litep2p::new(ConfigBuilder…build())`, `notes` / `tcpHeld` =
what the constructed protocol objects / the TCP transport hold, `protocolCodec` = `ProtocolSet::protocol_codec`), tied to
the real code by the `node` area: real nodes built through the public API print what the CONSTRUCTED objects hold and what
a connection's `ProtocolSet` answers for every main and fallback name; the driver prints the model's; compared exactly. -/
namespace Litep2pVerif.Props.C04.Wiring
open Litep2pVerif Litep2pVerif.Node

/-- Kademlia setter calls of the sample: a later call overrides an earlier one; zero bounds. -/
def sampleSets : List KadSet := [.maxRecords 5, .replication 3, .maxRecords 0, .maxProviderKeys 0, .validationMode false]

/-- A configuration with fallback names, zero store bounds and non-default transport settings (non-vacuity examples). -/
def sample : Config :=
  { keepAliveMs := some 600, listen := [1],
    notif := [{ name := "/n/new", max := 32, handshake := "01", fallback := ["/n/a"], mode := 'a', sync := some 7, async := none,
                dial := some false }],
    rr := [{ name := "/r/new", max := 256, timeoutMs := 800, fallback := ["/r/a", "/r/b"], maxInbound := some 3 }],
    user := [⟨"/u/a", .identity 8⟩],
    kad := [{ names := ["/k/2", "/k/1"], max := some 2048,
              sets := sampleSets }],
    ping := some 1, identify := true, bitswap := true, maxParallelDials := some 0,
    tcpSets := [.readAhead 3, .parallelDials 7, .writeBuffer 4] }

/-- `ProtocolSet::protocol_codec` (what every transport asks when it wraps a freshly negotiated substream) answers, for EVERY
name a registered protocol claims — its main name and each of its fallback names —, the codec that protocol was registered
with: a substream negotiated under a fallback name is framed exactly like one negotiated under the main name (same maximum
size at the sender and the receiver, same framing kind). -/
theorem codec_of_fallback_is_codec_of_main (c : Config) (w : Wired) (h : Node.new c = .ok w) :
    ∀ r ∈ w.regs, ∀ x ∈ r.claims, protocolCodec w.regs x = some r.codec := by
  obtain ⟨hreg, _, rfl⟩ := wire_ok h
  exact fun r hr x hx => (protocolSet_of_claim hreg hr hx).1

example : ∃ w, Node.new sample = .ok w ∧
    ["/r/new", "/r/a", "/r/b", "/n/a", "/k/1", "/u/a"].map (protocolCodec w.regs) =
      [some (.varint (some 256)), some (.varint (some 256)), some (.varint (some 256)), some (.varint (some 32)),
       some (.varint (some 2048)), some (.identity 8)] := ⟨_, rfl, by decide⟩

-- the seeded change (no translation of the fallback name, unbounded varint when the lookup fails) answers differently
example : ∃ w, Node.new sample = .ok w ∧
    ((w.regs.find? (·.name = "/r/a")).map (·.codec)).getD (.varint none) ≠ .varint (some 256) := ⟨_, rfl, by decide⟩

end Litep2pVerif.Props.C04.Wiring

#print axioms Litep2pVerif.Props.C04.Wiring.codec_of_fallback_is_codec_of_main
