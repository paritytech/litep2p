import Litep2pVerif.Proofs.Conn.Accept
import Litep2pVerif.Proofs.Conn.Wait
/-!
# C07 — A terminated connection is reported closed to everyone exactly once

Property theorems, and the lemmas about `mgrStep` / `mgrRun` behind `app_closed_iff_last`; models in
`Model/Conn/{Close,Loop}.lean`, the other lemmas in `Proofs/Conn/`.
`cnt ps j m` / `mgrCnt ps` count the enqueues of message `m` to protocol `j` / of the close event to
the manager in the ghost log; `aliveAt ps j` says that protocol `j`'s receiver still exists;
`Fresh ps` is a `ProtocolSet` right after `accept` (nothing reported closed yet, `order` a
permutation of the protocols). Every theorem quantifies over all interleavings of the connection
task with the environment (`EnvOp`: protocols and manager popping messages, dropping their
receiver, channels being full).

Both defects confirmed on the original tree (DESIGN §8 h, i) are repaired by `fix:` commits; the
models mirror the repaired code and the theorems are at full strength.
-/
namespace Litep2pVerif.Props.C07
open Litep2pVerif Litep2pVerif.Conn

/-- **Exactly one close report, whatever the exit.** For every run of the connection event loop —
any sequence of yamux results, negotiation results (for live or dead protocols, with or without a
permit), protocol commands and environment moves — nobody is ever told twice, and once `start()` has
returned (`Ok` or `Err`) the body of `report_connection_closed` has run exactly once: every protocol
whose receiver still exists has exactly one `ConnectionClosed`, and so has the manager. -/
theorem exit_reports_closed_once (s0 : Loop) (h0 : Fresh s0.ps) (hc : s0.cont = none) (hx : s0.exited = none)
    (ls : List Label) :
    let s := run s0 ls
    (∀ j, cnt s.ps j .closed ≤ 1) ∧ mgrCnt s.ps ≤ 1 ∧
    (s.exited.isSome →
      s.ps.closedRuns = 1 ∧ (∀ j, aliveAt s.ps j → cnt s.ps j .closed = 1) ∧
      (s.ps.mgr.alive = true → mgrCnt s.ps = 1)) :=
  (run_pinv ls s0 (h0.pinv hc hx)).reports

/-- Non-vacuity: three protocols, protocol 1 has shut down; an inbound substream for it is negotiated
(the `?` exit of `handle_negotiated_substream`). The loop returns `Err`, protocols 0 and 2 and the
manager each got exactly one close report, protocols first. -/
example :
    let ps : PSet := { chans := [{ cap := 2 }, { cap := 2, alive := false }, { cap := 2 }], order := [2, 0, 1] }
    let s := run { ps := ps } [.loop (.yamuxStream true), .loop (.negotiated (.ok 1))]
    s.exited = some .err ∧ s.ps.log = [.proto 2 .closed, .proto 0 .closed, .mgr] := by decide

/-- Non-vacuity: permit unavailable (the other `?` exit), and a full channel that suspends the report
until the protocol reads. -/
example :
    let ps : PSet := { chans := [{ cap := 1, queue := [.filler] }, { cap := 1 }], order := [0, 1] }
    let s1 := run { ps := ps } [.loop (.yamuxStream false)]
    let s2 := run s1 [.env (.recv 0)]
    s1.exited = none ∧ s1.ps.log = [.proto 1 .closed] ∧
    s2.exited = some .err ∧ s2.ps.log = [.proto 1 .closed, .proto 0 .closed, .mgr] := by decide

/-- **… and the same with the permits computed instead of assumed, from EVERY exit path, however long a protocol stays
busy** (`Model/Conn/Permits.lean`, the model the real `TcpConnection::start` loop is driven against in the `tcploop`
area; formerly `tcploop_exit_reports_closed_once`, extended in the f-round for seeded C07-f1). There the no-permit exit
of `handle_yamux_substream` (`try_get_permit().ok_or(Error::ConnectionClosed)?`) is not an input flag but what happens
when an inbound substream is accepted after the last strong sender is gone, and the idle exit is enabled only then.
For every sequence `ls` of loop events, handle operations of the protocols (downgrade, upgrade, drop, open, force-close,
shut down) and deliveries:

1. nobody is told twice;
2. once `start()` has returned everybody alive has been told exactly once;
3. while a close report has begun — on WHICHEVER exit path: remote close / go-away (`yamuxErr`, `yamuxEof`),
   `ForceClose` (`takeCmd`), all protocols gone (`idleExit`), the no-permit `?` exit (`accept`), a report to a protocol
   that has shut down (`negOk`/`negFail` → `start()`'s error path) — and `start()` has not returned, the loop is
   suspended in exactly that call (`CK .closed`), on a continuation that ends `start()`; every live protocol it is not
   waiting for has its one report, the ones it waits for have none yet, and the manager has none (protocols first);
4. and the wait is not bounded by anything: from such a state (in fact from every state in which the loop is suspended
   in a report) NO sequence `ls'` of events of the connection, commands, handle operations or timers — everything
   except a move of the other end of a channel (`TLabel.isChan`: the busy protocol / the manager taking a message,
   a receiver going away) — changes the loop at all: it neither returns nor gives the report up, however long the
   channel stays full. (A bound on the wait — e.g. a timeout around `report_connection_closed` in one of the handlers
   — would be a transition out of this state that is not a channel move.) With 2: when the busy parties do catch up,
   every running protocol and then the manager are told exactly once. -/
theorem close_report_waits_for_busy_protocol (s0 : TLoop) (h0 : Fresh s0.loop.ps) (hc : s0.loop.cont = none)
    (hx : s0.loop.exited = none) (ls : List TLabel) :
    let s := (trun s0 ls).loop
    (∀ j, cnt s.ps j .closed ≤ 1) ∧ mgrCnt s.ps ≤ 1 ∧
    (s.exited.isSome →
      s.ps.closedRuns = 1 ∧ (∀ j, aliveAt s.ps j → cnt s.ps j .closed = 1) ∧
      (s.ps.mgr.alive = true → mgrCnt s.ps = 1)) ∧
    (s.exited = none → s.ps.closedRuns = 1 →
      (s.cont = some .closeThenExit ∨ s.cont = some .errorExitReport) ∧ CK .closed s.ps.call ∧
      (∀ w e, s.ps.call = .protoSends .closed w e →
        (∀ j, aliveAt s.ps j → j ∉ w → cnt s.ps j .closed = 1) ∧ (∀ j ∈ w, cnt s.ps j .closed = 0) ∧ mgrCnt s.ps = 0) ∧
      (∀ e, s.ps.call = .mgrSend e → (∀ j, aliveAt s.ps j → cnt s.ps j .closed = 1) ∧ mgrCnt s.ps = 0)) ∧
    (s.cont.isSome → ∀ ls', (∀ l ∈ ls', l.isChan = false) → (trun (trun s0 ls) ls').loop = s) := by
  intro s
  have hp : PInv s := trun_pinv ls s0 (h0.pinv hc hx)
  refine ⟨hp.reports.1, hp.reports.2.1, hp.reports.2.2, fun hex hruns => hp.waiting hex hruns, fun hcont ls' hl => ?_⟩
  refine trun_suspended ls' (trun s0 ls) (Bool.eq_false_iff.mpr fun hr => ?_) hl
  have hnone : s.cont = none := ((running_iff _).mp hr).2
  rw [hnone] at hcont
  cases hcont

/-- Non-vacuity of 3 and 4, the C07-f1 shape: two protocols take the connection, protocol 0 is busy (its channel of
capacity 1 is full of somebody else's message), protocol 1 force-closes. The loop is suspended in the close report,
waiting for protocol 0, protocol 1 has been told, the manager has not. Then the remote closes, protocol 1 sends more
commands, releases its handle, pending negotiations time out …: nothing changes. When protocol 0 finally takes the
filler the report goes through: protocol 0, then the manager; `start()` returns `Ok`. -/
example :
    let s := trun (tinit [true, true] 1) [.recv 0, .recv 1, .fill 0, .forceClose 1, .takeCmd]
    let s' := trun s [.yamuxEof, .yamuxErr, .localOpen 1, .takeCmd, .downgrade 1, .idleExit, .negFail 0, .accept]
    let s'' := trun s' [.recv 0]
    s.loop.exited = none ∧ s.loop.ps.closedRuns = 1 ∧ s.loop.cont = some .closeThenExit ∧
    s.loop.ps.call = .protoSends .closed [0] false ∧ s.loop.ps.log = [.proto 1 .closed] ∧
    s'.loop = s.loop ∧
    s''.loop.exited = some .ok ∧ s''.loop.ps.log = [.proto 1 .closed, .proto 0 .closed, .mgr] := by decide

/-- … and the same wait on the error path of `start()`: protocol 1 has shut down, a substream is negotiated for it
while protocol 0 is busy. `run_event_loop` fails, `start()` makes up for the report and waits for protocol 0. -/
example :
    let s := trun (tinit [true, true] 1) [.recv 0, .recv 1, .accept, .fill 0, .dropRx 1, .negOk 0 1]
    let s' := trun s [.yamuxEof, .idleExit, .negFail 0, .accept, .forceClose 0, .takeCmd]
    let s'' := trun s' [.recv 0]
    s.loop.exited = none ∧ s.loop.cont = some .errorExitReport ∧ s.loop.ps.call = .protoSends .closed [0] true ∧
    s'.loop = s.loop ∧ s''.loop.exited = some .err ∧ s''.loop.ps.log = [.proto 0 .closed, .mgr] := by decide

/-- Non-vacuity, the no-permit exit explicitly: two protocols (keep-alive yes / no) take the connection,
one downgrades its handle and the other drops it; a remote substream arrives. No permit can be had: the
substream is counted (`accepted = 1`) but never enters `pending_substreams`, `run_event_loop` fails,
`start()` makes up for the close report and returns `Err`: both protocols, then the manager, told once.
The state `tinit` satisfies the hypotheses of the theorem. -/
example :
    let s := trun (tinit [true, false] 4) [.recv 0, .recv 1, .downgrade 0, .dropHandle 1, .accept]
    Fresh (tinit [true, false] 4).loop.ps ∧
    s.loop.exited = some .err ∧ s.accepted = 1 ∧ s.subs = [] ∧
    s.loop.ps.log = [.proto 0 .closed, .proto 1 .closed, .mgr] :=
  ⟨tinit_fresh _ _, by decide⟩

/-- Non-vacuity, the race the event loop may resolve either way (`select!` picks): with the same state the
idle exit is enabled too; it returns `Ok` with the same reports, the substream is never looked at. -/
example :
    let s := trun (tinit [true, false] 4) [.recv 0, .recv 1, .downgrade 0, .dropHandle 1, .idleExit]
    s.loop.exited = some .ok ∧ s.accepted = 0 ∧
    s.loop.ps.log = [.proto 0 .closed, .proto 1 .closed, .mgr] := by decide

theorem report_rel (ps : PSet) (h0 : Fresh ps) (k : Kind) (os : List EnvOp) :
    Conn.Inv (os.foldl envStep (startCall ps k)) ∧ CK k (os.foldl envStep (startCall ps k)).call ∧
    (k = .closed → (os.foldl envStep (startCall ps k)).closedRuns = 1) ∧
    (EstInv (startCall ps k) → EstInv (os.foldl envStep (startCall ps k))) := by
  obtain ⟨h1, hwf, hck, hruns, _⟩ := startCall_spec ps k h0.inv h0.wf (h0.idle ▸ quiet_idle)
  obtain ⟨a, _, b, c, d⟩ := foldl_inv
    (P := fun p => Conn.Inv p ∧ WF p ∧ p.closedRuns = (startCall ps k).closedRuns ∧ CK k p.call ∧
      (EstInv (startCall ps k) → EstInv p)) os _
    (fun p o _ ⟨hi, hw, hr, hc, he⟩ =>
      have r := envStep_rel p o hi hw
      ⟨r.inv, r.wf, r.runs.trans hr, hc.follows r.follows, fun h => envStep_est p o (he h)⟩)
    ⟨h1, hwf, rfl, hck, id⟩
  exact ⟨a, c, fun hk => b.trans (hruns hk), d⟩

/-- **Protocols before the manager.** In `report_connection_closed`, under every interleaving with
the environment, the manager's message is enqueued only after the message of every protocol whose
receiver still exists; and no protocol is told after the manager. -/
theorem protocols_before_manager (ps : PSet) (h0 : Fresh ps) (os : List EnvOp) :
    let ps' := os.foldl envStep (startCall ps .closed)
    (Ev.mgr ∈ ps'.log → ∀ j, aliveAt ps' j → Ev.proto j .closed ∈ ps'.log) ∧
    (∀ j, Ev.mgr ∈ ps'.log → Ev.proto j .closed ∈ ps'.log →
      ps'.log.idxOf (Ev.proto j .closed) < ps'.log.idxOf Ev.mgr) := by
  intro ps'
  obtain ⟨hi, hck, hruns, _⟩ := report_rel ps h0 .closed os
  refine ⟨fun hm j hj => ?_, hi.ord⟩
  have hmc : 0 < mgrCnt (os.foldl envStep (startCall ps .closed)) := List.count_pos_iff.mpr hm
  have hci := hi.call
  unfold CallInv at hci
  have hone : cnt (os.foldl envStep (startCall ps .closed)) j .closed = 1 := by
    -- while the report is still in flight the manager has not been told
    rcases hck with ⟨w, e, hc⟩ | ⟨_, e, hc⟩ | ⟨ok, hc, _⟩ <;> rw [hc] at hci
    · have := (hci.2.1 rfl).2.2.2; omega
    · have := hci.2.2; omega
    · exact (hci.2 (hruns rfl)).1 j hj
  exact List.count_pos_iff.mp (Nat.lt_of_lt_of_eq Nat.one_pos hone.symm)

example :
    let ps : PSet := { chans := [{ cap := 1, queue := [.filler] }, { cap := 1 }], order := [1, 0] }
    let a := startCall ps .closed
    let b := [EnvOp.recv 0].foldl envStep a
    a.call = .protoSends .closed [0] false ∧ a.log = [.proto 1 .closed] ∧
    b.call = .result .closed true ∧ b.log = [.proto 1 .closed, .proto 0 .closed, .mgr] := by decide

/-- **A dead protocol stops nobody from being told.** Whatever receivers are gone before or go away
during `report_connection_closed`, once the call has returned every protocol whose receiver exists
has exactly one close message and so has the manager (if its receiver exists). -/
theorem live_protocols_all_told (ps : PSet) (h0 : Fresh ps) (os : List EnvOp) (ok : Bool) :
    let ps' := os.foldl envStep (startCall ps .closed)
    ps'.call = .result .closed ok →
      (∀ j, aliveAt ps' j → cnt ps' j .closed = 1) ∧ (ps'.mgr.alive = true → mgrCnt ps' = 1) := by
  intro ps' hres
  obtain ⟨hi, _, hruns, _⟩ := report_rel ps h0 .closed os
  have hci := hi.call
  unfold CallInv at hci; rw [hres] at hci
  exact hci.2 (hruns rfl)

example :
    let ps : PSet := { chans := [{ alive := false }, { cap := 1 }, { cap := 1 }], order := [0, 1, 2] }
    let a := [EnvOp.drop 2].foldl envStep (startCall ps .closed)
    a.call = .result .closed false ∧ a.log = [.proto 1 .closed, .proto 2 .closed, .mgr] := by decide

/-- In the application's event list every `ConnectionClosed c` comes after `ConnectionEstablished c`. -/
def AppOrdered (evs : List AppEv) : Prop :=
  ∀ c, AppEv.closed c ∈ evs → AppEv.established c ∈ evs ∧ evs.idxOf (AppEv.established c) < evs.idxOf (AppEv.closed c)

theorem onClosed_conns (st : PeerState) (c : Nat) :
    (st.onClosed c).1.conns = st.conns.erase c ∧
    ((st.onClosed c).2 = true ↔ c ∈ st.conns ∧ st.conns.erase c = []) := by
  cases st with
  | connected p sec =>
    by_cases h : p = c
    · subst h
      cases sec <;> simp [PeerState.onClosed, PeerState.conns]
    · cases sec with
      | secondary s => by_cases h2 : s = c <;> simp [PeerState.onClosed, PeerState.conns, h, Ne.symm h, h2]
      | _ => simp [PeerState.onClosed, PeerState.conns, h, Ne.symm h]
  | _ => simp [PeerState.onClosed, PeerState.conns]

theorem onEstablished_conns (st : PeerState) (c : Nat) :
    (st.onEstablished c).1.conns = if (st.onEstablished c).2 then st.conns ++ [c] else st.conns := by
  cases st with
  | connected p sec =>
    cases sec with
    | dialing d => by_cases h : d = c <;> simp [PeerState.onEstablished, PeerState.conns, h]
    | _ => simp [PeerState.onEstablished, PeerState.conns]
  | dialing d => by_cases h : d = c <;> simp [PeerState.onEstablished, PeerState.conns, h]
  | disconnected d =>
    cases d with
    | none => simp [PeerState.onEstablished, PeerState.conns]
    | some d => by_cases h : d = c <;> simp [PeerState.onEstablished, PeerState.conns, h]
  | opening d => simp [PeerState.onEstablished, PeerState.conns]

theorem canDial_alreadyConnected_iff (st : PeerState) : st.canDial = .alreadyConnected ↔ st.conns ≠ [] := by
  cases st with
  | connected p sec => cases sec <;> simp [PeerState.canDial, PeerState.conns]
  | disconnected d => cases d <;> simp [PeerState.canDial, PeerState.conns]
  | _ => simp [PeerState.canDial, PeerState.conns]

theorem mgrStep_events (st : PeerState) (x : MgrIn)
    (hf : match x with | .transportEstablished c _ => c ∉ st.conns | .connClosed _ => True) :
    (∀ c, AppEv.closed c ∈ (mgrStep st x).2 → c ∈ st.conns) ∧
    (∀ d ∈ (mgrStep st x).1.conns, d ∈ st.conns ∨ AppEv.established d ∈ (mgrStep st x).2) := by
  cases x with
  | transportEstablished c acc =>
    have h1 := onEstablished_conns st c
    simp only [mgrStep]
    rcases h : st.onEstablished c with ⟨st', b⟩
    rw [h] at h1
    cases b
    · simp_all
    · cases acc
      · -- the accept failed: rolled back through `on_connection_closed`
        have h2 := (onClosed_conns st' c).1
        rw [h1, if_pos rfl, List.erase_append_right _ hf] at h2
        simp_all
      · simp_all
  | connClosed c =>
    obtain ⟨h1, h2⟩ := onClosed_conns st c
    simp only [mgrStep]
    rcases h : st.onClosed c with ⟨st', b⟩
    rw [h] at h1 h2
    have hsub : ∀ d ∈ st'.conns, d ∈ st.conns := fun d hd => List.mem_of_mem_erase (h1 ▸ hd)
    cases b <;> simp_all

/-- Connection ids are fresh: the transport never announces an id the manager still tracks. -/
def FreshRun : PeerState → List MgrIn → Prop
  | _, [] => True
  | st, x :: xs =>
    (match x with
      | .transportEstablished c _ => c ∉ st.conns
      | .connClosed _ => True) ∧ FreshRun (mgrStep st x).1 xs

theorem appOrdered_append {acc : List AppEv} (h : AppOrdered acc) (out : List AppEv)
    (he : ∀ c, AppEv.closed c ∈ out → AppEv.established c ∈ acc) : AppOrdered (acc ++ out) := by
  intro d hd
  have hest : AppEv.established d ∈ acc := by
    rcases List.mem_append.mp hd with h1 | h1
    · exact (h d h1).1
    · exact he d h1
  refine ⟨List.mem_append_left _ hest, ?_⟩
  rw [List.idxOf_append, List.idxOf_append, if_pos hest]
  split
  · exact (h d ‹_›).2
  · have := List.idxOf_lt_length_iff.mpr hest
    omega

theorem mgrRun_ordered (xs : List MgrIn) : ∀ (st : PeerState) (acc : List AppEv), FreshRun st xs →
    AppOrdered acc → (∀ d ∈ st.conns, AppEv.established d ∈ acc) →
    AppOrdered (acc ++ (mgrRun st xs).2) := by
  induction xs with
  | nil => intro st acc _ h _; simpa [mgrRun] using h
  | cons x xs ih =>
    intro st acc hf h hg
    simp only [mgrRun]
    rw [← List.append_assoc]
    obtain ⟨h1, h2⟩ := mgrStep_events st x hf.1
    refine ih _ _ hf.2 (appOrdered_append h _ fun c hc => hg c (h1 c hc)) fun d hd => ?_
    rcases h2 d hd with h3 | h3
    · exact List.mem_append_left _ (hg d h3)
    · exact List.mem_append_right _ h3

/-- **The application's view.** (1) Handling a close event emits `ConnectionClosed` exactly when the
closed connection was tracked and no connection to the peer is left, and emits nothing otherwise.
(2) Over every history of transport and close events with fresh connection ids (accepts succeeding
or failing, primary and secondary connections, in any order) every `ConnectionClosed c` the
application sees is preceded by `ConnectionEstablished c`. -/
theorem app_closed_iff_last :
    (∀ st c, ((mgrStep st (.connClosed c)).2 = [AppEv.closed c] ↔
        (c ∈ st.conns ∧ (mgrStep st (.connClosed c)).1.conns = [])) ∧
      ((mgrStep st (.connClosed c)).2 = [AppEv.closed c] ∨ (mgrStep st (.connClosed c)).2 = [])) ∧
    (∀ xs, FreshRun (.disconnected none) xs → AppOrdered (mgrRun (.disconnected none) xs).2) := by
  refine ⟨fun st c => ?_, fun xs hf => ?_⟩
  · obtain ⟨h1, h2⟩ := onClosed_conns st c
    simp only [mgrStep]
    rcases h : st.onClosed c with ⟨st', b⟩
    rw [h] at h1 h2
    cases b <;> simp_all
  · have := mgrRun_ordered xs (.disconnected none) [] hf (fun c hc => by simp at hc)
      (fun d hd => by simp [PeerState.conns] at hd)
    simpa using this

/-- Non-vacuity: two connections to the peer; closing the first is silent, closing the second is
reported; a failed accept is rolled back silently. -/
example :
    FreshRun (.disconnected none) [.transportEstablished 1 true, .transportEstablished 2 true, .connClosed 1,
      .transportEstablished 3 false, .connClosed 2] ∧
    mgrRun (.disconnected none) [.transportEstablished 1 true, .transportEstablished 2 true, .connClosed 1,
      .transportEstablished 3 false, .connClosed 2] =
    (.disconnected none, [.established 1, .established 2, .closed 2]) := by
  refine ⟨by simp [FreshRun, mgrStep, PeerState.onEstablished, PeerState.onClosed, PeerState.conns], by decide⟩

/-- **One protocol having shut down does not cost the others a new connection.** With any set of
receivers gone before or going away during the call, channels full or not, under every interleaving with
the environment (`os`: protocols and manager popping messages, dropping their receivers, channels being
filled), `report_connection_established`
1. never returns an error (so `accept` never fails and the manager never rolls the connection back after
   some protocols were told);
2. whenever it has returned — at once or after having been suspended on full channels for any length of
   time — every protocol whose receiver exists has been told;
3. and while it is still suspended, every live protocol it is not waiting for has been told already.
(2 and 3 are the invariant `EstInv`, the counterpart of the close path's `CallInv`.) -/
theorem established_survives_dead_protocol (ps : PSet) (h0 : Fresh ps) (os : List EnvOp) :
    let ps' := os.foldl envStep (startCall ps .established)
    ps'.call ≠ .result .established false ∧
    (∀ ok, ps'.call = .result .established ok → ∀ j, aliveAt ps' j → Ev.proto j .established ∈ ps'.log) ∧
    (∀ w e, ps'.call = .protoSends .established w e →
      ∀ j, aliveAt ps' j → j ∉ w → Ev.proto j .established ∈ ps'.log) := by
  intro ps'
  obtain ⟨_, hck, _, hest⟩ := report_rel ps h0 .established os
  have h4 : EstInv ps' := hest (startCall_est ps h0.wf)
  refine ⟨?_, ?_, ?_⟩
  · intro hres
    rcases hck with ⟨w, e, hc⟩ | ⟨hk, _⟩ | ⟨ok, hc, hok⟩
    · rw [hc] at hres; cases hres
    · cases hk
    · rw [hc] at hres; injection hres with _ h5; rw [hok rfl] at h5; cases h5
  · intro ok hres
    unfold EstInv at h4; rw [hres] at h4; exact h4
  · intro w e hres
    unfold EstInv at h4; rw [hres] at h4; exact h4

/-- Non-vacuity with a suspension: protocol 1 of three is gone, protocol 0's channel is full. The call is
suspended waiting for 0 while 2 has been told (part 3); protocol 2 then shuts down as well, protocol 0
reads: the call returns `Ok` and the one live protocol has been told (part 2). -/
example :
    let ps : PSet := { chans := [{ cap := 1, queue := [.filler] }, { cap := 2, alive := false }, { cap := 2 }],
                       order := [2, 1, 0] }
    let a := startCall ps .established
    let b := [EnvOp.drop 2, EnvOp.recv 0].foldl envStep a
    a.call = .protoSends .established [0] true ∧ a.log = [.proto 2 .established] ∧
    b.call = .result .established true ∧ b.log = [.proto 2 .established, .proto 0 .established] := by decide

/-- **… and the connection stays usable for the live protocols** (permit-aware loop model
`Model/Conn/Permits.lean`, the one the real `TcpConnection::start` is driven against). For every state of
the loop satisfying the reporting invariant (`PInv`: every state reachable from a fresh connection, see
`close_report_waits_for_busy_protocol`) in which the loop is at its `select!`:
1. a protocol `d` shutting down (receiver, handle, substreams dropped) leaves the loop running, every other
   protocol `p` alive, the invariant intact and every negotiation in progress in `pending_substreams`;
2. when afterwards (or in any running state) a negotiation ends for a LIVE protocol `p` —
   `handle_negotiated_substream` → `report_substream_open` — the loop does not return; if `p`'s channel
   has room the `SubstreamOpened` message is enqueued and the loop is back at its `select!`; if the channel
   is full the loop is suspended in exactly that send (back-pressure of `p`'s own channel, nothing to do
   with the dead protocol); either way the substream is handed to `p` (`stage = queued`) with its permits. -/
theorem loop_usable_after_protocol_exit (s : TLoop) (hinv : PInv s.loop) (hr : s.running = true)
    (d k p : Nat) (x : Sub) (hdp : d ≠ p) (hp : protoAlive s p = true)
    (hk : s.subs[k]? = some x) (hx : x.stage = .negotiating) :
    let s1 := tstep s (.dropRx d)
    let s2 := tstep s1 (.negOk k p)
    (s1.running = true ∧ protoAlive s1 p = true ∧ PInv s1.loop ∧ s1.subs[k]? = some x) ∧
    s2.loop.exited = none ∧ s2.subs[k]? = some { x with proto := some p, stage := .queued } ∧
    (hasRoom s1 p → s2.running = true ∧ s2.loop.ps.call = .idle ∧
      s2.loop.ps.log = s1.loop.ps.log ++ [.proto p .substreamOpened]) ∧
    (¬ hasRoom s1 p → s2.loop.cont = some .substreamReport ∧
      s2.loop.ps.call = .protoSends (.substream p true) [p] false ∧ s2.loop.ps.log = s1.loop.ps.log) := by
  intro s1 s2
  obtain ⟨a1, a2, a3⟩ := dropRx_keeps_running s hinv hr d p hdp hp
  have a4 : s1.subs[k]? = some x :=
    (pending_step s (.dropRx d) k x hk (by rw [hx]; rfl) rfl ((running_iff _).mp a1).1).elim id
      (fun h => nomatch h.1)
  obtain ⟨b1, b2, b3, b4⟩ := neg_report s1 a1 k x a4 p a2 (.negOk k p) true (Or.inl ⟨rfl, hx, rfl⟩)
  exact ⟨⟨a1, a2, a3, a4⟩, b1, b2, b3, fun h => ⟨(b4 h).1, (b4 h).2.1, (b4 h).2.2.1⟩⟩

/-- Non-vacuity: three protocols take a connection, the remote opens a substream (negotiating), protocol 1
shuts down; the hypotheses hold for `d = 1`, `p = 2`, `k = 0`; the negotiation ends for protocol 2, the
message is enqueued, the loop keeps running; protocol 2 takes the substream. With protocol 2's channel
full instead, the loop waits in that send and goes on as soon as protocol 2 reads. -/
example :
    let s := trun (tinit [true, true, true] 2) [.recv 0, .recv 1, .recv 2, .accept]
    let s2 := trun s [.dropRx 1, .negOk 0 2]
    let s3 := trun s2 [.recv 2]
    let t := trun (tinit [true, true, true] 1) [.recv 0, .recv 1, .accept, .dropRx 1, .negOk 0 2]
    let t2 := trun t [.recv 2]
    PInv s.loop ∧ s.running = true ∧ protoAlive s 2 = true ∧ s.subs[0]? = some ⟨true, none, .negotiating⟩ ∧
    hasRoom (tstep s (.dropRx 1)) 2 ∧
    s2.running = true ∧ s2.loop.ps.log = [.proto 2 .substreamOpened] ∧ s3.subs = [⟨true, some 2, .held⟩] ∧
    ¬ hasRoom (trun (tinit [true, true, true] 1) [.recv 0, .recv 1, .accept, .dropRx 1]) 2 ∧
    t.loop.cont = some .substreamReport ∧ t.loop.exited = none ∧
    t2.running = true ∧ t2.loop.ps.log = [.proto 2 .substreamOpened] := by
  exact ⟨trun_pinv _ _ ((tinit_fresh _ _).pinv rfl rfl), by decide⟩

/-- Non-vacuity: protocol 1 of three has shut down. `accept` resolves `Ok`, protocols 0 and 2 are
told, the loop is spawned and stays usable: a substream for protocol 2 is delivered and the loop
keeps running; and the old behaviour (first error fails the accept) is gone. -/
example :
    let ps : PSet := { chans := [{ cap := 2 }, { cap := 2, alive := false }, { cap := 2 }], order := [0, 1, 2] }
    let r := accept ps
    r.2.2 = some true ∧ r.1.log = [.proto 0 .established, .proto 2 .established] ∧
    (r.2.1.map fun s => (run s [.loop (.yamuxStream true), .loop (.negotiated (.ok 2))]).exited) = some none ∧
    (r.2.1.map fun s => (run s [.loop (.yamuxStream true), .loop (.negotiated (.ok 2))]).ps.log) =
      some [.proto 0 .established, .proto 2 .established, .proto 2 .substreamOpened] := by decide

/-- **Accept: whoever is told "established" is told "closed" exactly once — and an accept is never abandoned midway**
(model `Model/Conn/Accept.lean` of `TcpTransport::accept`: notify the protocols, then spawn the loop, then resolve;
driven against the REAL future in the `tcploop` area, `conn .. via=accept`).

`report_connection_established` notifies the protocols concurrently: while it is suspended on a full channel the
protocols with room HAVE the event (and a strong handle). For every parked connection (any number of protocols, any
channel capacities) and EVERY schedule `ls` — the future being polled; protocols and the manager popping messages,
dropping their receivers, using/downgrading/dropping their handles, sending commands; other senders filling the
channels; and, once the loop exists, every loop event of `tstep`:

1. the future never resolves `Err` (`phase ≠ failed`): in the code as it is, abandoning an accept after some
   protocols were told is IMPOSSIBLE — `report_connection_established` has no error return, and nothing bounds it;
   a full channel only delays it (a bound such as a timeout around it would make `failed` reachable with protocols
   told and no loop to ever tell them "closed");
2. while it is suspended (`notifying`) it is suspended in exactly that call, and every live protocol it is not
   waiting for has been told;
3. as long as the loop has not been spawned nothing has been reported closed and nothing has returned;
4. nobody is ever told "closed" twice;
5. once the spawned loop has returned, the body of `report_connection_closed` has run exactly once: every protocol
   whose receiver exists — in particular every protocol the accept told "established" — has exactly one
   `ConnectionClosed`, and so has the manager. -/
theorem accept_established_then_closed (ka : List Bool) (cap mcap : Nat) (ls : List ALabel) :
    let a := arun (ainit ka cap mcap) ls
    a.phase ≠ .failed ∧
    (a.phase = .notifying → ∃ w e, a.t.loop.ps.call = .protoSends .established w e ∧
      ∀ j, aliveAt a.t.loop.ps j → j ∉ w → Ev.proto j .established ∈ a.t.loop.ps.log) ∧
    (a.phase ≠ .up → a.t.loop.exited = none ∧ (∀ j, cnt a.t.loop.ps j .closed = 0) ∧ mgrCnt a.t.loop.ps = 0) ∧
    ((∀ j, cnt a.t.loop.ps j .closed ≤ 1) ∧ mgrCnt a.t.loop.ps ≤ 1) ∧
    (a.t.loop.exited.isSome → a.phase = .up ∧ a.t.loop.ps.closedRuns = 1 ∧
      (∀ j, aliveAt a.t.loop.ps j → cnt a.t.loop.ps j .closed = 1) ∧
      (a.t.loop.ps.mgr.alive = true → mgrCnt a.t.loop.ps = 1)) := by
  intro a
  have h : AInv a := arun_inv ls _ (ainit_inv ka cap mcap)
  refine ⟨fun hf => by simp only [AInv, hf] at h, fun hn => ?_, ?_⟩
  · simp only [AInv, hn] at h
    obtain ⟨_, hest, w, e, hc⟩ := h
    refine ⟨w, e, hc, ?_⟩
    unfold EstInv at hest; rw [hc] at hest; exact hest
  · by_cases hup : a.phase = .up
    · have hr : PInv a.t.loop := by simpa only [AInv, hup] using h
      exact ⟨fun h => absurd hup h, ⟨hr.reports.1, hr.reports.2.1⟩, fun hex => ⟨hup, hr.reports.2.2 hex⟩⟩
    · obtain ⟨hpre, hz⟩ := h.pre hup
      exact ⟨fun _ => ⟨hpre.exited, hz⟩, ⟨hpre.inv.le, hpre.inv.mle⟩,
        fun hex => by rw [hpre.exited] at hex; cases hex⟩

/-- Non-vacuity: two protocols, channels of capacity 1; protocol 0 is busy (its channel is full of somebody else's
message) when the connection is accepted. The future is suspended waiting for protocol 0 while protocol 1 has been
told — for as long as protocol 0 stays busy, whatever protocol 1 does with its handle in the meantime. When
protocol 0 catches up the future resolves `Ok` and the loop exists; the remote closes the connection: both
protocols, then the manager, are told exactly once. -/
example :
    let a1 := arun (ainit [true, true] 1 4) [.t (.fill 0), .call]
    let a2 := arun a1 [.t (.recv 1), .t (.downgrade 1), .t (.recv 1), .t .recvMgr]
    let a3 := arun a2 [.t (.recv 0)]
    let a4 := arun a3 [.t (.recv 0), .t .yamuxEof]
    a1.phase = .notifying ∧ a1.t.loop.ps.call = .protoSends .established [0] false ∧
    a1.t.loop.ps.log = [.proto 1 .established] ∧
    a2.phase = .notifying ∧ a3.phase = .up ∧ a3.t.loop.ps.log = [.proto 1 .established, .proto 0 .established] ∧
    a4.t.loop.exited = some .ok ∧
    a4.t.loop.ps.log = [.proto 1 .established, .proto 0 .established, .proto 0 .closed, .proto 1 .closed, .mgr] := by
  decide

/-- **Dialable again.** When the loop has returned the manager has the close event (if it is still
running); handling it for the peer's only connection emits `ConnectionClosed` and leaves the peer in
a state in which `dial` is not refused with `AlreadyConnected` — with no dial pending it is `Ok`, the
dial is attempted. -/
theorem redial_after_close (s0 : Loop) (h0 : Fresh s0.ps) (hc : s0.cont = none) (hx : s0.exited = none)
    (ls : List Label) :
    ((run s0 ls).exited.isSome → (run s0 ls).ps.mgr.alive = true → Ev.mgr ∈ (run s0 ls).ps.log) ∧
    (∀ st c, st.conns = [c] →
      (mgrStep st (.connClosed c)).2 = [AppEv.closed c] ∧
      (mgrStep st (.connClosed c)).1.canDial ≠ .alreadyConnected) ∧
    (∀ c, (mgrStep (.connected c .none) (.connClosed c)).1.canDial = .ok) := by
  refine ⟨fun hex hal => ?_, fun st c hst => ?_, fun c => by simp [mgrStep, PeerState.onClosed, PeerState.canDial]⟩
  · have := (exit_reports_closed_once s0 h0 hc hx ls).2.2 hex
    have h1 := this.2.2 hal
    exact List.count_pos_iff.mp (by unfold mgrCnt at h1; omega)
  · -- the manager forgets `c` and tracks nothing else: the close is the last one, and no connection refuses a dial
    have hgone : (mgrStep st (.connClosed c)).1.conns = [] := by
      have := (onClosed_conns st c).1
      simp only [mgrStep]
      split <;> simp_all
    exact ⟨((app_closed_iff_last.1 st c).1).mpr ⟨by simp [hst], hgone⟩,
      fun h => (canDial_alreadyConnected_iff _).mp h hgone⟩

example : (mgrStep (.connected 7 .none) (.connClosed 7)) = (.disconnected none, [.closed 7]) ∧
    (PeerState.connected 7 .none).canDial = .alreadyConnected := by decide

end Litep2pVerif.Props.C07

open Litep2pVerif.Props.C07 in
#print axioms exit_reports_closed_once
open Litep2pVerif.Props.C07 in
#print axioms close_report_waits_for_busy_protocol
open Litep2pVerif.Props.C07 in
#print axioms protocols_before_manager
open Litep2pVerif.Props.C07 in
#print axioms live_protocols_all_told
open Litep2pVerif.Props.C07 in
#print axioms app_closed_iff_last
open Litep2pVerif.Props.C07 in
#print axioms established_survives_dead_protocol
open Litep2pVerif.Props.C07 in
#print axioms loop_usable_after_protocol_exit
open Litep2pVerif.Props.C07 in
#print axioms accept_established_then_closed
open Litep2pVerif.Props.C07 in
#print axioms redial_after_close
