import Litep2pVerif.Proofs.Addr.Reach
import Litep2pVerif.Proofs.Addr.Listener
import Litep2pVerif.Generated.Consts
import Litep2pVerif.Proofs.Manager.Basic
import Litep2pVerif.Proofs.Node.Wiring
import Litep2pVerif.Proofs.Addr.Open
import Litep2pVerif.Model.Noise.Identity
import Litep2pVerif.Model.Service.Known
/-!
# C10 — Peer address book stays bounded, attributable and dialable

The property theorems with their non-vacuity examples, and the definitions and small lemmas only they use (`scores`,
`StoreReach`, `pubRun`, the wiring `sample`); models in `Model/Addr/`, the other lemmas in `Proofs/Addr/`. Hash-map
iteration order is the list order of the model store; every theorem is stated for an arbitrary
store list, and the history theorems contain explicit `shuffle` steps, so they hold for every
iteration order the real `HashMap`/`HashSet` may choose.

Specification vocabulary used by the statements and defined in `Proofs/Addr/Reach.lean`:
`Admissible tcp listen peer a` (supported by an enabled transport ∧ not a local listen address ∧ last
component is `/p2p/peer` ∧ the TCP parser accepts it with that peer), `Reach m0 m H` (histories of
`add_known_address` in any set order / single learned addresses / dials / dial failures / connection
successes / open and dial bookkeeping / hash-map reshuffles; `H` = addresses handed to the transport).
-/
namespace Litep2pVerif.Props.C10
open Litep2pVerif Litep2pVerif.Addr

/-- The `scores` constants, regenerated from `address.rs` on every run. -/
def scores : Scores :=
  { established := (Consts.ADDR_CONNECTION_ESTABLISHED : Int)
    failure := -(Consts.ADDR_CONNECTION_FAILURE_NEG : Int)
    addressFailure := I32_MIN
    bonus := (Consts.ADDR_PUBLIC_ADDRESS_BONUS : Int) }

/-- **Every address `supported_transport` lets through is accepted by the TCP parser** (with the
peer it names), so dialing a remembered address cannot fail at parse time; the address has exactly
the shape host/tcp/p2p and the TCP transport is enabled. -/
theorem supported_implies_parse (tcp : Bool) (a : Multiaddr) (h : supportedTransport tcp a = true) :
    ∃ host port peer, tcpParse a = .ok ⟨host, port, some peer⟩ ∧
      a = [Host.comp host, .tcp port, .p2p peer] ∧ tcp = true := by
  obtain ⟨host, port, q, rfl, ht⟩ := supported_shape h
  exact ⟨host, port, q, tcpParse_shape host port q, rfl, ht⟩

example : supportedTransport true [.dns4 7, .tcp 30333, .p2p 3] = true ∧
    tcpParse [.dns4 7, .tcp 30333, .p2p 3] = .ok ⟨.dns4 7, 30333, some 3⟩ ∧
    supportedTransport true [.ip4 ⟨0, true, false, false⟩, .tcp 1, .p2p 3] = false ∧
    supportedTransport true [.dns4 7, .tcp 30333, .p2p 3, .p2p 4] = false ∧
    supportedTransport true [.dns4 7, .tcp 30333, .ws, .p2p 3] = false := by decide

/-- **An address is remembered for peer `p` only if** it names `p`, is supported by an enabled
transport, is not one of the node's listen addresses and is accepted by the transport's parser —
after every history of `add_known_address` calls (any iteration order of the address set), dials,
dial failures, connection successes and rediscoveries, for every hash-map iteration order. Every
address handed to the transport has the same properties. -/
theorem remembered_only_if (m0 m : Mgr) (H : List Multiaddr) (h0 : m0.peers = []) (h : Reach m0 m H) :
    (∀ p c, (p, c) ∈ m.peers → ∀ r ∈ c.store.recs, Admissible m0.tcp m0.listen p r.addr) ∧
    (∀ a ∈ H, ∃ p, Admissible m0.tcp m0.listen p a) :=
  ⟨(reach_inv h0 h).stores, (reach_inv h0 h).handed⟩

/-- Non-vacuity: a history that learns, dials, fails, succeeds; the accepted address is stored and
re-scored, the foreign / local / unsupported ones are not. -/
example :
    let m0 : Mgr := { Mgr.init 0 true (some 1) 64 scores with listen := [[.ip4 ⟨0, true, false, false⟩, .tcp 30]] }
    let good : Multiaddr := [.ip4 ⟨8, false, false, true⟩, .tcp 30, .p2p 1]
    let offered : List Multiaddr := [good, [.ip4 ⟨8, false, false, true⟩, .tcp 30, .p2p 2],
      [.ip4 ⟨127, false, true, false⟩, .tcp 30, .p2p 1], [.ip4 ⟨8, false, false, true⟩, .tcp 30, .ws, .p2p 1], good]
    admitted m0.tcp m0.listen 1 offered = [good] ∧
    ((m0.addKnownOrdered 1 [good]).dial 1).2 = .started 0 (some [good]) ∧
    (((m0.addKnownOrdered 1 [good]).dial 1).1.updateOnDialFailure good false).peers =
      [(1, ⟨.opening 0, ⟨[⟨good, -100⟩], 64⟩⟩)] := by decide

/-- The closure of `TransportService::add_known_address`, by the last component of the address. -/
theorem normalizeKnown_cases (peer : Nat) (a : Multiaddr) :
    (∃ q, lastP2p a = some q ∧ Service.normalizeKnown peer a = a) ∨
    (lastP2p a = none ∧ Service.normalizeKnown peer a = withP2p a peer) := by
  unfold Service.normalizeKnown lastP2p
  cases a.getLast? with
  | none => exact Or.inr ⟨rfl, rfl⟩
  | some c =>
    cases c with
    | p2p q => exact Or.inl ⟨q, rfl, rfl⟩
    | _ => exact Or.inr ⟨rfl, rfl⟩

/-- **What a protocol offers through its `TransportService` keeps its attribution**
(`TransportService::add_known_address`, the entry point of Kademlia / identify / user protocols, composed with the
handle's filter): every address that reaches the peer table of `peer` is admissible for `peer` (supported, not local,
trailing `/p2p/peer`, parsable) and is either one of the OFFERED addresses itself — which then names `peer` — or an
offered address WITHOUT a trailing `/p2p` with `/p2p/peer` appended; and an offered address whose trailing `/p2p` names
somebody else contributes nothing: it is never rewritten into an address of `peer`. -/
theorem service_add_known_address_keeps_attribution (tcp : Bool) (listen : List Multiaddr) (peer : Nat)
    (as : List Multiaddr) :
    (∀ b ∈ Service.addKnownAddress tcp listen peer as,
        Admissible tcp listen peer b ∧
        (b ∈ as ∨ ∃ a ∈ as, lastP2p a = none ∧ b = withP2p a peer)) ∧
    (∀ a q, lastP2p a = some q → q ≠ peer → Service.addKnownAddress tcp listen peer [a] = []) := by
  constructor
  · intro b hb
    obtain ⟨hmem, hadm⟩ := admitted_sound hb
    obtain ⟨a, ha, rfl⟩ := List.mem_map.1 hmem
    refine ⟨hadm, ?_⟩
    rcases normalizeKnown_cases peer a with ⟨_, _, hn⟩ | ⟨hl, hn⟩
    · exact Or.inl (by rw [hn]; exact ha)
    · exact Or.inr ⟨a, ha, hl, hn⟩
  · intro a q hq hne
    refine List.eq_nil_iff_forall_not_mem.2 fun b hb => ?_
    obtain ⟨hmem, _, _, hl, _⟩ := admitted_sound hb
    rcases normalizeKnown_cases peer a with ⟨_, _, hn⟩ | ⟨hnone, _⟩
    · rw [List.map_singleton, hn, List.mem_singleton] at hmem
      rw [hmem, hq] at hl
      exact hne (Option.some.inj hl)
    · rw [hq] at hnone
      cases hnone

/-- Non-vacuity: offered for peer 1 through the service — without id (kept, id appended), naming 1 (kept as offered),
naming 2 (refused, NOT rewritten), two `/p2p` components and a relay shape (not TCP addresses). -/
example :
    let ip : Comp := .ip4 ⟨8, false, false, true⟩
    Service.addKnownAddress true [] 1
      [[ip, .tcp 30], [ip, .tcp 31, .p2p 1], [ip, .tcp 32, .p2p 2], [ip, .tcp 33, .p2p 2, .p2p 1],
       [ip, .tcp 34, .p2p 2, .other 290, .p2p 1], [ip, .tcp 35, .p2p 2, .other 290]] =
      [[ip, .tcp 30, .p2p 1], [ip, .tcp 31, .p2p 1]] ∧
    Service.addKnownAddress true [] 1 [[ip, .tcp 32, .p2p 2]] = [] := by decide

/-- Histories of one address store: every way the manager touches a store is an `insert`
(learning, rediscovery, dial failure, dial success), in any iteration order. -/
inductive StoreReach (sc : Scores) (cap : Nat) : Store → Prop
  | empty : StoreReach sc cap ⟨[], cap⟩
  | shuffle {s} (π : List Rec) : StoreReach sc cap s → π.Perm s.recs → StoreReach sc cap { s with recs := π }
  | insert {s} (r : Rec) : StoreReach sc cap s → StoreReach sc cap (insert sc s r)

theorem storeReach_inv {sc : Scores} {cap : Nat} {s : Store} (h : StoreReach sc cap s) :
    s.recs.length ≤ s.cap ∧ s.cap = cap ∧ (s.recs.map (·.addr)).Nodup := by
  induction h with
  | empty => exact ⟨Nat.zero_le _, rfl, List.nodup_nil⟩
  | shuffle π _ hp ih => exact ⟨hp.length_eq ▸ ih.1, ih.2.1, (hp.map _).nodup_iff.2 ih.2.2⟩
  | insert r _ ih =>
    rw [insert_cap]
    exact ⟨insert_length_le _ _ _ ih.1, ih.2.1, insert_nodup _ _ _ ih.2.2⟩

/-- **The addresses remembered per peer never exceed the bound**, after any history of insertions,
re-scorings and rediscoveries and for any iteration order; addresses stay unique; and `insert`
never hits its `expect`. `AddressStore::new()` uses `MAX_ADDRESSES` (regenerated constant). -/
theorem store_bounded (sc : Scores) (s : Store) (h : StoreReach sc Consts.ADDR_MAX_ADDRESSES s) :
    s.recs.length ≤ Consts.ADDR_MAX_ADDRESSES ∧ s.cap = Consts.ADDR_MAX_ADDRESSES ∧
    (s.recs.map (·.addr)).Nodup ∧ ∀ r, insertPanics s r = false := by
  obtain ⟨hlen, hcap, hnd⟩ := storeReach_inv h
  exact ⟨hcap ▸ hlen, hcap, hnd, fun r => insertPanics_false s r (hcap ▸ by decide)⟩

/-- Non-vacuity (capacity 2 for readability): the third distinct address displaces a minimum. -/
example :
    let sc := scores
    let a (n : Nat) : Multiaddr := [.ip4 ⟨10, false, false, false⟩, .tcp n, .p2p 1]
    (insert sc (insert sc (insert sc ⟨[], 2⟩ ⟨a 1, 0⟩) ⟨a 2, 5⟩) ⟨a 3, 1⟩).recs = [⟨a 2, 5⟩, ⟨a 3, 1⟩] := by decide

/-- **At capacity the displaced record has minimal score, and the new one is stored iff its
(bonus-adjusted) score is at least that minimum.** Exactly what the code does for a new address
meeting a full store: some record `m` of minimal score exists such that either the newcomer is
worse than `m` and nothing changes, or `m` — and only `m` — is removed and the newcomer appended. -/
theorem evict_min (sc : Scores) (s : Store) (r : Rec)
    (hnew : hasAddr s.recs r.addr = false) (hfull : s.cap ≤ s.recs.length) (hne : s.recs ≠ [])
    (hnd : (s.recs.map (·.addr)).Nodup) :
    ∃ m ∈ s.recs, (∀ x ∈ s.recs, m.score ≤ x.score) ∧
      (if (withBonus sc r).score < m.score then insert sc s r = s
       else (insert sc s r).recs = removeAddr s.recs m.addr ++ [withBonus sc r] ∧
            (∀ x ∈ s.recs, x ∈ (insert sc s r).recs ↔ x ≠ m) ∧
            (insert sc s r).recs.length = s.recs.length) := by
  cases hm : minRec s.recs with
  | none => exact absurd (minRec_none hm) hne
  | some m =>
    obtain ⟨hmem, hmin⟩ := minRec_spec hm
    refine ⟨m, hmem, hmin, ?_⟩
    rw [insert_full hnew hfull hm]
    split
    · rfl
    · -- with unique addresses, dropping the address of `m` drops `m` and nothing else
      rw [removeAddr_eq_erase hnd hmem]
      refine ⟨rfl, fun x hx => ?_, ?_⟩
      · have hxr : x ≠ withBonus sc r := fun h =>
          hasAddr_eq_false.1 hnew x hx (h ▸ withBonus_addr sc r)
        simp [(nodup_of_map_addr hnd).mem_erase_iff, hx, hxr]
      · have := List.length_pos_of_mem hmem
        simp only [List.length_append, List.length_erase_of_mem hmem, List.length_singleton]
        omega

example :
    let sc := scores
    let a (n : Nat) : Multiaddr := [.ip4 ⟨10, false, false, false⟩, .tcp n, .p2p 1]
    let s : Store := ⟨[⟨a 1, 3⟩, ⟨a 2, -100⟩, ⟨a 3, 3⟩], 3⟩
    (insert sc s ⟨a 4, -100⟩).recs = [⟨a 1, 3⟩, ⟨a 3, 3⟩, ⟨a 4, -100⟩] ∧ insert sc s ⟨a 4, -101⟩ = s ∧
    -- a public address gets the bonus before the comparison; the bonus saturates
    (insert sc ⟨[⟨a 1, 3⟩], 1⟩ ⟨[.dns 5, .tcp 1, .p2p 1], 2⟩).recs = [⟨[.dns 5, .tcp 1, .p2p 1], 3⟩] ∧
    (insert sc ⟨[], 1⟩ ⟨[.dns 5, .tcp 1, .p2p 1], I32_MAX⟩).recs = [⟨[.dns 5, .tcp 1, .p2p 1], I32_MAX⟩] := by decide

/-- **A dial result changes the score of exactly the address used.** Inserting a record with a
non-zero score for an address already in the store (what all three update paths do; the three
score constants are non-zero on the regenerated values) keeps the set of addresses, leaves every
other record untouched and sets the score of that address to the given value (replaced, not
accumulated, no bonus). -/
theorem rescore_exact (sc : Scores) (s : Store) (a : Multiaddr) (v : Int)
    (hin : hasAddr s.recs a = true) (hv : v ≠ 0) :
    (insert sc s ⟨a, v⟩).recs.map (·.addr) = s.recs.map (·.addr) ∧
    (∀ x ∈ s.recs, x.addr ≠ a → x ∈ (insert sc s ⟨a, v⟩).recs) ∧
    (∀ x ∈ (insert sc s ⟨a, v⟩).recs, if x.addr = a then x.score = v else x ∈ s.recs) ∧
    scores.established ≠ 0 ∧ scores.failure ≠ 0 ∧ scores.addressFailure ≠ 0 := by
  rw [insert_known (r := ⟨a, v⟩) hin, if_pos hv]
  refine ⟨setScore_map_addr _ _ _, fun x hx hne => ?_, fun x hx => ?_, by decide, by decide, by decide⟩
  · exact mem_setScore.2 ⟨x, hx, by rw [if_neg hne]⟩
  · obtain ⟨y, hy, hxy⟩ := mem_setScore.1 hx
    split at hxy
    · rename_i h
      rw [hxy, if_pos h]
    · rename_i h
      rw [hxy, if_neg h]
      exact hy

example :
    let a (n : Nat) : Multiaddr := [.ip4 ⟨8, false, false, true⟩, .tcp n, .p2p 1]
    (insert scores ⟨[⟨a 1, 1⟩, ⟨a 2, 1⟩], 64⟩ ⟨a 2, scores.failure⟩).recs = [⟨a 1, 1⟩, ⟨a 2, -100⟩] ∧
    (insert scores ⟨[⟨a 1, 1⟩, ⟨a 2, -100⟩], 64⟩ ⟨a 2, scores.established⟩).recs = [⟨a 1, 1⟩, ⟨a 2, 100⟩] := by
  decide

/-- **The manager's update paths hit the address that was dialed.** For an address `a` remembered
for `p` (admissible): a dial failure inserts a record for `a` itself into `p`'s store, and a
success — reported by the TCP transport as `ip|dns + tcp` without `/p2p` — is turned back by
`AddressRecord::new` into exactly `a`; no other peer's context is touched. -/
theorem dial_result_rescores_used_address (m : Mgr) (p : Nat) (a : Multiaddr)
    (hA : Admissible m.tcp m.listen p a) (prs : Parsed) (hp : tcpParse a = .ok prs) (ae : Bool) :
    m.updateOnDialFailure a ae = m.rawInsert p ⟨a, errorScore m.sc ae⟩ ∧
    m.updateOnEstablished p (endpointAddr prs) false = m.rawInsert p ⟨a, m.sc.established⟩ ∧
    ∀ q, q ≠ p → ∀ r, lookupCtx q (m.rawInsert p r).peers = lookupCtx q m.peers := by
  refine ⟨updateOnDialFailure_eq hA.2.2.1 ae, ?_, fun q hq r => lookupCtx_setCtx_ne hq _ _⟩
  unfold Mgr.updateOnEstablished
  rw [if_neg Bool.false_ne_true, (endpoint_roundtrip hA hp).2]

example :
    let a : Multiaddr := [.dns 9, .tcp 30, .p2p 1]
    let m := (Mgr.init 0 true none 64 scores).addKnownOrdered 1 [a]
    tcpParse a = .ok ⟨.dns 9, 30, some 1⟩ ∧ endpointAddr ⟨.dns 9, 30, some 1⟩ = [.dns 9, .tcp 30] ∧
    (m.updateOnEstablished 1 [.dns 9, .tcp 30] false).peers = [(1, ⟨.disconnected, ⟨[⟨a, 100⟩], 64⟩⟩)] := by decide

/-- **Re-adding a known address does not erase its score**: a rediscovered address arrives with
score 0 (`AddressRecord::from_multiaddr`), and inserting it leaves the store exactly as it was —
in particular the dial-failure or dial-success score stays. Same for a whole batch of known
addresses through `extend` (what `add_known_address` calls). -/
theorem rediscovery_keeps_score (sc : Scores) (s : Store) (as : List Multiaddr)
    (hknown : ∀ a ∈ as, hasAddr s.recs a = true) :
    (∀ a ∈ as, ∀ r, Rec.fromMultiaddr a = some r → insert sc s r = s) ∧
    extend sc s (as.filterMap Rec.fromMultiaddr) = s := by
  have one : ∀ a ∈ as, ∀ r, Rec.fromMultiaddr a = some r → insert sc s r = s := by
    intro a ha r hr
    rw [fromMultiaddr_eq hr, insert_known (r := ⟨a, 0⟩) (hknown a ha)]
    exact if_neg fun h => h rfl
  refine ⟨one, extend_eq_self fun r hr => ?_⟩
  obtain ⟨a, ha, hfa⟩ := List.mem_filterMap.1 hr
  exact one a ha r hfa

example :
    let a : Multiaddr := [.ip4 ⟨8, false, false, true⟩, .tcp 9999, .p2p 1]
    let s := insert scores (insert scores ⟨[], 64⟩ ⟨a, 0⟩) ⟨a, scores.failure⟩
    s.recs = [⟨a, -100⟩] ∧ Rec.fromMultiaddr a = some ⟨a, 0⟩ ∧ insert scores s ⟨a, 0⟩ = s := by decide

/-- **A dial by peer id tries addresses in non-increasing score order, limited by the free
outbound capacity, and only remembered ones**: the records selected by `addresses(limit)` are
sorted by non-increasing score, at most `limit` many, together with the unselected rest they are a
permutation of the store (a sub-multiset), and nothing unselected scores higher than something
selected. `dial(peer)` hands exactly `addresses(max_outgoing − outgoing)` of the peer's store to
the transport. -/
theorem dial_order (s : Store) (limit : Option Nat) :
    (selectRecs s limit).Pairwise (fun x y => y.score ≤ x.score) ∧
    (∀ n, limit = some n → (selectRecs s limit).length ≤ n) ∧
    (∃ rest, (selectRecs s limit ++ rest).Perm s.recs ∧
      ∀ x ∈ rest, ∀ y ∈ selectRecs s limit, x.score ≤ y.score) ∧
    (∀ (m : Mgr) (peer conn : Nat) (as : List Multiaddr), (m.dial peer).2 = .started conn (some as) →
      ∃ lim, m.availableCapacity = some lim ∧ as = addresses (m.ctx peer).store lim ∧
        ∀ mx, m.maxOut = some mx → lim = some (mx - m.usedOut)) := by
  refine ⟨(sortDesc_sorted _).sublist (selectRecs_sublist s limit), ?_, ?_, ?_⟩
  · rintro n rfl
    exact List.length_take_le n _
  · cases limit with
    | none => exact ⟨[], by rw [List.append_nil]; exact sortDesc_perm _, nofun⟩
    | some n =>
      refine ⟨(sortDesc s.recs).drop n, ?_, fun x hx y hy => ?_⟩
      · rw [selectRecs, List.take_append_drop]
        exact sortDesc_perm _
      · exact (sortDesc_sorted s.recs).rel_of_mem_take_of_mem_drop hy hx
  · intro m peer conn as h
    obtain ⟨lim, hlim, has⟩ := (dial_spec m peer).2.2.2 conn as h
    refine ⟨lim, hlim, has, fun mx hmx => ?_⟩
    simp only [Mgr.availableCapacity, hmx] at hlim
    split at hlim <;> cases hlim
    rfl

example :
    let a (n : Nat) : Multiaddr := [.ip4 ⟨10, false, false, false⟩, .tcp n, .p2p 1]
    let s : Store := ⟨[⟨a 1, 0⟩, ⟨a 2, 100⟩, ⟨a 3, -100⟩, ⟨a 4, 100⟩, ⟨a 5, 1⟩], 64⟩
    addresses s (some 3) = [a 2, a 4, a 5] ∧ addresses s none = [a 2, a 4, a 5, a 1, a 3] ∧
    (let m : Mgr := { Mgr.init 0 true (some 4) 64 scores with peers := [(1, ⟨.disconnected, s⟩)], usedOut := 2 }
     (m.dial 1).2 = .started 0 (some [a 2, a 4])) := by decide

/-- **Every listen address the listener reports is one the transport's own parser accepts and maps
back to a bound socket**: for every configured address list, every outcome of the operating
system's bind attempts (`os`) and every interface list, a reported address is `ip/tcp` without a
peer, `multiaddr_to_socket_address` returns exactly the socket address it was made from, its port is
the local port of one of the listeners, and its IP is that listener's IP or — for a listener bound
to the unspecified address — an interface address of the same family. -/
theorem listen_address_roundtrip (ifaces : Option (List IpAddr)) (os : List (Option Nat))
    (addrs : List Multiaddr) (m : Multiaddr) (hm : m ∈ reportedAddrs (bindAll ifaces os addrs)) :
    ∃ b ∈ bindAll ifaces os addrs, ∃ s ∈ b.reported,
      m = socketToMultiaddr s ∧ tcpParse m = .ok ⟨s.ip.host, s.port, none⟩ ∧ bindTarget m = some s ∧
      s.port = b.sock.port ∧
      (s.ip = b.sock.ip ∨
        (b.sock.ip.isUnspecified = true ∧ s.ip.isV4 = b.sock.ip.isV4 ∧ ∃ l, ifaces = some l ∧ s.ip ∈ l)) := by
  obtain ⟨b, hb, s, hs, rfl⟩ := mem_reportedAddrs hm
  obtain ⟨hw, _⟩ := bindAll_spec ifaces addrs os b hb
  refine ⟨b, hb, s, hs, rfl, tcpParse_socketToMultiaddr s, bindTarget_socketToMultiaddr s, (hw s hs).1, ?_⟩
  rcases (hw s hs).2 with ⟨_, heq⟩ | h
  · exact Or.inl heq
  · exact Or.inr h

example :
    let lo : Ip := ⟨2130706433, false, true, false⟩
    let eth : Ip := ⟨3221225986, false, false, false⟩
    let un : Ip := ⟨0, true, false, false⟩
    let ll : Ip := ⟨0xfe80 * 2 ^ 112 + 1, false, false, false⟩
    let bs := bindAll (some [.v4 lo, .v4 eth, .v6 ll]) [some 4001, none, some 4002, some 4003]
      [[.ip4 lo, .tcp 0], [.dns 5, .tcp 0], [.ip4 eth, .tcp 7], [.ip4 un, .tcp 0], [.ip4 lo, .udp 1], [.ip6 un, .tcp 0]]
    reportedAddrs bs = [[.ip4 lo, .tcp 4001], [.ip4 lo, .tcp 4002], [.ip4 eth, .tcp 4002]] ∧
    bs.map (·.sock) = [⟨.v4 lo, 4001⟩, ⟨.v4 un, 4002⟩, ⟨.v6 un, 4003⟩] := by decide

/-- **Only `ip4|ip6 / tcp` addresses are bound**: every listener stems from a configured address
the TCP parser accepts as a socket address with the listener's IP; a DNS address never produces a
listener; there are at most as many listeners as configured addresses. -/
theorem listener_binds_only_sockets (ifaces : Option (List IpAddr)) (os : List (Option Nat))
    (addrs : List Multiaddr) :
    (∀ b ∈ bindAll ifaces os addrs, ∃ a ∈ addrs, ∃ t rest, bindTarget a = some t ∧ b.sock.ip = t.ip ∧
        a = t.ip.comp :: .tcp t.port :: rest) ∧
    (bindAll ifaces os addrs).length ≤ addrs.length ∧
    (∀ h rest more, bindAll ifaces os ((.dns h :: rest) :: more) = bindAll ifaces os more ∧
      bindAll ifaces os ((.dns4 h :: rest) :: more) = bindAll ifaces os more ∧
      bindAll ifaces os ((.dns6 h :: rest) :: more) = bindAll ifaces os more) := by
  refine ⟨?_, bindAll_length ifaces addrs os, ?_⟩
  · intro b hb
    obtain ⟨_, a, ha, t, ht, hip⟩ := bindAll_spec ifaces addrs os b hb
    obtain ⟨rest, hr⟩ := bindTarget_shape ht
    exact ⟨a, ha, t, rest, ht, hip, hr⟩
  · intro h rest more
    exact ⟨bindAll_skip (bindTarget_not_ip (.dns h) rest nofun nofun) more,
      bindAll_skip (bindTarget_not_ip (.dns4 h) rest nofun nofun) more,
      bindAll_skip (bindTarget_not_ip (.dns6 h) rest nofun nofun) more⟩

example : bindAll (some []) [some 1, some 2] [[.dns 5, .tcp 0], [.ip4 ⟨9, false, false, true⟩, .tcp 0, .p2p 3]] =
    [⟨⟨.v4 ⟨9, false, false, true⟩, 1⟩, [⟨.v4 ⟨9, false, false, true⟩, 1⟩]⟩] := by decide

/-- **A reported listen address is dialable by others and recognised as local by the node itself**:
if no interface address is unspecified, a reported address with any `/p2p` appended passes
`supported_transport`, and once registered as a listen address `is_local_address` refuses to
remember it (with or without a peer id) — so the node never stores its own listen addresses. -/
theorem reported_dialable_and_local (ifaces : Option (List IpAddr)) (os : List (Option Nat))
    (addrs : List Multiaddr) (m : Multiaddr) (hm : m ∈ reportedAddrs (bindAll ifaces os addrs))
    (hif : ∀ l, ifaces = some l → ∀ i ∈ l, i.isUnspecified = false) (q localPeer : Nat)
    (listen listen' : List Multiaddr) (hreg : registerListen localPeer listen m = some listen') :
    supportedTransport true (withP2p m q) = true ∧ isLocalAddress listen' (withP2p m q) = true ∧
      isLocalAddress listen' m = true := by
  obtain ⟨b, hb, s, hs, rfl⟩ := mem_reportedAddrs hm
  obtain ⟨hw, _⟩ := bindAll_spec ifaces addrs os b hb
  have hun : s.ip.isUnspecified = false := by
    rcases (hw s hs).2 with ⟨hu, heq⟩ | ⟨_, _, l, hl, hmem⟩
    · rw [heq]; exact hu
    · exact hif l hl s.ip hmem
  have hmemL : socketToMultiaddr s ∈ listen' := by
    rw [registerListen_some hreg]
    simp
  obtain ⟨h0, hq⟩ := takeWhile_reported s
  exact ⟨supported_reported s q hun, isLocalAddress_of_mem (by rw [hq]; exact hmemL),
    isLocalAddress_of_mem (by rw [h0]; exact hmemL)⟩

example :
    let lo : Ip := ⟨2130706433, false, true, false⟩
    let m : Multiaddr := [.ip4 lo, .tcp 4001]
    m ∈ reportedAddrs (bindAll none [some 4001] [[.ip4 lo, .tcp 0]]) ∧
    registerListen 0 [] m = some [m, withP2p m 0] ∧
    supportedTransport true (withP2p m 7) = true ∧ isLocalAddress [m, withP2p m 0] (withP2p m 7) = true := by decide

/-- **The local address for an outbound connection reuses a listen port of the same kind or none**:
without port reuse no local address is chosen; with it, the address is the unspecified address of
the remote's family with the port of a listen address of the same family and loopback-ness, and
`Err(())` is returned exactly when no listen address is of that kind. -/
theorem local_dial_sound (reusePort : Bool) (bs : List Bound) (remote : IpAddr) :
    (reusePort = false → localDial (dialAddresses reusePort bs) remote = .ok none) ∧
    (∀ s, localDial (dialAddresses reusePort bs) remote = .ok (some s) →
      reusePort = true ∧ s.ip.isUnspecified = true ∧ s.ip.isV4 = remote.isV4 ∧
      ∃ a ∈ reportedSockets bs, a.port = s.port ∧ a.ip.isV4 = remote.isV4 ∧
        a.ip.isLoopback = remote.isLoopback) ∧
    (localDial (dialAddresses reusePort bs) remote = .error () ↔
      reusePort = true ∧ ∀ a ∈ reportedSockets bs, dialCandidate remote a = false) := by
  cases reusePort with
  | false => exact ⟨fun _ => rfl, nofun, nofun, fun h => nomatch h.1⟩
  | true =>
    refine ⟨nofun, fun s h => ⟨rfl, localDial_some h⟩, ?_⟩
    exact localDial_error.trans ⟨fun h => ⟨rfl, h⟩, And.right⟩

example :
    let lo : Ip := ⟨2130706433, false, true, false⟩
    let eth : Ip := ⟨3221225986, false, false, false⟩
    let bs : List Bound := [⟨⟨.v4 lo, 4001⟩, [⟨.v4 lo, 4001⟩]⟩, ⟨⟨.v4 eth, 4002⟩, [⟨.v4 eth, 4002⟩]⟩]
    localDial (dialAddresses true bs) (.v4 ⟨134744072, false, false, true⟩) = .ok (some ⟨.v4 unspecified4, 4002⟩) ∧
    localDial (dialAddresses true bs) (.v4 ⟨2130706434, false, true, false⟩) = .ok (some ⟨.v4 unspecified4, 4001⟩) ∧
    localDial (dialAddresses true bs) (.v6 ⟨1, false, true, false⟩) = .error () ∧
    localDial (dialAddresses false bs) (.v6 ⟨1, false, true, false⟩) = .ok none := by decide

/-- **A DNS address resolves to an address of the family its kind demands**: `lookup_ip` keeps the
port; `/dns4` yields an IPv4 and `/dns6` an IPv6 member of the resolver's answer, `/dns` any member;
`IpVersionMismatch` is returned only if the answer has no member of the demanded family and
`ResolveError` only if the lookup itself failed; socket addresses are returned unchanged
(`LookupOk`, `Proofs/Addr/Listener.lean`, spells this out per kind of host). -/
theorem lookup_respects_dns_type (h : Host) (port : Nat) (answer : Option (List IpAddr)) :
    (∀ s, lookupIp h port answer = .ok s → s.port = port ∧ LookupOk h answer s) ∧
    (lookupIp h port answer = .error .mismatch → ∃ l, answer = some l ∧ ∀ ip ∈ l, dnsWants h ip = false) ∧
    (lookupIp h port answer = .error .resolve → answer = none) := by
  cases h with
  | ip4 i | ip6 i => exact ⟨fun _ hl => by cases hl; exact ⟨rfl, rfl⟩, nofun, nofun⟩
  | dns n | dns4 n | dns6 n =>
    cases answer with
    | none => exact ⟨nofun, nofun, fun _ => rfl⟩
    | some l =>
      simp only [lookupIp]
      cases hf : l.find? (dnsWants _) with
      | none => exact ⟨nofun, fun _ => ⟨l, rfl, fun ip hip => by simpa using List.find?_eq_none.1 hf ip hip⟩, nofun⟩
      | some ip =>
        refine ⟨fun _ hl => ?_, nofun, nofun⟩
        cases hl
        have hm := List.mem_of_find?_eq_some hf
        have hp := List.find?_some hf
        exact ⟨rfl, by simp_all [LookupOk, dnsWants]⟩

example :
    let a4 : IpAddr := .v4 ⟨16909060, false, false, true⟩
    let a6 : IpAddr := .v6 ⟨7, false, false, true⟩
    lookupIp (.dns6 1) 30333 (some [a4, a6]) = .ok ⟨a6, 30333⟩ ∧
    lookupIp (.dns4 1) 30333 (some [a6]) = .error .mismatch ∧
    lookupIp (.dns 1) 30333 (some [a4, a6]) = .ok ⟨a4, 30333⟩ ∧
    lookupIp (.dns 1) 30333 none = .error .resolve := by decide

/-- A history of `PublicAddresses::{add_address, remove_address}` calls. -/
inductive PubOp where
  | add (a : Multiaddr)
  | remove (a : Multiaddr)

def pubRun (localPeer : Nat) : List Multiaddr → List PubOp → List Multiaddr
  | set, [] => set
  | set, .add a :: ops => pubRun localPeer (publicAdd localPeer set a).1 ops
  | set, .remove a :: ops => pubRun localPeer (publicRemove set a).1 ops

theorem pubRun_inv {lp : Nat} : ∀ (ops : List PubOp) {set : List Multiaddr},
    (∀ x ∈ set, lastP2p x = some lp) → ∀ a ∈ pubRun lp set ops, lastP2p a = some lp
  | [], _, h => h
  | .add a :: ops, _, h => pubRun_inv ops (publicAdd_inv a h)
  | .remove a :: ops, _, h => pubRun_inv ops (publicRemove_inv a h)

/-- **Every public address names the local peer**: after any history of additions and removals
every address in the set ends in `/p2p/<local peer>`; an address naming another peer or the empty
address is refused and leaves the set unchanged. -/
theorem public_addresses_name_local (localPeer : Nat) (ops : List PubOp) :
    (∀ a ∈ pubRun localPeer [] ops, lastP2p a = some localPeer) ∧
    (∀ set a q, lastP2p a = some q → q ≠ localPeer →
      publicAdd localPeer set a = (set, .error .differentPeer)) ∧
    (∀ set, publicAdd localPeer set [] = (set, .error .empty)) := by
  refine ⟨pubRun_inv ops nofun, fun set a q hq hne => ?_, fun set => rfl⟩
  rw [publicAdd, ensureLocalPeer_other hq hne]

example :
    pubRun 0 [] [.add [.dns 1, .tcp 5], .add [.dns 1, .tcp 5, .p2p 0], .add [.dns 2, .tcp 5, .p2p 9], .add [],
      .add [.dns 3, .tcp 1], .remove [.dns 3, .tcp 1]] = [[.dns 1, .tcp 5, .p2p 0], [.dns 3, .tcp 1, .p2p 0]] := by
  decide

/-- **A dial requested through the handle reaches the manager only for a known, dialable peer**:
`TransportManagerHandle::dial` queues a command only if the peer is not the local one, is known,
is not already being dialed and has at least one remembered address; in every other case the
manager state is untouched. The queued command runs `TransportManager::dial`, so the address list
handed to the transport obeys `dial_order`. -/
theorem handle_dial_guarded (m : Mgr) (peer : Nat) :
    ((m.handleDial peer).2.1 = .queued →
      peer ≠ m.localPeer ∧ (∃ c, lookupCtx peer m.peers = some c ∧ c.st = .disconnected ∧ c.store.recs ≠ []) ∧
      (m.handleDial peer).1 = (m.dial peer).1 ∧ (m.handleDial peer).2.2 = some (m.dial peer).2) ∧
    ((m.handleDial peer).2.1 ≠ .queued → (m.handleDial peer).1 = m ∧ (m.handleDial peer).2.2 = none) ∧
    (peer = m.localPeer → (m.handleDial peer).2.1 = .self) := by
  by_cases hg : m.handleDialGuard peer = .queued
  · rw [handleDial_queued hg]
    obtain ⟨hne, hc⟩ := handleDialGuard_queued hg
    exact ⟨fun _ => ⟨hne, hc, rfl, rfl⟩, fun h => absurd rfl h, fun h => absurd h hne⟩
  · rw [handleDial_refused hg]
    exact ⟨fun h => absurd h hg, fun _ => ⟨rfl, rfl⟩, handleDialGuard_self⟩

example :
    let a : Multiaddr := [.ip4 ⟨10, false, false, false⟩, .tcp 1, .p2p 1]
    let m : Mgr := { Mgr.init 0 true none 64 scores with peers := [(1, ⟨.disconnected, ⟨[⟨a, 0⟩], 64⟩⟩), (2, ⟨.disconnected, ⟨[], 64⟩⟩)] }
    (m.handleDial 1).2 = (.queued, some (.started 0 (some [a]))) ∧ (m.handleDial 0).2 = (.self, none) ∧
    (m.handleDial 2).2 = (.noAddress, none) ∧ (m.handleDial 3).2 = (.noAddress, none) ∧
    ((m.handleDial 1).1.handleDial 1).2 = (.inProgress, none) := by decide

end Litep2pVerif.Props.C10

open Litep2pVerif.Props.C10 in
#print axioms remembered_only_if
open Litep2pVerif.Props.C10 in
#print axioms service_add_known_address_keeps_attribution
open Litep2pVerif.Props.C10 in
#print axioms supported_implies_parse
open Litep2pVerif.Props.C10 in
#print axioms store_bounded
open Litep2pVerif.Props.C10 in
#print axioms evict_min
open Litep2pVerif.Props.C10 in
#print axioms rescore_exact
open Litep2pVerif.Props.C10 in
#print axioms dial_result_rescores_used_address
open Litep2pVerif.Props.C10 in
#print axioms rediscovery_keeps_score
open Litep2pVerif.Props.C10 in
#print axioms dial_order
open Litep2pVerif.Props.C10 in
#print axioms listen_address_roundtrip
open Litep2pVerif.Props.C10 in
#print axioms listener_binds_only_sockets
open Litep2pVerif.Props.C10 in
#print axioms reported_dialable_and_local
open Litep2pVerif.Props.C10 in
#print axioms local_dial_sound
open Litep2pVerif.Props.C10 in
#print axioms lookup_respects_dns_type
open Litep2pVerif.Props.C10 in
#print axioms public_addresses_name_local
open Litep2pVerif.Props.C10 in
#print axioms handle_dial_guarded

/-! ## Manager level — a dial failure is scored in EVERY peer state (coverage round `mgr2`)

Over the connection-manager model `Model/Manager/Dial.lean` (the operational copy of
`src/transport/manager/mod.rs` that C05/C06 use; its `PeerState` is the full machine: `Connected` with a
secondary connection or a parked dial record, `Disconnected` with a dial record, `Opening`, `Dialing`).
It is tied to the real `TransportManager` by the c05 area; C10's check runs manager-level histories there with
the address store printed around every dial outcome. -/
namespace Litep2pVerif.Props.C10.Manager
open Litep2pVerif Litep2pVerif.Manager

theorem storeInsert_known {st : List AddrRec} {a : Multiaddr} {v : Int} {r : AddrRec} (hr : r ∈ st)
    (hra : r.addr = a) (hv : v ≠ 0) :
    storeInsert st a v = st.map fun r => if r.addr = a then { r with score := v } else r := by
  have hany : st.any (fun r => r.addr == a) = true := List.any_eq_true.2 ⟨r, hr, beq_iff_eq.2 hra⟩
  rw [storeInsert, if_pos hany, if_pos hv]

theorem mem_storeInsert_of_ne {st : List AddrRec} {a : Multiaddr} {r : AddrRec} (hr : r ∈ st) (hra : r.addr ≠ a)
    (v : Int) : r ∈ storeInsert st a v := by
  unfold storeInsert
  split
  · split
    · exact List.mem_map.2 ⟨r, hr, if_neg hra⟩
    · exact hr
  · exact List.mem_append_left _ hr

/-- **A dial failure re-scores exactly the address used, whatever state the peer is in.** For EVERY
manager state `s` (no reachability assumption: every `PeerState` of every peer, every pending table —
in particular `Connected` with the failed dial parked as secondary record, i.e. the remote's own
connection won the simultaneous-dial race), every connection id and every failed address `a` ending in
`/p2p/p`: after `TransportEvent::DialFailure { a, e }` the address book of `p` is the old one with `a`
scored `error_score(e)` (`AddressStore::insert` of a non-zero score: an existing record takes the score,
a new one is added), every record of another address is as before, and no other peer's book changes. -/
theorem dial_failure_rescored_in_every_state (s : Mgr) (c : ConnId) (a : Multiaddr) (e : DialErr) (p : Peer)
    (hp : lastPeer a = some p) :
    let s' := (onDialFailure s c a e).1
    (s'.peers p).addresses = storeInsert (s.peers p).addresses a (errorScore e) ∧
    (∀ r ∈ (s.peers p).addresses, r.addr = a →
      (⟨a, errorScore e⟩ : AddrRec) ∈ (s'.peers p).addresses ∧
      ∀ r' ∈ (s'.peers p).addresses, r'.addr = a → r'.score = errorScore e) ∧
    (∀ r ∈ (s.peers p).addresses, r.addr ≠ a → r ∈ (s'.peers p).addresses) ∧
    (∀ q, q ≠ p → (s'.peers q).addresses = (s.peers q).addresses) := by
  have hne : errorScore e ≠ 0 := by cases e <;> decide
  have hbook : ∀ q, (((onDialFailure s c a e).1).peers q).addresses =
      if q = p then storeInsert (s.peers p).addresses a (errorScore e) else (s.peers q).addresses := by
    intro q
    unfold onDialFailure
    split
    · simp only [updAddrFail, hp, updAddr]
      split <;> rfl
    · simp only [updAddrFail, hp, updAddr, setState]
      split
      · rename_i h
        rw [h]
        split <;> rfl
      · split <;> rfl
  intro s'
  have hp' : (s'.peers p).addresses = storeInsert (s.peers p).addresses a (errorScore e) :=
    (hbook p).trans (if_pos rfl)
  refine ⟨hp', fun r hr hra => ?_, fun r hr hra => hp' ▸ mem_storeInsert_of_ne hr hra _,
    fun q hq => (hbook q).trans (if_neg hq)⟩
  rw [hp', storeInsert_known hr hra hne]
  refine ⟨List.mem_map.2 ⟨r, hr, by rw [if_pos hra, ← hra]⟩, fun r' hr' hra' => ?_⟩
  obtain ⟨x, _, rfl⟩ := List.mem_map.1 hr'
  split
  · rfl
  · rename_i hxa
    rw [if_neg hxa] at hra'
    exact absurd hra' hxa

/-- Non-vacuity: the simultaneous-dial race. `dial_address(A)` for peer 1 is in flight, peer 1's own inbound
connection is established (state `Connected` with the dial parked as secondary record), then the dial fails with
a timeout: `A` goes from 0 to `CONNECTION_FAILURE`; the peer stays connected through the inbound connection. The
same failure with an address error scores `ADDRESS_FAILURE`; a second, known address keeps its score. -/
example :
    let A : Multiaddr := [.ip4 11, .tcp 1001, .p2p 1]
    let B : Multiaddr := [.ip4 12, .tcp 1002, .p2p 1]
    let g := runG (G.init ⟨none, none⟩)
      [.addKnown 1 [B], .dialAddress A, .alloc, .evEstablished 1 ⟨true, [.ip4 51, .tcp 4000], 1⟩ true]
    stateOf g.m 1 = .connected ⟨[.ip4 51, .tcp 4000, .p2p 1], 1⟩ (some (.dialing ⟨A, 0⟩)) ∧
    (g.m.peers 1).addresses = [⟨B, 0⟩, ⟨A, 0⟩] ∧
    ((onDialFailure g.m 0 A .timeout).1.peers 1).addresses = [⟨B, 0⟩, ⟨A, -100⟩] ∧
    ((onDialFailure g.m 0 A .address).1.peers 1).addresses = [⟨B, 0⟩, ⟨A, -2147483648⟩] ∧
    stateOf (onDialFailure g.m 0 A .timeout).1 1 = .connected ⟨[.ip4 51, .tcp 4000, .p2p 1], 1⟩ none := by
  decide

end Litep2pVerif.Props.C10.Manager

#print axioms Litep2pVerif.Props.C10.Manager.dial_failure_rescored_in_every_state
/-! ## Wiring — the order in which the transport attempts the addresses of a dial (added after seeded C10-e2)

Over the wiring model `Model/Node/Wiring.lean` (`Node.new c` = `Litep2p::new(ConfigBuilder…build())`, `notes` / `tcpHeld` =
what the constructed protocol objects / the TCP transport hold, `protocolCodec` = `ProtocolSet::protocol_codec`), tied to
the real code by the `node` area: real nodes built through the public API print what the CONSTRUCTED objects hold and what
a connection's `ProtocolSet` answers for every main and fallback name; the driver prints the model's; compared exactly. -/
namespace Litep2pVerif.Props.C10.Wiring
open Litep2pVerif Litep2pVerif.Node

/-- Kademlia setter calls of the sample: a later call overrides an earlier one; zero bounds. -/
def sampleSets : List KadSet := [.maxRecords 5, .replication 3, .maxRecords 0, .maxProviderKeys 0, .validationMode false]

/-- A configuration with fallback names, zero store bounds and non-default transport settings (non-vacuity examples). -/
def sample : Config :=
  { keepAliveMs := some 600, listen := [1],
    notif := [{ name := "/n/new", max := 32, handshake := "01", fallback := ["/n/a"], mode := 'a', sync := some 7, async := none,
                dial := some false }],
    rr := [{ name := "/r/new", max := 256, timeoutMs := 800, fallback := ["/r/a", "/r/b"], maxInbound := some 3 }],
    user := [⟨"/u/a", .identity 8⟩],
    kad := [{ names := ["/k/2", "/k/1"], max := some 2048,
              sets := sampleSets }],
    ping := some 1, identify := true, bitswap := true, maxParallelDials := some 0,
    tcpSets := [.readAhead 3, .parallelDials 7, .writeBuffer 4] }

/-- `TcpTransport::open` (`Model/Addr/Open.lean`: `stream::iter(addresses).buffer_unordered(n)`): under EVERY schedule of
completions and every number of dial slots the attempts are STARTED in the order of the list the manager handed over — what
has been started, followed by what has not been pulled yet, is that list (nothing skipped, nothing reordered); together with
`dial_order` (that list is sorted by non-increasing score) a dial by peer id tries better-scored addresses first. With one
dial slot the attempts also FINISH in that order (`ListDialFailures` lists them so): at most one is in flight and what has
finished followed by it is what has been started. -/
theorem transport_attempts_in_given_order {α : Type} (n : Nat) (sched : List Nat) (addrs : List α) :
    (Addr.Open.run n sched addrs).started ++ (Addr.Open.run n sched addrs).pending = addrs ∧
    (n = 1 → (Addr.Open.run n sched addrs).finished ++ (Addr.Open.run n sched addrs).inflight =
        (Addr.Open.run n sched addrs).started ∧ (Addr.Open.run n sched addrs).inflight.length ≤ 1) := by
  exact ⟨(Addr.Open.run_inv n sched addrs).order, (Addr.Open.run_inv n sched addrs).seq⟩

example : (Addr.Open.run 1 [5, 0, 3] ["d1", "x2", "x3"]).finished = ["d1", "x2", "x3"] := by decide
example : (Addr.Open.run 1 [5] ["d1", "x2", "x3"]).started = ["d1", "x2"] := by decide
-- two slots: started in order, finished as the network decides
example : (Addr.Open.run 2 [1, 0, 0] ["d1", "x2", "x3"]).started = ["d1", "x2", "x3"] ∧
    (Addr.Open.run 2 [1, 0, 0] ["d1", "x2", "x3"]).finished = ["x2", "d1", "x3"] := by decide

/-- The number of dial slots of the TCP transport is the top-level `with_max_parallel_dials` setting (at least 1; the
crate default when not called) — whatever `max_parallel_dials` the user's `tcp::config::Config` carried. -/
theorem max_parallel_dials_reaches_transport (c : Config) :
    (tcpHeld (build c)).maxParallelDials =
      match c.maxParallelDials with
      | some n => max n 1
      | none => Consts.NODE_MAX_PARALLEL_DIALS := by
  cases h : c.maxParallelDials <;> simp [tcpHeld, build, h]

example : (tcpHeld (build sample)).maxParallelDials = 1 := by decide
example : (tcpHeld (build { sample with maxParallelDials := none })).maxParallelDials = 8 := by decide

end Litep2pVerif.Props.C10.Wiring

#print axioms Litep2pVerif.Props.C10.Wiring.transport_attempts_in_given_order
#print axioms Litep2pVerif.Props.C10.Wiring.max_parallel_dials_reaches_transport

/-! ## The address a successful dial is credited to (coverage round `tcp3`)

`dial_result_rescores_used_address` is about the manager: it scores the address the TRANSPORT reports with
`ConnectionEstablished` (`endpoint.address()`). For the TCP transport that address is rebuilt by
`TcpConnection::negotiate_connection` from the `AddressType` the dialed multiaddress was parsed into — transport model
`Model/Noise/Identity.lean` (`parseDialed`, `addressType`, `endpointHost`, `endpointAddress`, `scoredAddress`). -/
namespace Litep2pVerif.Props.C10.Endpoint
open Litep2pVerif.Id Litep2pVerif.Noise.Identity

theorem endpointHost_addressType (h : Host) : endpointHost (addressType h) = h := by
  cases h <;> rfl

/-- **The endpoint address is the dialed address.** For every address the TCP transport accepts — every host kind
(`/ip4`, `/ip6`, `/dns`, `/dns4`, `/dns6`), with or without `/p2p`, through `dial` and through `open` — the address
reported with `ConnectionEstablished` for the dialer is the dialed multiaddress (its `/<host>/tcp/<port>` part: the
endpoint address never carries the `/p2p` suffix). -/
theorem endpoint_address_is_dialed_address (e : Entry) (a : DialedAddr) (h : Host) (p : Option PeerId)
    (hp : parseDialed a = some (h, p)) : endpointAddress e a = some (a.take 2) := by
  have hshape : a.take 2 = [.host h, .tcp] := by
    unfold parseDialed at hp
    split at hp <;> cases hp <;> rfl
  rw [hshape]
  cases e <;> simp only [endpointAddress, dialPeerAddress, hp, Option.map_some, endpointHost_addressType]

example : endpointAddress .dial [.host .dns4, .tcp, .p2p ⟨⟨0, [1]⟩⟩] = some [.host .dns4, .tcp] := by decide
example : endpointAddress .open [.host .dns6, .tcp] = some [.host .dns6, .tcp] := by decide

/-- **A successful dial credits exactly the address that was dialed.** When `/<host>/tcp/<port>/p2p/<peer>` was dialed
and the connection was established (so the remote proved to be `peer`: `transportCheck`), the record the manager
scores with `CONNECTION_ESTABLISHED` is that very multiaddress — not a sibling with another host kind. -/
theorem established_dial_scores_dialed_address (e : Entry) (h : Host) (peer proven q : PeerId)
    (hc : transportCheck e [.host h, .tcp, .p2p peer] proven = .ok q) :
    scoredAddress e [.host h, .tcp, .p2p peer] q = some [.host h, .tcp, .p2p peer] := by
  have hc' : negotiateCheck (some peer) proven = .ok q := by cases e <;> exact hc
  simp only [negotiateCheck] at hc'
  split at hc'
  · cases hc'
  · rename_i hne
    cases hc'
    rw [scoredAddress, endpoint_address_is_dialed_address e _ h (some peer) rfl, Decidable.of_not_not hne]
    rfl

example : transportCheck .open [.host .dns4, .tcp, .p2p ⟨⟨0, [7]⟩⟩] ⟨⟨0, [7]⟩⟩ = .ok ⟨⟨0, [7]⟩⟩ ∧
    scoredAddress .open [.host .dns4, .tcp, .p2p ⟨⟨0, [7]⟩⟩] ⟨⟨0, [7]⟩⟩ = some [.host .dns4, .tcp, .p2p ⟨⟨0, [7]⟩⟩] := by decide

end Litep2pVerif.Props.C10.Endpoint

#print axioms Litep2pVerif.Props.C10.Endpoint.endpoint_address_is_dialed_address
#print axioms Litep2pVerif.Props.C10.Endpoint.established_dial_scores_dialed_address
