import Litep2pVerif.Proofs.Service.Conns
import Litep2pVerif.Proofs.Node.Wiring
import Litep2pVerif.Proofs.Conn.Outbound
import Litep2pVerif.Proofs.Conn.Wait
/-!
# C08 — Protocols see a well-formed per-peer connection and substream event stream

Property theorems only. Model: `Model/Service/Conns.lean` (the service) and
`Model/Service/Order.lean` (what the rest of litep2p guarantees about its inputs); lemmas:
`Proofs/Service/Conns.lean`. A *history* is a list of `Op` — events arriving on the service's
channel in the order it processes them, calls of `open_substream` with arbitrary outcomes of
`try_get_permit`/`try_send` (so all keep-alive behaviour and all channel states are covered),
calls of `force_close` (again with arbitrary outcomes of the two sends) and of the methods that only delegate to the
manager handle, at ANY point, and allocations of the shared id counter by others. `trace` is what the protocol
observes.
-/
namespace Litep2pVerif.Props.C08
open Litep2pVerif Litep2pVerif.Service

/-- **Alternation.** For EVERY history — feasible or not, including third connections, closes of
unknown connections and repeated ids — the connection events a protocol sees for a peer alternate
established / closed, starting with established. -/
theorem alternation (ops : List Op) (p : Peer) :
    alternates true (connEvents p (trace {} ops)) = true := by
  simpa [connected, cget] using alternation_gen p ops {}

/-- Non-vacuity: two overlapping connections closing in either order, then a third; `force_close` while two
connections overlap, with either close order afterwards. -/
example : connEvents 1 (trace {} [.inner (.established 1 10), .inner (.established 1 11), .forceClose 1 .ok .ok,
    .inner (.closed 1 10), .forceClose 1 .ok .ok, .inner (.closed 1 11), .forceClose 1 .ok .ok,
    .inner (.established 1 12), .inner (.established 1 13), .forceClose 1 .full .closed,
    .inner (.closed 1 13), .inner (.closed 1 12)]) = [true, false, true, false] := by decide

/-- Non-vacuity: two overlapping connections closing in either order, then a third. -/
example : connEvents 1 (trace {} [.inner (.established 1 10), .inner (.established 1 11),
    .inner (.closed 1 10), .inner (.established 1 12), .inner (.established 1 13),
    .inner (.closed 1 13), .inner (.closed 1 11), .inner (.closed 1 12),
    .inner (.established 1 14)]) = [true, false, true] := by decide

/-- **Closed exactly at the last close** (and established exactly at the first open). In a
feasible history, when the close of connection `c` to `p` is processed, `ConnectionClosed{p}` is
emitted iff `c` is the only live connection to `p`; when an established is processed,
`ConnectionEstablished{p}` is emitted iff no connection to `p` is live. -/
theorem closed_iff_last (ops : List Op) (hf : feasible {} {} ops = true)
    (e : Env) (s : State) (p : Peer) (c : ConnId) (o : Obs) :
    ((e, s, Op.inner (.closed p c), o) ∈ esteps {} {} ops →
      (o = .ev (.closed p) ↔ ∀ c', (p, c') ∈ e.live → c' = c)) ∧
    ((e, s, Op.inner (.established p c), o) ∈ esteps {} {} ops →
      (o = .ev (.established p) ↔ ∀ c', (p, c') ∉ e.live)) := by
  refine ⟨fun hx => ?_, fun hx => ?_⟩
  · obtain ⟨hinv, hok, rfl⟩ := esteps_inv ops _ _ inv_init hf _ _ _ _ hx
    exact closed_local hinv p c hok
  · obtain ⟨hinv, _, rfl⟩ := esteps_inv ops _ _ inv_init hf _ _ _ _ hx
    exact established_local hinv p c

/-- Non-vacuity: a feasible history in which the primary closes first (secondary promoted, no
event) and then the promoted connection closes (event). -/
example :
    let ops := [Op.inner (.established 1 10), .inner (.established 1 11), .inner (.closed 1 10),
      .inner (.closed 1 11)]
    feasible {} {} ops = true ∧ trace {} ops = [.ev (.established 1), .silent, .silent, .ev (.closed 1)] := by
  decide

/-- Non-vacuity (the shape of seeded change C08-e1): `force_close` while two connections overlap; the primary
reports closed first — no event, the secondary is promoted and still delivers a substream; `ConnectionClosed` comes
with the close of the secondary. The same with the secondary closing first. -/
example :
    let ops := [Op.inner (.established 1 10), .inner (.established 1 11), .forceClose 1 .ok .ok,
      .inner (.closed 1 10), .inner (.subOpened 1 none 11), .inner (.closed 1 11)]
    let ops' := [Op.inner (.established 1 10), .inner (.established 1 11), .forceClose 1 .ok .ok,
      .inner (.closed 1 11), .inner (.subOpened 1 none 10), .inner (.closed 1 10)]
    feasible {} {} ops = true ∧ feasible {} {} ops' = true ∧
    trace {} ops = [.ev (.established 1), .silent, .force none [11, 10], .silent, .ev (.subOpened 1 none),
      .ev (.closed 1)] ∧
    trace {} ops' = [.ev (.established 1), .silent, .force none [11, 10], .silent, .ev (.subOpened 1 none),
      .ev (.closed 1)] := by
  decide

/-- **Substream events refer to a connected peer.** In a feasible history, whenever the service
emits `SubstreamOpened{p}` the peer `p` is connected (in `connections`, i.e. between the emitted
established and closed); whenever it emits `SubstreamOpenFailure{sid}` the failure answers an
outstanding request to a connected peer; and (for any history) an open request is accepted only
for a connected peer, on its primary connection. -/
theorem substream_refers_connected (ops : List Op) (hf : feasible {} {} ops = true)
    (e : Env) (s : State) (op : Op) (o : Obs) (hx : (e, s, op, o) ∈ esteps {} {} ops) :
    (∀ p d, o = .ev (.subOpened p d) → connected s p = true) ∧
    (∀ sid, o = .ev (.subFailed sid) → ∃ p c, (sid, p, c) ∈ e.outstanding ∧ connected s p = true) ∧
    (∀ sid c, o = .openOk sid c → ∃ p permit send ctx, op = .open p permit send ∧
      connected s p = true ∧ cget s.conns p = some ctx ∧ ctx.primary = c) := by
  obtain ⟨hinv, hok, rfl⟩ := esteps_inv ops _ _ inv_init hf _ _ _ _ hx
  refine ⟨(sub_local hinv op hok).1, (sub_local hinv op hok).2, fun sid c h => ?_⟩
  obtain ⟨_, _, _, p, permit, send, ctx, hop, hctx, hprim⟩ := step_openOk s op sid c h
  exact ⟨p, permit, send, ctx, hop, by simp [connected, hctx], hctx, hprim⟩

/-- Non-vacuity: an open on the primary answered by a failure, and an inbound substream on the
secondary connection. -/
example :
    let ops := [Op.inner (.established 1 10), .inner (.established 1 11), .open 1 true .ok,
      .inner (.subOpened 1 none 11), .inner (.subFailed 0)]
    feasible {} {} ops = true ∧ trace {} ops =
      [.ev (.established 1), .silent, .openOk 0 10, .ev (.subOpened 1 none), .ev (.subFailed 0)] := by
  decide

/-- Non-vacuity with `force_close`: the request was accepted before the call, the forcibly closed primary goes
first, the answer to the request is lost with it; an inbound substream of the promoted secondary still refers to a
connected peer; a new request goes to the promoted connection. -/
example :
    let ops := [Op.inner (.established 1 10), .inner (.established 1 11), .open 1 true .ok,
      .forceClose 1 .ok .ok, .inner (.closed 1 10), .inner (.subOpened 1 none 11), .open 1 true .ok,
      .inner (.subFailed 1), .inner (.closed 1 11)]
    feasible {} {} ops = true ∧ trace {} ops =
      [.ev (.established 1), .silent, .openOk 0 10, .force none [11, 10], .silent, .ev (.subOpened 1 none),
       .openOk 1 11, .ev (.subFailed 1), .ev (.closed 1)] := by
  decide

/-- **`force_close` keeps the peer context.** `TransportService::force_close(peer)` sends
`ProtocolCommand::ForceClose` to the connections of the peer's context and changes nothing else: for EVERY history
`pre` before it, every `post` after it and every outcome of the two sends,

1. the service's state (so: `connections`, primary and secondary handle of every peer) is the same before and after
   the call — a connection stays in the context until ITS OWN close report arrives;
2. the state after the whole history is the one without the call, and the protocol observes of everything else
   exactly what it observes without the call;
3. the environment may do exactly the same with and without the call (the forcibly closed connections are still live:
   they may still deliver substream events and will report closed, in either order — `closed_iff_last` and
   `substream_refers_connected` therefore speak about them like about any other connection);
4. who is told: with room in both command channels exactly the connections of the context, secondary first; never a
   connection outside the context; nobody (and `PeerDoesntExist`) if the peer is not connected. -/
theorem force_close_keeps_context (pre post : List Op) (p : Peer) (sec prim : SendRes) :
    (step (run {} pre) (.forceClose p sec prim)).1 = run {} pre ∧
    run {} (pre ++ .forceClose p sec prim :: post) = run {} (pre ++ post) ∧
    trace {} (pre ++ .forceClose p sec prim :: post) =
      trace {} pre ++ (step (run {} pre) (.forceClose p sec prim)).2 :: trace (run {} pre) post ∧
    feasible {} {} (pre ++ .forceClose p sec prim :: post) = feasible {} {} (pre ++ post) ∧
    (cget (run {} pre).conns p = none →
      (step (run {} pre) (.forceClose p sec prim)).2 = .force (some .peerDoesntExist) []) ∧
    (∀ ctx, cget (run {} pre).conns p = some ctx →
      (step (run {} pre) (.forceClose p .ok .ok)).2 = .force none (ctx.secondary.toList ++ [ctx.primary]) ∧
      ∀ r cs, (step (run {} pre) (.forceClose p sec prim)).2 = .force r cs → ∀ c ∈ cs, ctx.has c) := by
  obtain ⟨h1, h2, h3⟩ := forceClose_insert pre post {} {} p sec prim
  exact ⟨step_forceClose_state _ p sec prim, h1, h2, h3, (forceClose_cmds _ p sec prim).1,
    (forceClose_cmds _ p sec prim).2⟩

/-- Non-vacuity: a context with two connections; the call with a clogged primary channel still reaches the secondary
and reports `ChannelClogged`; nothing changed. -/
example :
    let pre := [Op.inner (.established 1 10), .inner (.established 1 11), .open 1 true .ok]
    cget (run {} pre).conns 1 = some ⟨10, some 11⟩ ∧
    step (run {} pre) (.forceClose 1 .ok .full) = (run {} pre, .force (some .channelClogged) [11]) ∧
    step (run {} pre) (.forceClose 1 .ok .ok) = (run {} pre, .force none [11, 10]) ∧
    step (run {} pre) (.forceClose 2 .ok .ok) = (run {} pre, .force (some .peerDoesntExist) []) := by
  decide

/-- **Answered at most once, with the same id.** In a feasible history no substream id is answered
twice (opened and failed count alike), and every answered id is the id of an accepted request. -/
theorem open_answered_at_most_once (ops : List Op) (hf : feasible {} {} ops = true) :
    (answeredIds (trace {} ops)).Nodup ∧
    ∀ sid ∈ answeredIds (trace {} ops), sid ∈ acceptedIds (trace {} ops) := by
  obtain ⟨h1, h2⟩ := at_most_once_gen ops {} {} inv_init hf
  refine ⟨h1, fun sid hs => ?_⟩
  rcases h2 sid hs with h | h
  · simp [outstandingIds] at h
  · exact h

/-- Non-vacuity: two requests, answered in the reverse order, one opened and one failed. -/
example :
    let ops := [Op.inner (.established 1 10), .open 1 true .ok, .open 1 true .ok,
      .inner (.subFailed 1), .inner (.subOpened 1 (some 0) 10)]
    feasible {} {} ops = true ∧ answeredIds (trace {} ops) = [1, 0] ∧
      acceptedIds (trace {} ops) = [0, 1] := by
  decide

/-- **Answered exactly once unless the connection terminates first.** Environment hypothesis
(explicit): the history is feasible and ends quiescent — every connection task has completed each
pending open it received (success, failure or timeout ⇒ failure with the same id,
src/transport/tcp/connection.rs). Then every accepted request `(sid, c)` has been answered (by
`open_answered_at_most_once`: exactly once), or the close of its connection `c` was delivered. -/
theorem open_answered_once_unless_closed (ops : List Op) (_hf : feasible {} {} ops = true)
    (hq : Quiescent (envRun {} {} ops)) (sid : SubId) (c : ConnId)
    (hacc : Obs.openOk sid c ∈ trace {} ops) :
    sid ∈ answeredIds (trace {} ops) ∨ ∃ p, Op.inner (.closed p c) ∈ ops := by
  rcases once_unless_closed_gen ops {} {} sid c (Or.inl hacc) with h | h | ⟨p, h⟩
  · exact Or.inl h
  · exact Or.inr h
  · rw [hq] at h; cases h

/-- Non-vacuity: a quiescent feasible history with one answered request and one request lost with
its connection; and a non-quiescent one (request still pending) showing the hypothesis matters. -/
example :
    let ops := [Op.inner (.established 1 10), .open 1 true .ok, .open 1 true .ok,
      .inner (.subOpened 1 (some 0) 10), .inner (.closed 1 10)]
    feasible {} {} ops = true ∧ (envRun {} {} ops).outstanding = [] ∧
    answeredIds (trace {} ops) = [0] ∧
    (envRun {} {} (ops.take 4)).outstanding = [(1, 1, 10)] := by
  decide

/-- **The connection task answers every open request exactly once unless the connection terminates first** — the
environment hypothesis of `open_answered_once_unless_closed` ("every connection task completes each pending open it
received: success, failure or timeout ⇒ failure with the same id") for the TCP connection task, proved about the
loop model `Model/Conn/Permits.lean` (tied to the real `TcpConnection::start` in the `tcploop` area). Life cycle of a
request of protocol `i`: *requested* (`OpenSubstream` in the command channel) → *yamux open pending*
(`Stage.opening`: in `pending_substreams`, `Control::open_stream()` has not returned — and never does while the
remote leaves `MAX_ACK_BACKLOG` streams unacknowledged) → *negotiating* → *answered*.

1. `handle_protocol_command` moves the oldest request into `pending_substreams` (table entry `⟨outbound, i,
   opening⟩`), permit and all; the loop goes on.
2. For EVERY schedule of everything else — other requests in any number, inbound substreams, answers, handles
   released, channels filling, protocols shutting down, the yamux stream being opened or not — as long as the loop
   has not returned the request is still pending, for the same protocol, unless a transition that ENDS its own
   future occurred (`TLabel.endsNeg k`: negotiated under a main or fallback name, failed, or timed out).
3. The failure / timeout arm is enabled in EITHER pending stage whenever the loop is at its `select!`, and it answers
   the protocol that asked: `SubstreamOpenFailure` for that request goes to `i` — enqueued at once if `i`'s channel
   has room (and the loop is back at its `select!`), else the loop is suspended in exactly that send (re-polled when
   `i` reads, `Model/Conn/Close.lean` `envStep`/`progress`; second example below); the entry leaves
   `pending_substreams`; the loop does not return.
4. Success is answered likewise, `SubstreamOpened` to `i`, whichever of `i`'s names was negotiated.
5. At most once: an entry that has left `pending_substreams` never comes back, for every schedule, and the end of
   its future can not happen again (`negFail k`, `negOk k _`, `negOkFb k _ _`, `yamuxOpened k` do nothing). -/
theorem outbound_open_answered_by_loop :
    (∀ (s : Conn.TLoop) (i : Nat) (q : List Conn.Cmd), s.running = true → s.cmdQ = .openSub i :: q →
      (Conn.tstep s .takeCmd).subs = s.subs ++ [⟨false, some i, .opening⟩] ∧ (Conn.tstep s .takeCmd).cmdQ = q ∧
      (Conn.tstep s .takeCmd).loop.exited = none ∧ (Conn.tstep s .takeCmd).running = true) ∧
    (∀ (s : Conn.TLoop) (ls : List Conn.TLabel) (k : Nat) (x : Conn.Sub),
      s.subs[k]? = some x → x.stage.pending = true → (Conn.trun s ls).loop.exited = none →
      (∃ y, (Conn.trun s ls).subs[k]? = some y ∧ y.stage.pending = true ∧ y.inbound = x.inbound ∧ y.proto = x.proto) ∨
      (∃ l ∈ ls, l.endsNeg k = true)) ∧
    (∀ (s : Conn.TLoop) (k i : Nat) (x : Conn.Sub), s.running = true → s.subs[k]? = some x →
      x.stage.pending = true → x.inbound = false → x.proto = some i → Conn.protoAlive s i = true →
      (Conn.tstep s (.negFail k)).loop.exited = none ∧
      (Conn.tstep s (.negFail k)).subs[k]? = some { x with stage := .gone } ∧
      (Conn.hasRoom s i → (Conn.tstep s (.negFail k)).running = true ∧
        (Conn.tstep s (.negFail k)).loop.ps.log = s.loop.ps.log ++ [.proto i .openFailure] ∧
        (Conn.tstep s (.negFail k)).loop.ps.call = .idle) ∧
      (¬ Conn.hasRoom s i → (Conn.tstep s (.negFail k)).loop.cont = some .substreamReport ∧
        (Conn.tstep s (.negFail k)).loop.ps.call = .protoSends (.substream i false) [i] false ∧
        (Conn.tstep s (.negFail k)).loop.ps.log = s.loop.ps.log)) ∧
    (∀ (s : Conn.TLoop) (k i f : Nat) (x : Conn.Sub), s.running = true → s.subs[k]? = some x →
      x.stage = .negotiating → Conn.protoAlive s i = true →
      Conn.tstep s (.negOkFb k i f) = Conn.tstep s (.negOk k i) ∧
      (Conn.tstep s (.negOk k i)).loop.exited = none ∧
      (Conn.hasRoom s i → (Conn.tstep s (.negOk k i)).running = true ∧
        (Conn.tstep s (.negOk k i)).loop.ps.log = s.loop.ps.log ++ [.proto i .substreamOpened]) ∧
      (¬ Conn.hasRoom s i → (Conn.tstep s (.negOk k i)).loop.cont = some .substreamReport ∧
        (Conn.tstep s (.negOk k i)).loop.ps.call = .protoSends (.substream i true) [i] false)) ∧
    (∀ (s : Conn.TLoop) (ls : List Conn.TLabel) (k : Nat) (x : Conn.Sub),
      s.subs[k]? = some x → x.stage.pending = false →
      ∃ y, (Conn.trun s ls).subs[k]? = some y ∧ y.stage.pending = false ∧
        Conn.tstep (Conn.trun s ls) (.negFail k) = Conn.trun s ls ∧
        (∀ p, Conn.tstep (Conn.trun s ls) (.negOk k p) = Conn.trun s ls) ∧
        (∀ p f, Conn.tstep (Conn.trun s ls) (.negOkFb k p f) = Conn.trun s ls) ∧
        Conn.tstep (Conn.trun s ls) (.yamuxOpened k) = Conn.trun s ls) := by
  refine ⟨Conn.takeCmd_opens,
    fun s ls k x hk hx hrun => Conn.trun_pending_or_ended ls s k x hk hx hrun,
    fun s k i x hr hk hx hout hpr hp => ?_, fun s k i f x hr hk hx hp => ?_, fun s ls k x hk hx => ?_⟩
  · obtain ⟨a, b, c, d⟩ := Conn.neg_report s hr k x hk i hp (.negFail k) false (Or.inr ⟨rfl, hx, hout, hpr, rfl⟩)
    exact ⟨a, by rw [b, ← hpr]; rfl, fun h => ⟨(c h).1, (c h).2.2, (c h).2.1⟩, fun h => ⟨(d h).1, (d h).2.1, (d h).2.2.1⟩⟩
  · obtain ⟨a, _, c, d⟩ := Conn.neg_report s hr k x hk i hp (.negOk k i) true (Or.inl ⟨rfl, hx, rfl⟩)
    exact ⟨rfl, a, fun h => ⟨(c h).1, (c h).2.2⟩, fun h => ⟨(d h).1, (d h).2.1⟩⟩
  · obtain ⟨y, hy, hyp⟩ := Conn.trun_not_pending ls s k x hk hx
    exact ⟨y, hy, hyp, Conn.ended_noop _ k y hy hyp⟩

/-- Non-vacuity (the C08-d2 shape in miniature): a keep-alive protocol takes the connection and asks for two
substreams; the loop takes both requests; the yamux stream of the first is opened at once, the second one's only after
every handle has been released: the two pending requests keep the connection. Both time out from `negotiating`:
two `SubstreamOpenFailure`s reach protocol 0, the loop still runs; a second
"end" of either future changes nothing; with nothing left the idle exit closes the connection. The hypotheses of
parts 2, 3 and 5 hold along the way. -/
example :
    let s0 := Conn.trun (Conn.tinit [true] 4) [.recv 0, .localOpen 0, .localOpen 0, .takeCmd, .takeCmd, .yamuxOpened 0]
    let s1 := Conn.trun s0 [.downgrade 0, .idleExit, .yamuxOpened 1]
    let s2 := Conn.trun s1 [.negFail 1, .negFail 0]
    s0.subs = [⟨false, some 0, .negotiating⟩, ⟨false, some 0, .opening⟩] ∧ s0.running = true ∧
    Conn.protoAlive s0 0 = true ∧ Conn.hasRoom s0 0 ∧
    s1.subs = [⟨false, some 0, .negotiating⟩, ⟨false, some 0, .negotiating⟩] ∧ s1.loop.exited = none ∧ s1.strong = 2 ∧
    s2.subs = [⟨false, some 0, .gone⟩, ⟨false, some 0, .gone⟩] ∧ s2.running = true ∧
    s2.loop.ps.log = [.proto 0 .openFailure, .proto 0 .openFailure] ∧
    Conn.trun s2 [.negFail 0, .negFail 1, .negOk 0 0, .negOkFb 1 0 1, .yamuxOpened 1] = s2 ∧
    (Conn.trun s2 [.idleExit]).loop.exited = some .ok := by
  decide

/-- Non-vacuity: a full channel — the failure report is suspended (nothing lost) and arrives when the protocol reads. -/
example :
    let s0 := Conn.trun (Conn.tinit [true] 1) [.recv 0, .localOpen 0, .takeCmd, .fill 0]
    let s1 := Conn.tstep s0 (.negFail 0)
    let s2 := Conn.tstep s1 (.recv 0)
    ¬ Conn.hasRoom s0 0 ∧ s1.loop.cont = some .substreamReport ∧ s1.loop.ps.log = [] ∧
    s2.loop.ps.log = [.proto 0 .openFailure] ∧ s2.running = true := by
  decide

/-- **The report of a negotiated substream is queued before anything else the connection task does — hence before the
close report** (f-round, seeded C08-f1; loop model `Model/Conn/Permits.lean` / `Model/Conn/Close.lean`, tied to the real
`TcpConnection::start` + `ProtocolSet::report_substream_open` by the `tcploop` area, family `order`). `ProtocolSet::
report_substream_open` delivers the event by `tx.send(event).await`: a send that SUSPENDS the loop while the protocol's
channel is full — it is not handed to anybody who delivers it later. For every state of a connection reachable from a
fresh one (`PInv`) in which the loop is at its `select!`, and every negotiation `k` that ends for a LIVE protocol `p`
(`negOk k p`; `L` = the ghost log of enqueues at that moment):

1. at that moment nothing has been reported closed, to anybody (no `ConnectionClosed` of this connection is in any
   channel, nor on its way);
2. if `p`'s channel has room the report is enqueued at once (`LDone`: the log is `L ++ [SubstreamOpened → p]`, the loop
   is back at its `select!`);
3. if it is full the loop waits in exactly that send (`LWait`: continuation `substreamReport`, call
   `protoSends (substream p) [p]`, log still `L`, `p` alive), and for EVERY schedule `ls` of everything that can happen
   afterwards — the remote closing, `ForceClose` and other commands arriving, every handle released, timers firing,
   other protocols reading, filling, shutting down — either the loop is still waiting with NOTHING enqueued since, or
   there is a first transition that changed anything about the loop, and it enqueued exactly the report of the
   substream to `p` (the loop being back at its `select!` only then) — or it was `p` itself shutting down
   (`dropRx p`: nobody left to tell). So whatever is enqueued to `p` after the end of the negotiation — in particular
   the close report of ANY exit path — comes after the substream event in `p`'s FIFO channel;
4. while it waits no event of the connection is processed at all: every transition that is not a move of the other end
   of a channel (`TLabel.isChan`) leaves the loop unchanged. -/
theorem substream_reported_before_close (s : Conn.TLoop) (hinv : Conn.PInv s.loop) (hr : s.running = true)
    (k p : Nat) (x : Conn.Sub) (hk : s.subs[k]? = some x) (hx : x.stage = .negotiating)
    (hp : Conn.protoAlive s p = true) :
    let s1 := Conn.tstep s (.negOk k p)
    let L := s.loop.ps.log
    ((∀ j, Conn.cnt s.loop.ps j .closed = 0) ∧ Conn.mgrCnt s.loop.ps = 0) ∧
    (Conn.hasRoom s p → Conn.LDone p L s1.loop) ∧
    (¬ Conn.hasRoom s p → Conn.LWait p L s1.loop ∧ ∀ ls,
      Conn.LWait p L (Conn.trun s1 ls).loop ∨
      ∃ pre l post, ls = pre ++ l :: post ∧ Conn.LWait p L (Conn.trun s1 pre).loop ∧
        (Conn.LDone p L (Conn.trun s1 (pre ++ [l])).loop ∨ l = .dropRx p)) ∧
    (∀ t : Conn.TLoop, Conn.LWait p L t.loop → ∀ l, l.isChan = false → (Conn.tstep t l).loop = t.loop) := by
  intro s1 L
  obtain ⟨a, _, c, d⟩ := Conn.neg_report s hr k x hk p hp (.negOk k p) true (Or.inl ⟨rfl, hx, rfl⟩)
  refine ⟨Conn.running_none_closed s hinv hr, fun h => ⟨((Conn.running_iff _).mp (c h).1).2, a, (c h).2.2⟩,
    fun hn => ?_, fun t ht l hl => ?_⟩
  · have hw : Conn.LWait p L s1.loop := ⟨(d hn).1, a, (d hn).2.1, (d hn).2.2.1, (d hn).2.2.2⟩
    exact ⟨hw, fun ls => Conn.trun_wait ls s1 p L hw⟩
  · apply Conn.tstep_suspended t l _ hl
    unfold Conn.TLoop.running; rw [ht.1]; simp

/-- Non-vacuity (the C08-f1 shape): two protocols take the connection, the remote opens a substream, protocol 0 becomes
busy (its channel of capacity 1 is full of somebody else's message); the negotiation ends for protocol 0 — the
hypotheses hold, the channel has no room: the loop waits. Protocol 1 force-closes, the remote goes away, the idle exit is
tried: the loop has not moved, the command is still queued. Protocol 0 takes the filler: the substream event is enqueued,
the loop runs again, takes the `ForceClose` and reports: protocol 0 sees the substream BEFORE the close report. -/
example :
    let s := Conn.trun (Conn.tinit [true, true] 1) [.recv 0, .recv 1, .accept, .fill 0]
    let s1 := Conn.tstep s (.negOk 0 0)
    let s2 := Conn.trun s1 [.forceClose 1, .takeCmd, .yamuxEof, .idleExit]
    let s3 := Conn.trun s2 [.recv 0]
    let s4 := Conn.trun s3 [.takeCmd, .recv 0, .recv 0]
    Conn.PInv s.loop ∧
    s.running = true ∧ Conn.protoAlive s 0 = true ∧ s.subs[0]? = some ⟨true, none, .negotiating⟩ ∧
    s1.loop.cont = some .substreamReport ∧ s2.loop = s1.loop ∧ s2.cmdQ = [.forceClose] ∧
    s3.loop.ps.log = [.proto 0 .substreamOpened] ∧ s3.running = true ∧
    s4.loop.exited = some .ok ∧
    s4.loop.ps.log = [.proto 0 .substreamOpened, .proto 1 .closed, .proto 0 .closed, .mgr] :=
  ⟨Conn.trun_pinv _ _ ((Conn.tinit_fresh _ _).pinv rfl rfl), by decide⟩

/-- **Ids are fresh.** For EVERY history the ids returned by accepted `open_substream` calls are
strictly increasing — never reused, also across failed sends and allocations by other users of the
shared counter. -/
theorem ids_fresh (ops : List Op) :
    (acceptedIds (trace {} ops)).Pairwise (· < ·) :=
  ids_fresh_gen ops {}

/-- Non-vacuity: a clogged send and a foreign allocation consume ids in between. -/
example : acceptedIds (trace {} [.inner (.established 1 10), .open 1 true .ok, .open 1 true .full,
    .otherAlloc 3, .open 2 true .ok, .open 1 false .ok, .open 1 true .ok]) = [0, 5] := by decide

end Litep2pVerif.Props.C08

#print axioms Litep2pVerif.Props.C08.alternation
#print axioms Litep2pVerif.Props.C08.closed_iff_last
#print axioms Litep2pVerif.Props.C08.substream_refers_connected
#print axioms Litep2pVerif.Props.C08.open_answered_at_most_once
#print axioms Litep2pVerif.Props.C08.open_answered_once_unless_closed
#print axioms Litep2pVerif.Props.C08.ids_fresh
#print axioms Litep2pVerif.Props.C08.force_close_keeps_context

/-! ## Wiring — what `Litep2p::new` hands over (coverage round `node`)

Over the wiring model `Model/Node/Wiring.lean` (`Node.new c` = `Litep2p::new(ConfigBuilder…build())`), which is tied to
the real `ConfigBuilder`/`Litep2p::new` by the `node` area: the adapter prints the ACTUAL registration record of a node built
through the public API, the driver prints the model's, compared field by field on every run. -/
namespace Litep2pVerif.Props.C08.Wiring
open Litep2pVerif Litep2pVerif.Node

/-- A configuration with every kind of protocol (used by the non-vacuity examples). -/
def sample : Config :=
  { keepAliveMs := some 600, limits := some (some 2, none), listen := [1, 2],
    notif := [⟨"/n/a", 1024, "0102", ["/n/old"], 'a', some 64, some 64, none⟩],
    rr := [⟨"/r/a", 256, 800, ["/r/old"], none⟩, ⟨"/r/b", 64, 800, [], some 1⟩],
    user := [⟨"/u/a", .varint none⟩], kad := [⟨[], none, []⟩], ping := some 1, identify := true, bitswap := true,
    known := some [(0, [.listen 0, .closed, .quic, .wrongPeer 0, .noPeer 0])] }

/-- Identify is told exactly the protocols that were registered (every user protocol among them), and every protocol's
event loop is handed to the executor. -/
theorem identify_told_every_registered_protocol (c : Config) (w : Wired) (h : Node.new c = .ok w) :
    w.identifyProtocols = w.regs.map (·.name) ∧ w.spawned = w.regs.length ∧
    (∀ p ∈ (build c).user, p.name ∈ w.identifyProtocols) ∧
    (∀ p ∈ (build c).notif, p.name ∈ w.identifyProtocols) ∧
    (∀ p ∈ (build c).rr, p.name ∈ w.identifyProtocols) := by
  obtain ⟨_, _, rfl⟩ := wire_ok h
  exact ⟨rfl, rfl, fun p hp => List.mem_map.mpr ⟨_, user_mem_registrations _ hp, rfl⟩,
    fun p hp => List.mem_map.mpr ⟨_, notif_mem_registrations _ hp, rfl⟩,
    fun p hp => List.mem_map.mpr ⟨_, rr_mem_registrations _ hp, rfl⟩⟩

example : ∃ w, Node.new sample = .ok w ∧ w.identifyProtocols =
    ["/n/a", "/r/a", "/r/b", "/u/a", pingName, kadName, identifyName, bitswapName] ∧ w.spawned = 8 :=
  ⟨_, rfl, by decide, rfl⟩

end Litep2pVerif.Props.C08.Wiring

#print axioms Litep2pVerif.Props.C08.Wiring.identify_told_every_registered_protocol
#print axioms Litep2pVerif.Props.C08.outbound_open_answered_by_loop
#print axioms Litep2pVerif.Props.C08.substream_reported_before_close
