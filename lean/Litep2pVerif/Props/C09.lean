import Litep2pVerif.Proofs.Service.KeepAliveReach
import Litep2pVerif.Proofs.Node.Wiring
import Litep2pVerif.Generated.Consts
import Litep2pVerif.Proofs.Conn.Permits
import Litep2pVerif.Proofs.Conn.Outbound
/-!
# C09 — Idle connections close after the keep-alive timeout, busy ones are kept

Property theorems only. Model: `Model/Service/KeepAlive.lean`; lemmas:
`Proofs/Service/KeepAlive.lean` (one protocol), `Proofs/Service/KeepAliveReach.lean` (the transition system). A connection's loop ends by the idle mechanism iff `exits s c`
(no strong sender of its command channel is left). The idle mechanism is "time passes and every
protocol polls its keep-alive tracker": `(s.advance dt).pollAll`.
-/
namespace Litep2pVerif.Props.C09
open Litep2pVerif Litep2pVerif.Service Litep2pVerif.Service.KA

/-- A system with a keep-alive (`Yes`) and a ping-like (`No`) protocol, timeout 100, one
connection `10` to peer `1` announced to both at time 0. -/
def twoProtocols : Sys :=
  let s0 : Sys := { svcs := [{ ka := true, T := 100 }, { ka := false, T := 100 }] }
  (((s0.established 1 10).drain 0).1.drain 1).1

/-- **Busy connections are kept.** While a substream of a keep-alive protocol on `c` exists or is
being opened — its command is queued or being negotiated, its `SubstreamOpened` is in flight, or
the protocol holds the substream (lifetime permit) — no amount of elapsed time and keep-alive
polling makes the connection's loop exit. -/
theorem held_not_closed (s : Sys) (c : Nat) (h : Busy s c) (dts : List Nat) :
    exits (dts.foldl (fun s dt => (s.advance dt).pollAll) s) c = false := by
  induction dts generalizing s with
  | nil =>
    have := busy_permits s c h
    simp [exits, strong]; omega
  | cons dt rest ih => exact ih _ (busy_tick s dt c h)

/-- Non-vacuity: the keep-alive protocol opens a substream at time 50, the task receives the
command; five timeouts later both handles are downgraded but the loop does not exit; once the
task fails the open (permit dropped) it does. -/
example :
    let s1 := ((twoProtocols.advance 50).open 0 1).1
    let s2 := (s1.recv 10).1
    let s3 := (s2.advance 500).pollAll
    Busy s2 10 ∧ handles s3.svcs 10 = 0 ∧ exits s3 10 = false ∧
      ((s3.subFail 10 0).map (fun s => exits s 10)) = some true := by
  refine ⟨Or.inr (Or.inl ⟨⟨0, 0, 10, true⟩, by decide, rfl⟩), by decide, by decide, by decide⟩

/-- **Idle connections close exactly at `last keep-alive activity + T`, not before and not later.**

Quantified over every state reachable (`Reach`) from a system without connections by the real operations
— a connection task announcing / closing a connection, taking a command, reporting an outbound or
inbound substream or an open failure; a protocol calling `open_substream`, processing the next message
of its channel, dropping a substream, polling its keep-alive tracker; the logical clock advancing — in
any order and any number (`Sys.step` in `Model/Service/KeepAlive.lean`), for primary and secondary
connections alike (nothing in the statement looks at the slot).

**Environment hypothesis** (the guard of the `advance` step, `timersSettled`; fairness of the executor
under a logical clock): the clock does not move while a protocol's tracker holds a sleep future that has
been pushed but not polled yet, nor past the deadline of a started one — i.e. a protocol task is polled
when it has a new timer and when a timer wakes it. Messages may wait in the channels for any length of
time. This is what "at `t₀ + T`" means for the code as it is: `KeepAliveTracker` creates the
`tokio::time::sleep` at the FIRST POLL of the pushed future, so the sleep for activity at `t₀` ends at
`(first poll after t₀) + T`; under the hypothesis the first poll is at `t₀` (true for `TransportService`:
`substream_activity` is only called inside `poll_next`, which goes on to poll the tracker or returns an
event to the protocol's loop that polls again; or inside `open_substream`, after which the protocol's
loop polls its service — the second is an assumption about protocol code, recorded in the plugin). A sleep
that completes early relative to a later activity is re-armed with exactly the remaining time.

For every reachable `s` and connection `c`:

1. *never late, per protocol*: a protocol holding an active handle of `c` tracks `c` with
   `last_activity ≤ now ≤ last_activity + T`, and `now < last_activity + T` if it has polled at this instant
   (`Polled`): no handle survives a poll at `last_activity + T`.
2. *never late, connection*: if no permit of `c` exists (no substream of a keep-alive protocol exists or
   is being opened, nothing else in flight), every protocol has polled at this instant and every
   `last_activity` of `c` that any protocol still has is at least that protocol's timeout ago, then the
   loop exits (`rx.recv()` yields `None`).
3. *never early, per protocol*: the only steps after which a protocol that held an active handle of `c`
   holds none are that protocol processing a `ConnectionClosed` (the close path) and that protocol's
   keep-alive poll at a time `≥ last_activity + T`.
4. *never early, connection*: with no permit around, the step that makes the loop exit is one of those
   two for some protocol `i` that held `c` — so the idle exit happens at a time `≥ last_activity_i + T_i`.

Together: with no keep-alive substream existing or being opened after `t₀ =` the last activity, every
protocol `i` keeps its handle exactly until its poll at `last_activity_i + T_i` (3, 1), the last one to
let go is the one with the largest `last_activity_i + T_i = t₀ + T` (all `T_i` are the configured
keep-alive timeout), and the loop exits at that poll (4, 2). -/
theorem idle_closed_at {peer : Nat → Nat} {n : Nat} {s : Sys} (hr : Reach peer n s) (c : Nat) :
    (∀ svc ∈ s.svcs, 0 < svc.holds c →
      ∃ la, aget svc.tr.last c = some la ∧ la ≤ s.now ∧ s.now ≤ la + svc.T ∧
        (Polled svc s.now → s.now < la + svc.T)) ∧
    (permits s c = 0 →
      (∀ svc ∈ s.svcs, Polled svc s.now ∧ ∀ la, aget svc.tr.last c = some la → la + svc.T ≤ s.now) →
      exits s c = true) ∧
    (∀ (l : Label) (n' : Nat) (s' : Sys) (i : Nat) (svc svc' : Svc), s.step peer n l = some (n', s') →
      s.svcs[i]? = some svc → s'.svcs[i]? = some svc' → 0 < svc.holds c → svc'.holds c = 0 →
      (l = .deliver i ∧ ∃ p c', svc' = (svc.onClosed p c').1) ∨
      (l = .poll i ∧ svc' = svc.pollKeepAlive s.now ∧
        ∃ la, aget svc.tr.last c = some la ∧ la + svc.T ≤ s.now)) ∧
    (∀ (l : Label) (n' : Nat) (s' : Sys), s.step peer n l = some (n', s') → permits s c = 0 →
      exits s c = false → exits s' c = true →
      ∃ i svc, s.svcs[i]? = some svc ∧ 0 < svc.holds c ∧
        ((l = .deliver i ∧ ∃ p c', s'.svcs[i]? = some (svc.onClosed p c').1) ∨
         (l = .poll i ∧ ∃ la, aget svc.tr.last c = some la ∧ la + svc.T ≤ s.now))) :=
  ⟨fun svc hsvc => (hr.inv.svc svc hsvc).holder c,
    fun hperm hidle => holders_idle_exits hr c hperm fun svc hsvc _ => hidle svc hsvc,
    never_early hr c, last_holder_never_early hr c⟩

/-- … and the environment hypothesis never blocks the clock for good: a keep-alive poll leaves every
sleep of the protocol started and incomplete, so once every protocol has polled the clock can advance —
up to the earliest deadline. -/
theorem poll_settles {peer : Nat → Nat} {n : Nat} {s : Sys} (hr : Reach peer n s) :
    ∀ svc ∈ s.svcs, Polled (svc.pollKeepAlive s.now) s.now :=
  fun svc _ => pollTimers_settled svc.T s.now svc.tr

/-- The example run: protocols 0 (keep-alive) and 1 (ping-like), `T = 100`. Connection `10` is announced
and processed at 0; at 50 protocol 0 opens a substream, the task takes the command and the negotiation
fails; protocol 0 reads the failure. Polls at 100 (protocol 1 lets go) and 149; the examples below go on to 150. -/
def exampleRun : List Label :=
  [.established 10, .deliver 0, .poll 0, .deliver 1, .poll 1, .advance 50, .open 0 1, .poll 0, .recv 10,
   .subFail 10 0, .deliver 0, .poll 0, .advance 50, .poll 1, .poll 0, .advance 49, .poll 0, .poll 1]

/-- Non-vacuity of all four parts, and the exact time: the run is enabled step by step (so its end state is
reachable), at 149 nothing is in flight, protocol 0 still holds `10` with `last_activity = 50` and has
polled (part 1: `149 < 150`); the clock can advance by 1 but not by 2 (the environment hypothesis: the
sleep ends at 150); at 150 the poll of protocol 0 is the step that makes the loop exit (parts 3, 4) and
the state after it satisfies the hypotheses of part 2. The sleep of the activity at 50 was pushed when the
first one (pushed at 0) was still pending: no new sleep, the old one completes at 100 and is re-armed with
the remaining 50. -/
example :
    let peer : Nat → Nat := fun _ => 1
    let r := Sys.steps peer 0 (Sys.init [(true, 100), (false, 100)]) exampleRun
    let s149 := (r.map (·.2)).getD {}
    let s150 := ((s149.step peer 11 (.advance 1)).map (·.2)).getD {}
    let s150' := ((s150.step peer 11 (.poll 0)).map (·.2)).getD {}
    (r.map (·.1)) = some 11 ∧ s149.now = 149 ∧ permits s149 10 = 0 ∧
    (s149.svcs.map (·.holds 10)) = [1, 0] ∧ (s149.svcs.map (fun v => aget v.tr.last 10)) = [some 50, none] ∧
    (s149.svcs.map (fun v => v.tr.timers)) = [[⟨10, some 150, 50⟩], []] ∧
    exits s149 10 = false ∧ (s149.step peer 11 (.advance 2)) = none ∧
    s150.now = 150 ∧ exits s150 10 = false ∧ exits s150' 10 = true ∧
    (s150'.svcs.map (fun v => v.tr.timers)) = [[], []] := by
  decide

example : Reach (fun _ => 1) 11
    (((Sys.steps (fun _ => 1) 0 (Sys.init [(true, 100), (false, 100)]) exampleRun).map (·.2)).getD {}) := by
  have h : Sys.steps (fun _ => 1) 0 (Sys.init [(true, 100), (false, 100)]) exampleRun =
      some (11, ((Sys.steps (fun _ => 1) 0 (Sys.init [(true, 100), (false, 100)]) exampleRun).map (·.2)).getD {}) := by
    decide
  exact Reach.steps exampleRun (Reach.init _) h

/-- **Exactly at `max_p (last_activity_p + T)`** — the two directions of `idle_closed_at` put together
along a run. From any reachable state in which no permit of `c` is around (no keep-alive substream exists
or is being opened, nothing in flight), let nothing happen but the idle mechanism — time passing, as far as
the environment hypothesis allows, and keep-alive polls of any protocols, in any order and number — ending
in a state where every protocol has polled. Then the loop has exited **iff** for every protocol that held
`c` at the start its timeout has elapsed since its last activity: not at any earlier time, and at that time
for sure. (Protocols that did not hold `c` at the start have let go at their own `last_activity + T`
earlier, by `idle_closed_at` 1 and 3, so this is `t₀ + T` for `t₀` the last activity of all.) -/
theorem idle_run_closed_at {peer : Nat → Nat} {n n' : Nat} {s s' : Sys} (hr : Reach peer n s) (c : Nat)
    (hperm : permits s c = 0) (ls : List Label) (hall : ∀ l ∈ ls, idleLabel l = true)
    (hst : Sys.steps peer n s ls = some (n', s')) (hpolled : ∀ svc' ∈ s'.svcs, Polled svc' s'.now) :
    exits s' c = true ↔
      ∀ svc ∈ s.svcs, 0 < svc.holds c → ∀ la, aget svc.tr.last c = some la → la + svc.T ≤ s'.now :=
  (idle_run_exits c ls hr hperm hall hst hpolled).2

/-- Non-vacuity: from the state of `exampleRun` at time 100 (right after protocol 1 was downgraded; protocol
0 holds `10` with `last_activity = 50`), idle runs ending at 149 and at 150, every protocol polled: the
first has not exited, the second has; the hypotheses of the theorem hold for both. -/
example :
    let peer : Nat → Nat := fun _ => 1
    let r := Sys.steps peer 0 (Sys.init [(true, 100), (false, 100)]) (List.take 15 exampleRun)
    let s := (r.map (·.2)).getD {}
    let a := ((Sys.steps peer 11 s [.advance 49, .poll 1, .poll 0]).map (·.2)).getD {}
    let b := ((Sys.steps peer 11 s [.advance 49, .poll 0, .advance 1, .poll 0, .poll 1]).map (·.2)).getD {}
    s.now = 100 ∧ permits s 10 = 0 ∧ (s.svcs.map (·.holds 10)) = [1, 0] ∧
    (s.svcs.map (fun v => aget v.tr.last 10)) = [some 50, none] ∧
    a.now = 149 ∧ exits a 10 = false ∧ b.now = 150 ∧ exits b 10 = true ∧
    (b.svcs.map (fun v => v.tr.timers)) = [[], []] ∧ (a.svcs.map (fun v => v.tr.timers)) = [[⟨10, some 150, 50⟩], []] := by
  decide

/-- Non-vacuity, lazily started sleeps and the hypothesis: right after `open_substream` on a connection
whose handle had been downgraded (tracker entry gone) the new sleep is pushed but not started, and the
clock may not advance until the protocol has polled. -/
example :
    let peer : Nat → Nat := fun _ => 1
    let r := Sys.steps peer 0 (Sys.init [(true, 100), (true, 100)])
      [.established 10, .deliver 0, .poll 0, .deliver 1, .poll 1, .advance 60, .open 1 1, .poll 1, .advance 40, .poll 0,
       .poll 1, .advance 10, .open 0 1]
    let s := (r.map (·.2)).getD {}
    (s.svcs.map (fun v => v.tr.timers)).head? = some [⟨10, none, 100⟩] ∧
    s.step peer 11 (.advance 1) = none ∧
    ((s.step peer 11 (.poll 0)).bind fun x => (x.2.step peer 11 (.advance 1)).map (·.2.now)) = some 111 := by
  decide

/-- **Ping/identify-style traffic does not prolong.** For a protocol with
`SubstreamKeepAlive::No`, neither `open_substream` (any outcome) nor a reported substream changes
the protocol's state at all — `last_activity`, timers and handle activity stay as they are — and the
substream the connection task builds carries no lifetime permit, so the only holder such traffic
adds is the opening permit, gone when the protocol has processed the substream. -/
theorem ping_no_prolong (s : Svc) (hka : s.ka = false) (p c now sid : Nat) (up : Bool) (send : SendRes) :
    (s.openSubstream p now up send sid).1 = s ∧ s.onSubstreamOpened p c now = s ∧
    lifetimePermit s.ka = false ∧
    (∀ d life, life = lifetimePermit s.ka → msgHolds c (.subOpened p d c life) = 1) := by
  refine ⟨?_, ?_, by simp [lifetimePermit, hka], ?_⟩
  · unfold Svc.openSubstream
    cases aget s.conns p with
    | none => rfl
    | some ctx =>
      by_cases h : (ctx.primary.active || up) = false
      · simp [h]
      · cases send <;> simp [h, hka]
  · simp [Svc.onSubstreamOpened, hka]
  · intro d life hl; simp [hl, lifetimePermit, hka, msgHolds]

/-- Non-vacuity: the ping-like protocol opens and receives a substream at 90 and keeps it; the
connection still closes at 100. -/
example :
    let s1 := ((twoProtocols.advance 90).open 1 1).1
    let s2 := (((s1.recv 10).1.subOpen 10 0).map (fun s => (s.drain 1).1)).getD s1
    let s3 := (s2.advance 10).pollAll
    s2.subs = [(1, 10, false)] ∧ exits s2 10 = false ∧ exits s3 10 = true := by
  decide

/-- **Primary and secondary alike.** Whichever slot of the `ConnectionContext` holds connection
`c`, a keep-alive expiry deactivates exactly that handle and substream activity re-activates exactly
that handle; handles of other connections are untouched. (The tracker and the strong-sender count
are keyed by connection id and never look at the slot.) -/
theorem primary_secondary (ctx : KCtx) (c : Nat) (hd : Distinct ctx)
    (hin : ctx.primary.id = c ∨ ∃ h, ctx.secondary = some h ∧ h.id = c) :
    (ctx.downgrade c).activeFor c = false ∧ (ctx.tryUpgrade c true).activeFor c = true ∧
    ∀ d, d ≠ c → (ctx.downgrade c).activeFor d = ctx.activeFor d ∧
      (ctx.tryUpgrade c true).activeFor d = ctx.activeFor d := by
  refine ⟨Bool.eq_false_iff.mpr fun h => ?_, (ctxHolds_pos _ _).mp (tryUpgrade_self ctx c hin), fun d hne => ⟨?_, ?_⟩⟩
  · have := (ctxHolds_pos _ _).mpr h
    rw [downgrade_self ctx c hd] at this; omega
  · rw [Bool.eq_iff_iff, ← ctxHolds_pos, ← ctxHolds_pos, downgrade_other ctx d c (Ne.symm hne)]
  · rw [Bool.eq_iff_iff, ← ctxHolds_pos, ← ctxHolds_pos, tryUpgrade_other ctx d c true (Ne.symm hne)]

/-- Non-vacuity: a secondary connection `11` kept alive by an inbound keep-alive substream while the
primary `10` idles out; the substream is dropped at 200 and `11` closes `T` after its last activity. -/
example :
    let s0 : Sys := { svcs := [{ ka := true, T := 100 }] }
    let s1 := ((((s0.established 1 10).established 1 11).drain 0).1.advance 50)
    let s2 := ((s1.subInbound 11 0).1.drain 0).1
    let s3 := (s2.advance 60).pollAll
    let s4 := ((s3.advance 90).dropSub 0 0).getD s3
    (s3.svcs.map (·.conns)) = [[(1, ⟨⟨10, false⟩, some ⟨11, true⟩⟩)]] ∧
    exits s3 10 = true ∧ exits s3 11 = false ∧ exits s4.pollAll 11 = true := by
  decide

/-- **An inbound substream holds the connection from the moment it is accepted** (model
`Model/Conn/Permits.lean`, tied to the real `TcpConnection::start` loop in the `tcploop` area; this is the
connection task's side of `held_not_closed`, which the C09 adapter mimics).

1. `handle_yamux_substream`: if any strong sender of the command channel is left when an inbound yamux
   stream arrives, the loop goes on and the substream enters `pending_substreams` OWNING a permit — before
   multistream-select has said which protocol it is for.
2. That entry stays, with its permit, across every other transition of the system — other substreams
   being accepted, negotiated, failing; commands; every protocol downgrading or dropping its handle;
   deliveries; protocols shutting down — until its own negotiation ends (`TLabel.endsNeg k`: success under a main or
   a fallback name, failure or timeout; or the loop has returned for another reason): and as long as it is there the command channel has a strong sender, so
   `protocol_set.next()` cannot yield `None`: the idle exit is disabled.
3. When its negotiation succeeds for a live protocol `p` the permits travel with the `SubstreamOpened`
   message (`stage = queued`).
4. A substream being negotiated (inbound or outbound), and a delivered substream of a keep-alive
   protocol whether still in the protocol's channel or held by the protocol, keeps the idle exit
   disabled. -/
theorem inbound_negotiation_holds_connection :
    (∀ s : Conn.TLoop, s.running = true → 0 < s.strong →
      (Conn.tstep s .accept).subs = s.subs ++ [⟨true, none, .negotiating⟩] ∧
      (Conn.tstep s .accept).loop.exited = none) ∧
    (∀ (s : Conn.TLoop) (ls : List Conn.TLabel) (k : Nat) (x : Conn.Sub),
      s.subs[k]? = some x → x.stage = .negotiating →
      (∀ l ∈ ls, l.endsNeg k = false) →
      (Conn.trun s ls).loop.exited = none →
        (Conn.trun s ls).subs[k]? = some x ∧ 0 < (Conn.trun s ls).strong ∧
        (Conn.trun s ls).idleEnabled = false ∧
        Conn.tstep (Conn.trun s ls) .idleExit = Conn.trun s ls) ∧
    (∀ (s : Conn.TLoop) (k p : Nat) (x : Conn.Sub), s.running = true →
      s.subs[k]? = some x → x.stage = .negotiating → Conn.protoAlive s p = true →
      (Conn.tstep s (.negOk k p)).loop.exited = none →
        (Conn.tstep s (.negOk k p)).subs[k]? = some { x with proto := some p, stage := .queued }) ∧
    (∀ (s : Conn.TLoop) (x : Conn.Sub), x ∈ s.subs → Conn.Busy s.ka x →
      0 < s.strong ∧ s.idleEnabled = false ∧ Conn.tstep s .idleExit = s) := by
  refine ⟨fun s hr hs => ?_, fun s ls k x hk hx hls hrun => ?_, fun s k p x hr hk hx ha _ => ?_, Conn.busy_disables_idle⟩
  · have := Conn.accept_with_permit s hr hs
    exact ⟨this.1, this.2.1⟩
  · have h1 := Conn.trun_negotiating ls s k x hk hx hls hrun
    exact ⟨h1, Conn.busy_disables_idle _ x (List.mem_of_getElem? h1) (Or.inr (Or.inl hx))⟩
  · exact (Conn.neg_report s hr k x hk p ha (.negOk k p) true (Or.inl ⟨rfl, hx, rfl⟩)).2.1

/-- Non-vacuity (the C09-b2 shape): one keep-alive protocol takes the connection; the remote opens a
substream (accepted: `subs[0]` negotiating) and stalls; the protocol's keep-alive timer fires (`downgrade`).
The hypotheses of part 2 hold for the label sequence, the only strong sender left is the substream's
permit, the idle exit does nothing — as often as it is tried. When the negotiation fails the permit is
gone and the idle exit closes the connection, reports made once. When it succeeds instead, the
substream's lifetime permit keeps the connection until the protocol drops the substream. -/
example :
    let s1 := Conn.trun (Conn.tinit [true] 4) [.recv 0, .accept]
    let s2 := Conn.trun s1 [.downgrade 0, .idleExit, .idleExit]
    let s3 := Conn.trun s2 [.negFail 0, .idleExit]
    let s4 := Conn.trun s2 [.negOk 0 0, .idleExit, .recv 0, .idleExit]
    let s5 := Conn.trun s4 [.dropSub 0, .idleExit]
    s1.subs[0]? = some ⟨true, none, .negotiating⟩ ∧
    s2.strong = 1 ∧ s2.loop.exited = none ∧ s2.subs[0]? = some ⟨true, none, .negotiating⟩ ∧
    s3.loop.exited = some .ok ∧ s3.loop.ps.log = [.proto 0 .closed, .mgr] ∧
    s4.loop.exited = none ∧ s4.subs = [⟨true, some 0, .held⟩] ∧ s4.strong = 1 ∧
    s5.loop.exited = some .ok := by decide

/-- Non-vacuity: for a ping-like protocol the permits end with the delivery (no lifetime permit). -/
example :
    let s := Conn.trun (Conn.tinit [false] 4) [.recv 0, .accept, .downgrade 0, .negOk 0 0, .idleExit, .recv 0]
    s.loop.exited = none ∧ s.strong = 0 ∧ (Conn.tstep s .idleExit).loop.exited = some .ok := by decide

/-- **A half-closed substream holds the connection until the object is dropped** (model `Model/Conn/Permits.lean`,
tied to the real loop and the real `tcp::Substream` in the `tcploop` area: `half_close` = `Sink::poll_close` →
`AsyncWrite::poll_shutdown` on a held substream, the protocol keeps the object and goes on reading).

The lifetime permit is a field of the substream object; shutting down the write half does not touch it.
1. Half-closing the oldest held substream of protocol `i` leaves the same entry in the table — same protocol, now
   `heldHalf` — and changes nothing else (no handle, no command, nothing about the loop).
2. A half-closed substream of a keep-alive protocol is a strong sender of the command channel: `protocol_set.next()`
   cannot yield `None`, the idle exit is disabled and does nothing.
3. It stays there, with its permit, across EVERY other transition of the system — the keep-alive timers of all
   protocols firing (`downgrade`), handles dropped, other substreams accepted / negotiated / failing / half-closed /
   dropped, deliveries, channels filling — until its owner drops the object (`dropSub`) or shuts down (`dropRx`):
   so for every such schedule the idle exit stays disabled, as often as it is tried. -/
theorem half_closed_substream_holds_connection :
    (∀ (s : Conn.TLoop) (i k : Nat), Conn.firstAt s.subs i .heldHalf = none → Conn.firstAt s.subs i .held = some k →
      ∃ x, s.subs[k]? = some x ∧ x.stage = .held ∧ x.proto = some i ∧
        (Conn.tstep s (.halfClose i)).subs[k]? = some { x with stage := .heldHalf } ∧
        (Conn.tstep s (.halfClose i)).loop = s.loop ∧ (Conn.tstep s (.halfClose i)).handles = s.handles ∧
        (Conn.tstep s (.halfClose i)).cmdQ = s.cmdQ) ∧
    (∀ (s : Conn.TLoop) (x : Conn.Sub), x ∈ s.subs → x.stage = .heldHalf → Conn.kaOf s.ka x.proto = true →
      0 < s.strong ∧ s.idleEnabled = false ∧ Conn.tstep s .idleExit = s) ∧
    (∀ (s : Conn.TLoop) (ls : List Conn.TLabel) (k : Nat) (x : Conn.Sub),
      s.subs[k]? = some x → x.stage = .heldHalf → Conn.kaOf s.ka x.proto = true →
      (∀ l ∈ ls, ∀ i, x.proto = some i → l ≠ .dropSub i ∧ l ≠ .dropRx i) →
        (Conn.trun s ls).subs[k]? = some x ∧ 0 < (Conn.trun s ls).strong ∧
        (Conn.trun s ls).idleEnabled = false ∧
        Conn.tstep (Conn.trun s ls) .idleExit = Conn.trun s ls) := by
  refine ⟨Conn.halfClose_keeps,
    fun s x hmem hx hka => Conn.busy_disables_idle s x hmem (Or.inr (Or.inr ⟨hka, Or.inr (Or.inr hx)⟩)),
    fun s ls k x hk hx hka hls => ?_⟩
  have h1 := Conn.trun_heldHalf ls s k x hk hx hls
  have hka' : Conn.kaOf (Conn.trun s ls).ka x.proto = true := by rw [Conn.trun_ka]; exact hka
  exact ⟨h1, Conn.busy_disables_idle _ x (List.mem_of_getElem? h1) (Or.inr (Or.inr ⟨hka', Or.inr (Or.inr hx)⟩))⟩

/-- Non-vacuity (the request/response shape): a keep-alive protocol gets an inbound substream, writes its request and
closes its write half, and waits for the reply. Its keep-alive timer fires (`downgrade`): the only strong sender
left is the half-closed substream's lifetime permit; the idle exit does nothing, as often as it is tried. Only when
the protocol drops the object does the connection close (reports made once). For a ping-like protocol the same
substream never held the connection. -/
example :
    let s1 := Conn.trun (Conn.tinit [true] 4) [.recv 0, .accept, .negOk 0 0, .recv 0]
    let s2 := Conn.trun s1 [.halfClose 0]
    let s3 := Conn.trun s2 [.downgrade 0, .idleExit, .halfClose 0, .idleExit]
    let s4 := Conn.trun s3 [.dropSub 0, .idleExit]
    let t := Conn.trun (Conn.tinit [false] 4) [.recv 0, .accept, .negOk 0 0, .recv 0, .halfClose 0, .downgrade 0, .idleExit]
    Conn.firstAt s1.subs 0 .heldHalf = none ∧ Conn.firstAt s1.subs 0 .held = some 0 ∧
    s2.subs = [⟨true, some 0, .heldHalf⟩] ∧ s2.strong = 2 ∧
    s3.subs = [⟨true, some 0, .heldHalf⟩] ∧ s3.strong = 1 ∧ s3.loop.exited = none ∧
    s4.loop.exited = some .ok ∧ s4.loop.ps.log = [.proto 0 .substreamOpened, .proto 0 .closed, .mgr] ∧
    t.loop.exited = some .ok := by decide

/-- **A substream negotiated under a FALLBACK name holds the connection like any other substream of its protocol**
(model `Model/Conn/Permits.lean`; tied to the real `ProtocolSet::new` / `accept_substream` /
`report_substream_open` and the real loop in the `tcploop` area: protocols installed with `fb=`, the remote proposing
`<p>.f<k>`, a remote that only knows a fallback name of what we ask for). The permit rule is per PROTOCOL, whichever
of its names was negotiated:

1. `ProtocolSet::new` builds the name → keep-alive map from the main names and, for every fallback name, the context
   of ITS MAIN protocol: every name `(p, f)` of an installed protocol `p` — main (`f = 0`) or fallback — carries
   `p`'s own keep-alive setting; and `report_substream_open` reports the name to `p`, with the `fallback` field
   naming it exactly when it is a fallback name (C03 `fallback_reported_as_main` is the same rule on byte strings).
2. Hence in the loop the negotiated name does not matter: `negOkFb k p f` is `negOk k p`.
3. An inbound substream negotiated under the `f`-th fallback name of a live protocol `p` goes to `p`'s channel with
   its permits (`stage = queued`, `proto = p`): the same entry that was accepted.
4. From then on — in the protocol's channel, held, or held with its write half shut down — a substream of a
   keep-alive protocol is a strong sender of the command channel in EVERY state in which it exists:
   `protocol_set.next()` cannot yield `None`, the idle exit is disabled and does nothing, until the protocol drops
   it (`inbound_negotiation_holds_connection` covers the time before, `half_closed_substream_holds_connection` the
   schedules after). -/
theorem fallback_name_substream_holds_connection :
    (∀ (ka : List Bool) (fbs : List Nat) (p f : Nat), fbs.length = ka.length → p < ka.length → f ≤ fbs.getD p 0 →
      Conn.nameKa ka fbs (p, f) = some ka[p]? ∧
      Conn.reportTo fbs (p, f) = (p, if f = 0 then none else some (p, f))) ∧
    (∀ (s : Conn.TLoop) (k p f : Nat), Conn.tstep s (.negOkFb k p f) = Conn.tstep s (.negOk k p)) ∧
    (∀ (s : Conn.TLoop) (k p f : Nat) (x : Conn.Sub), s.running = true →
      s.subs[k]? = some x → x.stage = .negotiating → Conn.protoAlive s p = true →
      (Conn.tstep s (.negOkFb k p f)).loop.exited = none →
        (Conn.tstep s (.negOkFb k p f)).subs[k]? = some { x with proto := some p, stage := .queued }) ∧
    (∀ (s : Conn.TLoop) (x : Conn.Sub) (p : Nat), x ∈ s.subs → x.proto = some p → s.ka.getD p false = true →
      (x.stage = .queued ∨ x.stage = .held ∨ x.stage = .heldHalf) →
      0 < s.strong ∧ s.idleEnabled = false ∧ Conn.tstep s .idleExit = s) := by
  refine ⟨fun ka fbs p f hlen hp hf => ⟨Conn.nameKa_eq ka fbs hlen p f hp hf,
      Conn.reportTo_eq fbs p f (by omega) hf⟩, fun _ _ _ _ => rfl,
    fun s k p f x hr hk hx ha _ => (Conn.neg_report s hr k x hk p ha (.negOk k p) true (Or.inl ⟨rfl, hx, rfl⟩)).2.1,
    fun s x p hmem hpr hka hst => ?_⟩
  have hk : Conn.kaOf s.ka x.proto = true := by rw [hpr]; exact hka
  exact Conn.busy_disables_idle s x hmem (Or.inr (Or.inr ⟨hk, hst⟩))

/-- Non-vacuity (the C09-d1 shape): protocol 0 (keep-alive, fallback names `(0,1)`, `(0,2)`) and protocol 1
(ping-like, one fallback name). The map of `ProtocolSet::new` gives `(0,2)` the setting of protocol 0 and `(1,1)` that
of protocol 1, and reports them to 0 and 1 with the name. The remote opens a substream and negotiates `(0,2)`; both
protocols let go of the connection: the substream's lifetime permit is the only strong sender left and the idle exit
does nothing, as often as it is tried, until protocol 0 drops the substream. Negotiated under the ping-like protocol's
fallback name instead, the same history ends with the connection closed. -/
example :
    let s1 := Conn.trun (Conn.tinit [true, false] 4) [.recv 0, .recv 1, .accept, .negOkFb 0 0 2, .recv 0]
    let s2 := Conn.trun s1 [.downgrade 0, .downgrade 1, .idleExit, .idleExit]
    let s3 := Conn.trun s2 [.dropSub 0, .idleExit]
    let t := Conn.trun (Conn.tinit [true, false] 4)
      [.recv 0, .recv 1, .accept, .negOkFb 0 1 1, .recv 1, .downgrade 0, .downgrade 1, .idleExit]
    Conn.nameKa [true, false] [2, 1] (0, 2) = some (some true) ∧ Conn.nameKa [true, false] [2, 1] (1, 1) = some (some false) ∧
    Conn.reportTo [2, 1] (0, 2) = (0, some (0, 2)) ∧ Conn.reportTo [2, 1] (1, 0) = (1, none) ∧
    Conn.nameKa [true, false] [2, 1] (0, 3) = none ∧
    s1.subs = [⟨true, some 0, .held⟩] ∧ s1.loop.ps.log = [.proto 0 .substreamOpened] ∧
    s2.strong = 1 ∧ s2.loop.exited = none ∧ s2.subs = [⟨true, some 0, .held⟩] ∧
    s3.loop.exited = some .ok ∧ t.loop.exited = some .ok := by decide

/-- **A refused request takes nothing away from the connection.** `open_substream` answered
`ChannelClogged` (the connection's command channel is full: a burst of requests nobody has read yet)
leaves the peer's handles where they were — the primary keeps its id, stays active if it was active
(and is re-activated if a strong sender still exists), the secondary and every other peer's context
are untouched — and the tracker either unchanged or with this attempt recorded as activity (the
deadline only moves forward). So after a clogged open the protocol holds the connection until `T`
after the last keep-alive activity, exactly as without it (`idle_closed_at`). -/
theorem clogged_open_keeps_handle (s : Svc) (p now sid : Nat) (up : Bool) (ctx : KCtx)
    (hctx : aget s.conns p = some ctx) :
    (∃ ctx', aget (s.openSubstream p now up .full sid).1.conns p = some ctx' ∧
        ctx'.primary.id = ctx.primary.id ∧ ctx'.secondary = ctx.secondary ∧
        (ctx.primary.active = true → ctx'.primary.active = true) ∧
        (ctx'.primary.active = true → ctx.primary.active = true ∨ up = true)) ∧
    (∀ q, q ≠ p → aget (s.openSubstream p now up .full sid).1.conns q = aget s.conns q) ∧
    ((s.openSubstream p now up .full sid).1.tr = s.tr ∨
      (s.openSubstream p now up .full sid).1.tr = s.tr.activity ctx.primary.id now s.T) ∧
    ((s.openSubstream p now up .full sid).2.2 = .error .channelClogged ∨
      (s.openSubstream p now up .full sid).2.2 = .error .connectionClosed) := by
  unfold Svc.openSubstream
  rw [hctx]
  by_cases h : (ctx.primary.active || up) = false
  · simp [h, hctx]
    exact Or.inl
  · by_cases hka : s.ka = true
    · have hup : ctx.primary.active = false → up = true := by
        intro ha; simpa [ha] using h
      cases ha : ctx.primary.active <;> simp_all [aget_aput, Handle.tryUpgrade]
    · simp [h, hka, hctx]
      exact Or.inl

/-- Non-vacuity: peer 1's connection 10 was announced at 0; at 60 the command channel is full and the
keep-alive protocol's `open_substream` is answered `ChannelClogged`: the handle is still active and
the attempt is the last activity. -/
example :
    let s0 : Svc := { ka := true, T := 100, conns := [(1, ⟨⟨10, true⟩, none⟩)], tr := (({} : Tracker).activity 10 0 100) }
    let r := s0.openSubstream 1 60 true .full 7
    (match r.2.2 with | .error .channelClogged => true | _ => false) = true ∧
    aget r.1.conns 1 = some ⟨⟨10, true⟩, none⟩ ∧ aget r.1.tr.last 10 = some 60 ∧
    r.1.holds 10 = 1 := by
  decide

/-- The default timeout (regenerated from `src/transport/mod.rs`) is positive, so a fresh
connection always gets a grace period. -/
example : 0 < Consts.KEEP_ALIVE_TIMEOUT_SECS := by decide

end Litep2pVerif.Props.C09

#print axioms Litep2pVerif.Props.C09.held_not_closed
#print axioms Litep2pVerif.Props.C09.idle_closed_at
#print axioms Litep2pVerif.Props.C09.idle_run_closed_at
#print axioms Litep2pVerif.Props.C09.poll_settles
#print axioms Litep2pVerif.Props.C09.ping_no_prolong
#print axioms Litep2pVerif.Props.C09.primary_secondary
#print axioms Litep2pVerif.Props.C09.inbound_negotiation_holds_connection
#print axioms Litep2pVerif.Props.C09.half_closed_substream_holds_connection
#print axioms Litep2pVerif.Props.C09.clogged_open_keeps_handle

/-! ## Wiring — what `Litep2p::new` hands over (coverage round `node`)

Over the wiring model `Model/Node/Wiring.lean` (`Node.new c` = `Litep2p::new(ConfigBuilder…build())`), which is tied to
the real `ConfigBuilder`/`Litep2p::new` by the `node` area: the adapter prints the ACTUAL registration record of a node built
through the public API, the driver prints the model's, compared field by field on every run. -/
namespace Litep2pVerif.Props.C09.Wiring
open Litep2pVerif Litep2pVerif.Node

/-- A configuration with every kind of protocol (used by the non-vacuity examples). -/
def sample : Config :=
  { keepAliveMs := some 600, limits := some (some 2, none), listen := [1, 2],
    notif := [⟨"/n/a", 1024, "0102", ["/n/old"], 'a', some 64, some 64, none⟩],
    rr := [⟨"/r/a", 256, 800, ["/r/old"], none⟩, ⟨"/r/b", 64, 800, [], some 1⟩],
    user := [⟨"/u/a", .varint none⟩], kad := [⟨[], none, []⟩], ping := some 1, identify := true, bitswap := true,
    known := some [(0, [.listen 0, .closed, .quic, .wrongPeer 0, .noPeer 0])] }

/-- For every configuration, every protocol `Litep2p::new` registers — user and libp2p alike — gets a `TransportService`
that runs with exactly the keep-alive timeout the user configured (the default `KEEP_ALIVE_TIMEOUT` if none was). -/
theorem configured_keep_alive_reaches_service (c : Config) (w : Wired) (h : Node.new c = .ok w) :
    ∀ r ∈ w.regs, r.keepAliveMs = c.keepAliveMs.getD (1000 * Consts.KEEP_ALIVE_TIMEOUT_SECS) := by
  intro r hr
  obtain ⟨_, _, rfl⟩ := wire_ok h
  exact keepAlive_of_mem_registrations _ hr

example : ∃ w, Node.new sample = .ok w ∧ w.regs.length = 8 ∧ ∀ r ∈ w.regs, r.keepAliveMs = 600 :=
  ⟨_, rfl, by decide, by decide⟩
example : ∃ w, Node.new { sample with keepAliveMs := none } = .ok w ∧ ∀ r ∈ w.regs, r.keepAliveMs = 5000 :=
  ⟨_, rfl, by decide⟩

/-- Ping and identify are the registrations whose substreams do not keep a connection alive; notification,
request-response and user protocols are registered with `SubstreamKeepAlive::Yes`. -/
theorem keep_alive_flag_by_protocol_kind (c : Config) (w : Wired) (h : Node.new c = .ok w) :
    (∀ p ∈ (build c).notif, ∃ r ∈ w.regs, r.name = p.name ∧ r.keepAlive = true) ∧
    (∀ p ∈ (build c).rr, ∃ r ∈ w.regs, r.name = p.name ∧ r.keepAlive = true) ∧
    (∀ p ∈ (build c).user, ∃ r ∈ w.regs, r.name = p.name ∧ r.keepAlive = true) ∧
    (c.ping.isSome → ∃ r ∈ w.regs, r.name = pingName ∧ r.keepAlive = false) ∧
    (c.identify = true → ∃ r ∈ w.regs, r.name = identifyName ∧ r.keepAlive = false) := by
  obtain ⟨_, _, rfl⟩ := wire_ok h
  refine ⟨fun p hp => ⟨_, notif_mem_registrations _ hp, rfl, rfl⟩, fun p hp => ⟨_, rr_mem_registrations _ hp, rfl, rfl⟩,
    fun p hp => ⟨_, user_mem_registrations _ hp, rfl, rfl⟩, ?_, ?_⟩
  · intro hp
    refine ⟨⟨pingName, [], .identity Consts.PING_PAYLOAD_SIZE, (build c).keepAliveMs, false⟩, ?_, rfl, rfl⟩
    cases hc : c.ping with
    | none => simp [hc] at hp
    | some v => simp [registrations, build, hc]
  · intro hi
    refine ⟨⟨identifyName, [], .varint (some Consts.IDENTIFY_PAYLOAD_SIZE), (build c).keepAliveMs, false⟩, ?_, rfl, rfl⟩
    simp [registrations, build, hi]

example : ∃ w, Node.new sample = .ok w ∧ (w.regs.filter (fun r => !r.keepAlive)).map (·.name) = [pingName, identifyName] :=
  ⟨_, rfl, by decide⟩

end Litep2pVerif.Props.C09.Wiring

#print axioms Litep2pVerif.Props.C09.Wiring.configured_keep_alive_reaches_service
#print axioms Litep2pVerif.Props.C09.Wiring.keep_alive_flag_by_protocol_kind
#print axioms Litep2pVerif.Props.C09.fallback_name_substream_holds_connection
