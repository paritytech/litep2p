import Litep2pVerif.Proofs.Manager.LedgerStep
import Litep2pVerif.Proofs.Node.Wiring
import Litep2pVerif.Proofs.Manager.Proto
import Litep2pVerif.Proofs.Manager.Facade
import Litep2pVerif.Proofs.Tcp.Poll
/-!
# C05 — Every dial attempt ends in exactly one outcome and never wedges the peer

The property theorems with their non-vacuity examples, and three small lemmas only they use (`poutcome_eq`,
`eq_singleton_of_length_le_one`, `runSends_mono`): the manager, then the dial requests of the protocols, then the
`Litep2p` facade; namespace `Wiring`: what `Litep2p::new` hands to the manager; namespace `TcpPoll`: the TCP
transport's event stream. Model: `Model/Manager/{PeerState,Limits,Dial}.lean` (operational copy of
`src/transport/manager/{peer_state,limits,mod}.rs` **after** the two repairs `fix: dial_address
rejects addresses with components after the first /p2p` (finding (f)) and `fix: report a dial
failure and clear the dial record when connection limits reject a dialed connection` (finding
(d))). Lemmas and the invariant: `Proofs/Manager/{Basic,Addr,Ledger,LedgerStep}.lean`.

`Reach g`: `g` is reachable from an initial manager (any limit configuration) by inputs the
environment contract `allowed` admits — any API call at any time; transport events only for
outstanding obligations (`g.owed`: one per `dial`/`open`/`negotiate`/`accept` call, removed by its
terminal event or by `cancel`), reporting the peer the transport parsed from the dialed address;
inbound connections with ids taken from the shared counter; `accept` succeeds; a connection closes
only after it was accepted. The transport's `dial`/`open`/`negotiate` return `Ok`: for `dial` this is
`dial_address_parses_for_tcp` below (finding (e) is unreachable with TCP), `TcpTransport::open`
has no error return and `negotiate` only fails for an id it did not report (finding (g), latent).

Ghost state (functions of inputs and outputs only): `g.ledger` — one `Attempt` per API call that
made the manager call `dial`/`open` on the transport; `g.log` — every event `next()` returned;
`outcome g a` — reports in the log that conclude `a` (`ConnectionEstablished` for the connection that
carries `a`: its own, or the inbound one that superseded it while opening; `DialFailure`/`OpenFailure`
for its own id); `inflight g a` — 1 iff the environment still owes the event that concludes `a`.

**Protocol level** (`Model/Manager/Proto.lean`, lemmas `Proofs/Manager/Proto.lean`): `PS` wraps `G` with
the bounded event channel of every installed protocol, the command channel, and the manager step
that is suspended inside `next()` on a blocking `send()` to a full channel (`todo`, `held`). `PReach`:
reachable by contract-abiding base inputs (refused while the manager is blocked), protocol dial
requests through `TransportManagerHandle::dial` / `dial_address`, anything filling a channel, a
protocol draining its channel, and the two internal steps "the manager takes the next command" and
"the blocked send is polled again" — in every order, for every number and order of protocols and
every channel capacity. Ghost: `sent j` / `recv j` (what entered / left channel `j`), `done` (the
fate of every processed command), `pall ps j` = what protocol `j` was sent or is still being sent.

**Facade level** (`Model/Manager/Facade.lean`, lemmas `Proofs/Manager/Facade.lean`): `Litep2p::dial` /
`dial_address` forward to the manager (`facadeDial`, `facadeDialAddress`); `facadeEvent` is the `match`
of `Litep2p::next_event` over every `TransportEvent` shape (`none` = the `_ => {}` arm: dropped, poll
again); `facadeEvents l` = what the user is handed for the events `l` the manager returned;
`concluding g a` = the manager reports that conclude attempt `a`; `uoutcome g a` = how many user
events they become.
-/
namespace Litep2pVerif.Props.C05
open Litep2pVerif Litep2pVerif.Manager

/-- **Exactly one outcome, never silence.** In every reachable state, for every accepted attempt:
either the transport still owes the event that concludes it and nothing was reported yet, or it
owes nothing and exactly one report was made. -/
theorem dial_ledger {g : G} (h : Reach g) (a : Attempt) (ha : a ∈ g.ledger) :
    outcome g a + inflight g a = 1 := by
  unfold inflight
  rcases ((inv05_reach h).ledger a ha).2 with ⟨hin, h0⟩ | ⟨hnot, h1⟩
  · rw [if_pos (any_conn_iff.2 hin)]; omega
  · rw [if_neg (fun hc => hnot (any_conn_iff.1 hc))]; omega

/-- **Never two reports.** An accepted dial attempt never gets two reports: not two failures, not a
connection and a failure. -/
theorem no_dup_outcome {g : G} (h : Reach g) (a : Attempt) (ha : a ∈ g.ledger) : outcome g a ≤ 1 := by
  have := dial_ledger h a ha
  omega

/-- Non-vacuity, and the history of finding (d): outbound limit 1, two concurrent dials, both
connections establish. The second is rejected by the limit; (after the fix) its attempt is
concluded by a `DialFailure`, nothing is in flight, and both attempts have exactly one report. -/
example :
    let g := runG (G.init ⟨none, some 1⟩)
      [.dialAddress [.ip4 1, .tcp 1, .p2p 1], .dialAddress [.ip4 2, .tcp 2, .p2p 2],
       .evEstablished 1 ⟨false, [.ip4 1, .tcp 1, .p2p 1], 0⟩ true,
       .evEstablished 2 ⟨false, [.ip4 2, .tcp 2, .p2p 2], 1⟩ true,
       .acceptResult 0 true]
    g.ledger = [⟨2, 1, 1⟩, ⟨1, 0, 0⟩] ∧ g.owed = [] ∧
    outcome g ⟨2, 1, 1⟩ = 1 ∧ outcome g ⟨1, 0, 0⟩ = 1 ∧ stateOf g.m 2 = .disconnected none ∧
    g.log = [.dialFailure 1 [.ip4 2, .tcp 2, .p2p 2] .negotiation,
             .established 1 ⟨false, [.ip4 1, .tcp 1, .p2p 1], 0⟩] := by
  decide

/-- The same history is admitted by the environment contract, i.e. the state is `Reach`able. -/
example : Reach (runG (G.init ⟨none, some 1⟩)
      [.dialAddress [.ip4 1, .tcp 1, .p2p 1], .dialAddress [.ip4 2, .tcp 2, .p2p 2],
       .evEstablished 1 ⟨false, [.ip4 1, .tcp 1, .p2p 1], 0⟩ true,
       .evEstablished 2 ⟨false, [.ip4 2, .tcp 2, .p2p 2], 1⟩ true,
       .acceptResult 0 true]) :=
  Reach.step _ (Reach.step _ (Reach.step _ (Reach.step _ (Reach.step _ (Reach.init _)
    (by decide)) (by decide)) (by decide)) (by decide)) (by decide)

/-- **A quiescent peer can be dialed again.** If the transport owes nothing for `p` (all network
activity for `p` has concluded) and the manager keeps no connection slot for `p`, then `p` is
`Disconnected` without dial record — so `can_dial` says yes and a dial is really attempted: `dial`
calls `open` on the transport whenever an address is known and there is outbound capacity, and
`dial_address` calls `dial` for every well-formed TCP address of `p`. (Every open connection of `p`
occupies a slot: C06 `two_per_peer`.) -/
theorem quiescent_dialable {g : G} (h : Reach g) (p : Peer)
    (hquiet : ∀ o ∈ g.owed, o.peer ≠ p) (hnoconn : (stateOf g.m p).slots = []) :
    stateOf g.m p = .disconnected none ∧
    (∀ ch cap, p ≠ localPeer → g.m.limits.onDialAddress = some cap →
      (selectAddrs (g.m.peers p).addresses cap ch).isEmpty = false →
      (dial g.m p ch).2.res = .ok ∧
      (dial g.m p ch).2.calls = [.open g.m.nextConn (selectAddrs (g.m.peers p).addresses cap ch)]) ∧
    (∀ first port cap, first.isIpOrDns = true → g.m.limits.onDialAddress = some cap →
      [first, .tcp port, .p2p p] ∉ listenAddrs →
      (dialAddress g.m [first, .tcp port, .p2p p]).2.res = .ok ∧
      (dialAddress g.m [first, .tcp port, .p2p p]).2.calls =
        [.dial g.m.nextConn [first, .tcp port, .p2p p]]) := by
  have hi := inv05_reach h
  have hidle : stateOf g.m p = .disconnected none := by
    cases hc : (stateOf g.m p).canDial with
    | ok => exact PeerState.canDial_ok hc
    | dialingInProgress =>
      obtain ⟨o, ho, hop, _⟩ := hi.owed_of_busy hc
      exact absurd hop (hquiet o ho)
    | alreadyConnected => exact absurd hnoconn (PeerState.slots_ne_nil_of_connected hc)
  refine ⟨hidle, ?_, ?_⟩
  · intro ch cap hloc hcap hne
    unfold dial
    simp [hcap, hloc, hidle, PeerState.canDial, hne]
  · intro first port cap hip hcap hnl
    unfold dialAddress
    simp [hcap, lastPeer, hnl, dialAddrTransport, hip, hidle, PeerState.dialSingleAddress, PeerState.canDial]

/-- Non-vacuity: after a failed dial by peer id (open failure) the peer is quiescent and the next
`dial` is attempted with a new connection id. -/
example :
    let g := runG (G.init ⟨none, none⟩)
      [.addKnown 1 [[.ip4 1, .tcp 1, .p2p 1]], .dial 1 [], .evOpenFailure 0 [([.ip4 1, .tcp 1, .p2p 1], .timeout)]]
    g.owed = [] ∧ stateOf g.m 1 = .disconnected none ∧
    (dial g.m 1 []).2.calls = [.open 1 [[.ip4 1, .tcp 1, .p2p 1]]] ∧ outcome g ⟨1, 0, 0⟩ = 1 := by
  decide

/-- **`dial_address` is total on every multiaddress shape.** Whatever the state and the address:
no panic, and either (1) an error is returned, no call is made and no peer state, pending
connection, limit counter or pending accept changes; or (2) `Ok` is returned because the peer named
by the last `/p2p` already has a dial in progress, again without any change; or (3) an attempt
starts: the peer was idle, `dial` is called once with a new connection id, the peer is `Dialing`
with that id, the id is pending for that peer — and the peer the TCP transport will verify is the
same peer (finding (f) repaired). -/
theorem addr_total (s : Mgr) (a : Multiaddr) :
    let r := dialAddress s a
    r.2.panic = false ∧
    ((∃ e, r.2.res = .err e ∧ r.2.calls = [] ∧ r.2.events = [] ∧ (∀ q, stateOf r.1 q = stateOf s q) ∧
        r.1.pending = s.pending ∧ r.1.limits = s.limits ∧ r.1.pendingAccept = s.pendingAccept) ∨
     (∃ p, r.2.res = .ok ∧ r.2.calls = [] ∧ r.2.events = [] ∧ lastPeer a = some p ∧
        (stateOf s p).canDial = .dialingInProgress ∧ (∀ q, stateOf r.1 q = stateOf s q) ∧
        r.1.pending = s.pending) ∨
     (∃ p, r.2.res = .ok ∧ r.2.calls = [.dial s.nextConn a] ∧ lastPeer a = some p ∧
        tcpParse a = some (some p) ∧ stateOf s p = .disconnected none ∧
        stateOf r.1 p = .dialing ⟨a, s.nextConn⟩ ∧ (∀ q, q ≠ p → stateOf r.1 q = stateOf s q) ∧
        alookup s.nextConn r.1.pending = some p)) := by
  intro r
  obtain ⟨hshape, hpanic⟩ := dialAddress_shape_nopanic s a r rfl
  refine ⟨hpanic, ?_⟩
  cases hshape with
  | quiet hres hcalls hev hst hpend hlim hpa _ =>
    rcases hres with ⟨e, hres⟩ | ⟨hres, p, hremote, hbusy⟩
    · exact Or.inl ⟨e, hres, hcalls, hev, hst, hpend, hlim, hpa⟩
    · exact Or.inr (Or.inl ⟨p, hres, hcalls, hev, hremote, hbusy, hst, hpend⟩)
  | started p hres hcalls hev hremote htcp hidle hst hpend _ _ _ =>
    refine Or.inr (Or.inr ⟨p, hres, hcalls, hremote, htcp, hidle, ?_, ?_, ?_⟩)
    · rw [hst p, if_pos rfl]
    · intro q hq; rw [hst q, if_neg hq]
    · rw [hpend, alookup_ainsert, if_pos rfl]

/-- Non-vacuity: the address of finding (f) (`…/p2p/1/p2p/2`) and other adversarial shapes are
refused without touching any state; a well-formed address starts an attempt. -/
example :
    (dialAddress (Mgr.init {}) [.ip4 5, .tcp 5, .p2p 1, .p2p 2]).2.res = .err .transportNotSupported ∧
    (dialAddress (Mgr.init {}) [.ip4 5, .tcp 5, .p2p 1, .other 0, .p2p 2]).2.res = .err .transportNotSupported ∧
    (dialAddress (Mgr.init {}) [.ip4 5, .tcp 5]).2.res = .err .peerIdMissing ∧
    (dialAddress (Mgr.init {}) [.p2p 1]).2.res = .err .transportNotSupported ∧
    (dialAddress (Mgr.init {}) []).2.res = .err .peerIdMissing ∧
    (dialAddress (Mgr.init {}) [.ip4 5, .tcp 5, .ws, .p2p 1]).2.res = .err .transportNotSupported ∧
    (dialAddress (Mgr.init {}) [.ip4 99, .tcp 99, .p2p 0]).2.res = .err .triedToDialSelf ∧
    (dialAddress (Mgr.init {}) [.dns 5, .tcp 5, .p2p 1]).2.calls = [.dial 0 [.dns 5, .tcp 5, .p2p 1]] := by
  decide

/-- **Finding (e) is unreachable with TCP.** Every address `dial_address` hands to the transport
is accepted by the TCP address parser, so `TcpTransport::dial` returns `Ok` and the peer cannot be
left `Dialing` by a failing call. -/
theorem dial_address_parses_for_tcp (a : Multiaddr) (t : Transport) (h : dialAddrTransport a = some t) :
    tcpParse a ≠ none := by
  obtain ⟨first, port, p, rfl, hip⟩ := dialAddrTransport_shape h
  rw [tcpParse_of_shape _ _ _ hip]; simp

/-- **Finding (f) repaired.** For every address `dial_address` lets through, the peer the TCP
transport dials and verifies (first `/p2p`) is the peer the manager keeps the dial record for (last
`/p2p`). -/
theorem dial_address_peers_agree (a : Multiaddr) (t : Transport) (h : dialAddrTransport a = some t) :
    ∃ p, lastPeer a = some p ∧ tcpParse a = some (some p) := by
  obtain ⟨first, port, p, rfl, hip⟩ := dialAddrTransport_shape h
  exact ⟨p, lastPeer_of_shape _ _ _, tcpParse_of_shape _ _ _ hip⟩

example : dialAddrTransport [.ip6 3, .tcp 7, .p2p 4] = some .tcp ∧
    tcpParse [.ip4 5, .tcp 5, .p2p 1, .p2p 2] = some (some 1) ∧ lastPeer [.ip4 5, .tcp 5, .p2p 1, .p2p 2] = some 2 ∧
    dialAddrTransport [.ip4 5, .tcp 5, .p2p 1, .p2p 2] = none := by
  decide

/-- **The synchronous part of the real TCP transport accepts whatever the manager hands it.** Every
`Transport::dial` call `dial_address` makes and every `Transport::open` call `dial` makes — in every
state, for every address / address-book content, ports 0 and 65535, unspecified, broadcast and loopback
hosts included (the model's addresses are arbitrary numbers) — passes the synchronous checks of
`TcpTransport::dial` / `open` (`tcpDialSync`, `tcpOpenSync`: the address parser, nothing else). So the
`?` after `Transport::dial` in `dial_address`, which would leave the peer `Dialing` with no pending
connection (wedged: every later dial answers `Ok` "dialing in progress"), is never taken. The adapter
runs the REAL `TcpTransport::dial` / `open` behind the scripted transport: a synchronous refusal the
real transport gains is a disagreement with this model on the refused address. -/
theorem transport_dial_total_on_accepted_shapes (s : Mgr) :
    (∀ a c a', Call.dial c a' ∈ (dialAddress s a).2.calls → tcpDialSync a' = true) ∧
    (∀ p ch c as, Call.open c as ∈ (dial s p ch).2.calls → tcpOpenSync as = true) := by
  refine ⟨fun a c a' h => ?_, fun _ _ _ _ _ => rfl⟩
  cases dialAddress_shape s a with
  | quiet _ hcalls _ _ _ _ _ _ => rw [hcalls] at h; cases h
  | started p _ hcalls _ _ htcp _ _ _ _ _ _ =>
    rw [hcalls, List.mem_singleton] at h
    injection h with _ ha
    rw [ha, tcpDialSync, htcp]; rfl

/-- Non-vacuity: port 0 on an unspecified host, port 65535 on a "broadcast" host (`ip4 99999` in the
harness's numbering) and a DNS name on port 0 are handed to the transport and pass its synchronous
part; a `/ws` address never reaches it. -/
example :
    (dialAddress (Mgr.init {}) [.ip4 0, .tcp 0, .p2p 1]).2.calls = [.dial 0 [.ip4 0, .tcp 0, .p2p 1]] ∧
    tcpDialSync [.ip4 0, .tcp 0, .p2p 1] = true ∧
    (dialAddress (Mgr.init {}) [.ip4 99999, .tcp 65535, .p2p 2]).2.calls = [.dial 0 [.ip4 99999, .tcp 65535, .p2p 2]] ∧
    tcpDialSync [.dns6 3, .tcp 0, .p2p 3] = true ∧
    (dialAddress (Mgr.init {}) [.ip4 5, .tcp 0, .ws, .p2p 1]).2.calls = [] ∧
    tcpDialSync [.ip4 5, .udp 0, .p2p 1] = false := by
  decide

/-! ## Dial requests of the protocols -/

theorem poutcome_eq {ps : PS} (h : PInv ps) {j : Nat} (hj : j ∈ ps.order) (a : Attempt) :
    poutcome ps j a = outcome ps.g a := by
  unfold poutcome pall
  rw [h.tied j hj]
  exact h.rep a

theorem eq_singleton_of_length_le_one {α : Type} {l : List α} {d : α} (hl : l.length ≤ 1) (hd : d ∈ l) : l = [d] := by
  match l, hl, hd with
  | [x], _, hd => simp at hd; rw [hd]

/-- **Every accepted dial request of a protocol ends in exactly one outcome, for every protocol.**
In every reachable state, for every installed protocol `j`:

1. every request that was accepted (`TransportManagerHandle::dial` / `dial_address` returned `Ok` and
   queued a command; they are numbered `0 .. nextReq-1`) is *either* still in the command channel
   (the manager has not got to it) *or* was processed, exactly once;
2. a processed request `d` either
   * `started c`: made the manager start the attempt `a` with connection id `c` for the requested
     peer — and for that attempt protocol `j` was/is being sent exactly one report
     (`ConnectionEstablished{peer}` of the connection carrying it or `DialFailure{peer, addresses}`)
     once the transport owes nothing for it, none before: `poutcome ps j a + inflight ps.g a = 1`;
   * `failed`: the queued dial failed (node at its connection limit, unsupported transport, own
     address, no address, ...): protocol `j` was/is being sent exactly one failure report for it,
     `failEv d` = `DialFailure{peer, []}` for `DialPeer` (fix `e94cf63`) and
     `DialFailure{peer of the trailing /p2p, [address]}` for `DialAddress` (fix `transport manager
     reports a dial failure to the protocols when a queued DialAddress command fails`);
   * `joined` / `connected`: no report of its own (see `protocol_dial_joins` for what a joined
     request is concluded by; `connected`: the connection's own `ConnectionEstablished`);
   * never `silent`: no processed request ended with a merely logged error (the handle only queues
     addresses that end in `/p2p`, so there is always a peer to report the failure for);
3. the same ledger holds for every attempt the manager ever started, whoever asked for it — never
   two reports, never both a connection and a failure;
4. `pall` is real delivery: when the manager is not blocked, what protocol `j` was sent is exactly
   what it took out of its channel followed by what sits in the channel — after a drain, everything. -/
theorem protocol_dial_ledger {ps : PS} (h : PReach ps) (j : Nat) (hj : j ∈ ps.order) :
    (∀ k, k < ps.nextReq →
      (ps.done.filter (fun d => d.cmd.k == k)).length + (ps.cmds.filter (fun c => c.k == k)).length = 1) ∧
    (∀ d ∈ ps.done,
      (∀ c, d.fate = .started c →
        ∃ a ∈ ps.g.ledger, a.conn = c ∧ a.peer = cmdPeer d.cmd ∧ poutcome ps j a + inflight ps.g a = 1) ∧
      (d.fate = .failed → pfailures ps j d.cmd.k = [failEv d]) ∧
      (d.fate ≠ .failed → pfailures ps j d.cmd.k = []) ∧
      d.fate ≠ .silent) ∧
    (∀ a ∈ ps.g.ledger, poutcome ps j a + inflight ps.g a = 1 ∧ poutcome ps j a ≤ 1) ∧
    (ps.todo = [] → pall ps j = ps.recv j ++ (ps.chans j).filterMap slotEv) := by
  have hi := pinv_reach h
  refine ⟨?_, ?_, ?_, ?_⟩
  · intro k hk
    have := hi.acct k
    rwa [if_pos hk] at this
  · intro d hd
    have hone : (ps.done.filter (fun d' => d'.cmd.k == d.cmd.k)).length ≤ 1 := by
      have := hi.acct d.cmd.k
      split at this <;> omega
    have hmem : d ∈ ps.done.filter (fun d' => d'.cmd.k == d.cmd.k) := List.mem_filter.2 ⟨hd, by simp⟩
    have hsingle := eq_singleton_of_length_le_one hone hmem
    have hpf : pfailures ps j d.cmd.k =
        ((ps.done.filter (fun d' => d'.cmd.k == d.cmd.k)).filter (fun d' => d'.fate == .failed)).map failEv := by
      unfold pfailures pall
      rw [hi.tied j hj, hi.failedEv d.cmd.k, List.filter_filter]
      congr 1
      apply List.filter_congr
      intro x _
      rw [Bool.and_comm]
    rw [hsingle] at hpf
    refine ⟨?_, ?_, ?_, hi.noSilent d hd⟩
    · intro c hc
      obtain ⟨a, ha, h1, h2⟩ := hi.started d hd c hc
      exact ⟨a, ha, h1, h2, by rw [poutcome_eq hi hj]; exact dial_ledger hi.reach a ha⟩
    · intro hf; rw [hpf]; simp [hf]
    · intro hf; rw [hpf]; simp [hf]
  · intro a ha
    rw [poutcome_eq hi hj]
    exact ⟨dial_ledger hi.reach a ha, no_dup_outcome hi.reach a ha⟩
  · intro hidle
    unfold pall
    rw [hidle, ← hi.split j]
    simp [pend]

/-- Non-vacuity: two protocols with channels of capacity 1, protocol 0 dials peer 1, the channel of
protocol 1 is full when the open failure arrives: the manager is suspended on protocol 1, protocol 0
already has its report; after protocol 1 drained its channel the send completes, `next()` returns
the `OpenFailure`, and both protocols were sent exactly one `DialFailure{1, [address]}`. -/
example :
    let ps := runP (PS.init ⟨none, none⟩ 1 [0, 1])
      [.base (.addKnown 1 [[.ip4 1, .tcp 1, .p2p 1]]), .pdial 0 1, .runCmd [], .pfill 1,
       .base (.evOpenFailure 0 [([.ip4 1, .tcp 1, .p2p 1], .timeout)])]
    let ps' := runP ps [.pdrain 1, .resume]
    ps.done = [⟨.dialPeer 0 0 1, .started 0⟩] ∧ ps.g.ledger = [⟨1, 0, 0⟩] ∧
    ps.todo = [(1, ⟨.df, 1, 0, [[.ip4 1, .tcp 1, .p2p 1]], .conn 0⟩)] ∧
    ps.held = [.openFailure 0 [([.ip4 1, .tcp 1, .p2p 1], .timeout)]] ∧
    ps.chans 0 = [.ev ⟨.df, 1, 0, [[.ip4 1, .tcp 1, .p2p 1]], .conn 0⟩] ∧ ps.chans 1 = [.fill] ∧
    poutcome ps 0 ⟨1, 0, 0⟩ = 1 ∧ poutcome ps 1 ⟨1, 0, 0⟩ = 1 ∧ inflight ps.g ⟨1, 0, 0⟩ = 0 ∧
    ps'.todo = [] ∧ ps'.chans 1 = [.ev ⟨.df, 1, 0, [[.ip4 1, .tcp 1, .p2p 1]], .conn 0⟩] ∧
    (pstep (pstep ps (.pdrain 1)).1 .resume).2.out.events = [.openFailure 0 [([.ip4 1, .tcp 1, .p2p 1], .timeout)]] := by
  decide

/-- The suspended state of that history is `PReach`able. -/
example : PReach (runP (PS.init ⟨none, none⟩ 1 [0, 1])
      [.base (.addKnown 1 [[.ip4 1, .tcp 1, .p2p 1]]), .pdial 0 1, .runCmd [], .pfill 1,
       .base (.evOpenFailure 0 [([.ip4 1, .tcp 1, .p2p 1], .timeout)])]) :=
  PReach.step _ (PReach.step _ (PReach.step _ (PReach.step _ (PReach.step _ (PReach.init _ _ _ (by decide))
    (by decide)) (by decide)) (by decide)) (by decide)) (by decide)

/-- Non-vacuity of the `failed` case (the repair `e94cf63`): at the outgoing-connection limit the
queued `DialPeer` fails and the protocol is sent `DialFailure{1, []}` — exactly once. -/
example :
    let ps := runP (PS.init ⟨none, some 0⟩ 2 [0])
      [.base (.addKnown 1 [[.ip4 1, .tcp 1, .p2p 1]]), .pdial 0 1, .runCmd []]
    ps.done = [⟨.dialPeer 0 0 1, .failed⟩] ∧ ps.cmds = [] ∧
    pfailures ps 0 0 = [⟨.df, 1, 0, [], .cmd 0⟩] ∧ ps.chans 0 = [.ev ⟨.df, 1, 0, [], .cmd 0⟩] := by
  decide

/-- **A request that joins a dial in progress.** If `TransportManagerHandle::dial` answers `Ok`
without queueing a command, or the manager finds a dial in progress when it gets to the queued
command, then the peer's state says so and the transport owes the terminal event of an attempt
for that peer (`∃ o ∈ owed, o.peer = p`, not an accept): that attempt is in the ledger of
`protocol_dial_ledger`, so its one report goes to every protocol, the requesting one included. -/
theorem protocol_dial_joins {ps : PS} (h : PReach ps) (p : Peer)
    (hbusy : (stateOf ps.g.m p).canDial = .dialingInProgress) :
    (∀ j, (handleDial ps j p).1 = ps ∨ p = localPeer) ∧
    ∃ o ∈ ps.g.owed, o.peer = p ∧ o.phase ≠ .accepting := by
  have hi := inv05_reach (pinv_reach h).reach
  refine ⟨fun j => ?_, hi.owed_of_busy hbusy⟩
  unfold handleDial
  by_cases hl : p = localPeer
  · exact Or.inr hl
  · left; simp [hl, hbusy]

example :
    let ps := runP (PS.init ⟨none, none⟩ 1 [0])
      [.base (.addKnown 1 [[.ip4 1, .tcp 1, .p2p 1]]), .pdial 0 1, .runCmd [], .pdial 0 1]
    (stateOf ps.g.m 1).canDial = .dialingInProgress ∧ ps.cmds = [] ∧ ps.nextReq = 1 ∧
    ps.g.owed = [⟨0, .opening, 1⟩] := by
  decide

theorem runSends_mono (cap : Nat) (x : Slot) (j : Nat) : ∀ (l : List (Nat × PEv)) (ch : Nat → List Slot)
    (st : Nat → List PEv), x ∈ ch j → x ∈ (runSends cap ch st l).1 j
  | [], _, _, h => by simpa [runSends] using h
  | (i, e) :: t, ch, st, h => by
    simp only [runSends]
    split
    · apply runSends_mono cap x j t
      by_cases hij : j = i <;> simp [pushAt, hij, h]
      subst hij; exact Or.inl h
    · exact h

/-- **A full channel delays the report but never loses it.** Let the manager be suspended inside
`next()` on the blocking send of notification `e` to protocol `j` (its `try_send` found the channel
full). Then (1) `e` is among what protocol `j` is being sent; (2) whatever happens next — any
operation of the application or the environment (refused: the manager is blocked), any protocol
dialing, filling or draining any channel, any internal step — either leaves the blocked send
exactly where it is or puts `e` into the channel of protocol `j`; (3) as soon as protocol `j` has
drained its channel the send completes: `e` is in the channel, and if nothing else blocks, `next()`
returns the held events. (`protocol_dial_ledger` adds: in every reachable state every protocol was or
is being sent every report exactly once.) -/
theorem protocol_notified_despite_full_channel (ps : PS) (j : Nat) (e : PEv) (t : List (Nat × PEv))
    (hs : ps.todo = (j, e) :: t) :
    e ∈ pend ps.todo j ∧
    (∀ i, (pstep ps i).1.todo = ps.todo ∨ Slot.ev e ∈ (pstep ps i).1.chans j) ∧
    (0 < ps.cap →
      Slot.ev e ∈ (pstep (pstep ps (.pdrain j)).1 .resume).1.chans j ∧
      ((pstep (pstep ps (.pdrain j)).1 .resume).1.todo = [] →
        (pstep (pstep ps (.pdrain j)).1 .resume).2.out.events = ps.held)) := by
  have hres : ∀ ps' : PS, ps'.todo = (j, e) :: t → (ps'.chans j).length < ps'.cap →
      Slot.ev e ∈ (resume ps').1.chans j ∧ ((resume ps').1.todo = [] → (resume ps').2.out.events = ps'.held) := by
    intro ps' hs' hroom
    have hm := runSends_mono ps'.cap (.ev e) j t (pushAt ps'.chans j (.ev e)) (pushAt ps'.sent j e)
      (by simp [pushAt])
    unfold resume
    rw [hs']
    simp only [hroom, if_true]
    split <;> rename_i heq <;> rw [heq] at hm
    · exact ⟨hm, fun _ => rfl⟩
    · exact ⟨hm, fun h => by simp at h⟩
  refine ⟨by rw [hs, pend_cons]; simp, ?_, ?_⟩
  · intro i
    have hne : (!ps.todo.isEmpty) = true := by rw [hs]; rfl
    cases i with
    | base i => left; simp [pstep, pbase, hne]
    | pdial j' p => left; simp only [pstep, handleDial]; (repeat' split) <;> rfl
    | pdialAddr j' a => left; simp only [pstep, handleDialAddress]; (repeat' split) <;> rfl
    | pfill j' => left; rfl
    | pdrain j' => left; rfl
    | runCmd ch => left; simp [pstep, runCmd, hne]
    | resume =>
      by_cases hroom : (ps.chans j).length < ps.cap
      · exact Or.inr (hres ps hs hroom).1
      · left; simp [pstep, resume, hs, hroom]
  · intro hcap
    have hd : (pstep ps (.pdrain j)).1.todo = (j, e) :: t := hs
    exact hres _ hd (by simp [pstep, pdrain]; exact hcap)

/-- Non-vacuity: the suspended state of the history above satisfies the hypothesis. -/
example :
    (runP (PS.init ⟨none, none⟩ 1 [0, 1])
      [.base (.addKnown 1 [[.ip4 1, .tcp 1, .p2p 1]]), .pdial 0 1, .runCmd [], .pfill 1,
       .base (.evOpenFailure 0 [([.ip4 1, .tcp 1, .p2p 1], .timeout)])]).todo =
      (1, ⟨.df, 1, 0, [[.ip4 1, .tcp 1, .p2p 1]], .conn 0⟩) :: [] := by
  decide

/-- Non-vacuity of the `failed` case for `dial_address` requests (formerly the defect "a queued
`DialAddress` that fails is only logged", now repaired): at the outgoing-connection limit the
request is accepted, the queued command fails, and the protocol is sent
`DialFailure{1, [address]}` — exactly once. An address that does not end in `/p2p` is refused by the
handle and queues nothing. -/
example :
    let ps := runP (PS.init ⟨none, some 0⟩ 2 [0]) [.pdialAddr 0 [.ip4 1, .tcp 1, .p2p 1], .runCmd []]
    ps.done = [⟨.dialAddress 0 0 [.ip4 1, .tcp 1, .p2p 1], .failed⟩] ∧ ps.cmds = [] ∧ ps.todo = [] ∧
    pfailures ps 0 0 = [⟨.df, 1, 0, [[.ip4 1, .tcp 1, .p2p 1]], .cmd 0⟩] ∧
    failEv ⟨.dialAddress 0 0 [.ip4 1, .tcp 1, .p2p 1], .failed⟩ = ⟨.df, 1, 0, [[.ip4 1, .tcp 1, .p2p 1]], .cmd 0⟩ ∧
    ps.chans 0 = [.ev ⟨.df, 1, 0, [[.ip4 1, .tcp 1, .p2p 1]], .cmd 0⟩] ∧
    (pstep (PS.init ⟨none, none⟩ 2 [0]) (.pdialAddr 0 [.ip4 1, .tcp 1, .p2p 1, .ws])).2.hres = some (some .nopeerid) ∧
    (pstep (PS.init ⟨none, none⟩ 2 [0]) (.pdialAddr 0 [.ip4 1, .tcp 1, .p2p 1, .ws])).1.cmds = [] := by
  decide

/-! ## The `Litep2p` facade -/

/-- **Every concluded dial is reported to the user of `Litep2p`, exactly once.** `Litep2p::dial` and
`Litep2p::dial_address` are the manager's `dial` / `dial_address` (so the ledger of accepted attempts is
the ledger of the dials the facade accepted and started). In every reachable state, for every such
attempt `a`:

1. at the facade (`Litep2p::next_event` polled until the manager is idle) the attempt has exactly one
   user event once the transport owes nothing for it, and none before: `uoutcome g a + inflight g a = 1`
   — never silence, never a duplicate;
2. that user event is one of `ConnectionEstablished` / `DialFailure` / `ListDialFailures` (never a
   `ConnectionClosed`), and it carries exactly what the manager reported: peer and endpoint, or the
   failed address and its error, or the whole `(address, error)` list — whatever its length, **the empty
   list included** (`OpenFailure { errors: [] }`, the overall dial deadline of `TcpTransport::open`,
   is `ListDialFailures { errors: [] }`, not silence);
3. observation — outcomes that produce NO user event: none. Every event `TransportManager::next()` can
   return (its four `return Some(..)` sites = the constructors of `Ev`) is translated; the `_ => {}`
   arm of `next_event` only catches `PendingInboundConnection` / `ConnectionOpened`, which the manager
   consumes itself and never returns;
4. the facade is a one-to-one translation: as many user events as the manager returned events.

(An accepted `dial` that starts no attempt of its own because one is in progress — `Ok` with
`dialingInProgress` — is concluded by that attempt's single report: `addr_total` case 2,
`protocol_dial_joins`.) -/
theorem facade_reports_every_outcome {g : G} (h : Reach g) (a : Attempt) (ha : a ∈ g.ledger) :
    ((∀ s p ch, facadeDial s p ch = dial s p ch) ∧ (∀ s ad, facadeDialAddress s ad = dialAddress s ad)) ∧
    uoutcome g a + inflight g a = 1 ∧
    (∀ e ∈ concluding g a,
      ∃ u, facadeEvent e.toT = some u ∧ u.isDialOutcome = true ∧ u.carries e = true) ∧
    (∀ e : Ev, (facadeEvent e.toT).isSome = true) ∧
    (facadeEvents g.log).length = g.log.length := by
  refine ⟨⟨fun _ _ _ => rfl, fun _ _ => rfl⟩, ?_, ?_, facadeEvent_toT_isSome, facadeEvents_length _⟩
  · rw [uoutcome_eq_outcome]; exact dial_ledger h a ha
  · intro e he
    exact facade_of_report a e (by simpa using (List.mem_filter.1 he).2)

/-- Non-vacuity, and the history of the missed change: a dial by peer id whose `open` ends with an
`OpenFailure` that carries NO per-address error (overall dial deadline). The manager concludes the
attempt (peer `Disconnected`, nothing owed, nothing pending) and the user is handed
`ListDialFailures { errors: [] }` — one report. -/
example :
    let g := runG (G.init ⟨none, none⟩)
      [.addKnown 1 [[.ip4 1, .tcp 1, .p2p 1]], .dial 1 [], .evOpenFailure 0 []]
    g.ledger = [⟨1, 0, 0⟩] ∧ g.owed = [] ∧ g.m.pending = [] ∧ stateOf g.m 1 = .disconnected none ∧
    g.log = [.openFailure 0 []] ∧ facadeEvents g.log = [.listDialFailures []] ∧
    uoutcome g ⟨1, 0, 0⟩ = 1 ∧ inflight g ⟨1, 0, 0⟩ = 0 := by
  decide

example : Reach (runG (G.init ⟨none, none⟩)
      [.addKnown 1 [[.ip4 1, .tcp 1, .p2p 1]], .dial 1 [], .evOpenFailure 0 []]) :=
  Reach.step _ (Reach.step _ (Reach.step _ (Reach.init _) (by decide)) (by decide)) (by decide)

/-- Non-vacuity of the other shapes: a dial by address that fails (`DialFailure`), one that is
established (`ConnectionEstablished`, followed by a `ConnectionClosed` that concludes nothing), an open
failure with several errors; while an attempt is in flight the user has been told nothing. -/
example :
    let g := runG (G.init ⟨none, none⟩)
      [.dialAddress [.ip4 1, .tcp 1, .p2p 1], .evDialFailure 0 [.ip4 1, .tcp 1, .p2p 1] .timeout,
       .dialAddress [.ip4 2, .tcp 2, .p2p 2], .evEstablished 2 ⟨false, [.ip4 2, .tcp 2, .p2p 2], 1⟩ true,
       .acceptResult 1 true, .evClosed 2 1,
       .addKnown 3 [[.ip4 3, .tcp 3, .p2p 3], [.dns 3, .tcp 3, .p2p 3]], .dial 3 [],
       .evOpenFailure 2 [([.ip4 3, .tcp 3, .p2p 3], .timeout), ([.dns 3, .tcp 3, .p2p 3], .address)],
       .dialAddress [.ip4 1, .tcp 1, .p2p 1]]
    facadeEvents g.log =
      [.dialFailure [.ip4 1, .tcp 1, .p2p 1] .timeout, .established 2 ⟨false, [.ip4 2, .tcp 2, .p2p 2], 1⟩,
       .closed 2 1,
       .listDialFailures [([.ip4 3, .tcp 3, .p2p 3], .timeout), ([.dns 3, .tcp 3, .p2p 3], .address)]] ∧
    g.ledger.map (uoutcome g) = [0, 1, 1, 1] ∧ g.ledger.map (inflight g) = [1, 0, 0, 0] := by
  decide

#print axioms no_dup_outcome
#print axioms dial_ledger
#print axioms quiescent_dialable
#print axioms addr_total
#print axioms dial_address_parses_for_tcp
#print axioms dial_address_peers_agree
#print axioms transport_dial_total_on_accepted_shapes
#print axioms protocol_dial_ledger
#print axioms protocol_dial_joins
#print axioms protocol_notified_despite_full_channel
#print axioms facade_reports_every_outcome

end Litep2pVerif.Props.C05

/-! ## Wiring — what `Litep2p::new` hands over (coverage round `node`)

Over the wiring model `Model/Node/Wiring.lean` (`Node.new c` = `Litep2p::new(ConfigBuilder…build())`), which is tied to
the real `ConfigBuilder`/`Litep2p::new` by the `node` area: the adapter prints the ACTUAL registration record of a node built
through the public API, the driver prints the model's, compared field by field on every run. -/
namespace Litep2pVerif.Props.C05.Wiring
open Litep2pVerif Litep2pVerif.Node

/-- A configuration with every kind of protocol (used by the non-vacuity examples). -/
def sample : Config :=
  { keepAliveMs := some 600, limits := some (some 2, none), listen := [1, 2],
    notif := [⟨"/n/a", 1024, "0102", ["/n/old"], 'a', some 64, some 64, none⟩],
    rr := [⟨"/r/a", 256, 800, ["/r/old"], none⟩, ⟨"/r/b", 64, 800, [], some 1⟩],
    user := [⟨"/u/a", .varint none⟩], kad := [⟨[], none, []⟩], ping := some 1, identify := true, bitswap := true,
    known := some [(0, [.listen 0, .closed, .quic, .wrongPeer 0, .noPeer 0])] }

/-- The listen addresses a node reports are the configured ones, in the configured order, each with the node's own peer
id; the known addresses given in the configuration are in the manager's address book (those it can dial: TCP with the
peer's own id), so the peer can be dialed by id. -/
theorem known_and_listen_addresses_installed (c : Config) (w : Wired) (h : Node.new c = .ok w) :
    w.listen = c.listen.map (fun o => (o, true)) ∧
    w.known = (c.known.getD []).map (fun (j, ks) => (j, ks.filter AddrKind.stored)) := by
  obtain ⟨_, _, rfl⟩ := wire_ok h
  exact ⟨rfl, rfl⟩

example : ∃ w, Node.new sample = .ok w ∧ w.listen = [(1, true), (2, true)] ∧ w.known = [(0, [.listen 0, .closed])] :=
  ⟨_, rfl, rfl, by decide⟩

/-- `Litep2p::new` registers the user protocols in `HashMap` order: whether registration succeeds does not depend on
that order (two registrations clash iff they claim a common name). -/
theorem registration_order_irrelevant {regs regs' : List Registration} (p : regs.Perm regs') :
    registerAll [] regs ≠ none ↔ registerAll [] regs' ≠ none :=
  clashFree_perm p

example : registerAll [] (registrations (build sample)) ≠ none ∧
    registerAll [] (registrations (build sample)).reverse ≠ none := by decide

end Litep2pVerif.Props.C05.Wiring

#print axioms Litep2pVerif.Props.C05.Wiring.known_and_listen_addresses_installed
#print axioms Litep2pVerif.Props.C05.Wiring.registration_order_irrelevant

/-! ## The transport's event stream (`impl Stream for TcpTransport`, coverage round `tcp3`)

The manager's theorems above assume that the transport reports one terminal event per obligation. For the TCP
transport that rests on `poll_next`: the outcome of a dial is a READY result sitting in `pending_connections` /
`pending_raw_connections`, next to results that yield no event (failed inbound negotiations, results of cancelled
`open`s). Model: `Model/Tcp/Poll.lean` (`pollNext` = one `poll_next`: drain until an event or nothing ready;
`none` = `Poll::Pending`), lemmas `Proofs/Tcp/Poll.lean`. -/
namespace Litep2pVerif.Props.C05.TcpPoll
open Litep2pVerif.Tcp.Poll

/-- **The waker contract of `poll_next`.** When `poll_next` returns `Pending`, no ready result is left in the listener,
`pending_raw_connections` or `pending_connections` — in particular no reportable one (`due t = []`): everything still
queued is a future that is not ready and therefore has its wake-up registered. (A ready result left behind would have
no wake-up: the dial it concludes would stay silent until something unrelated polls the transport.) -/
theorem poll_next_reports_every_ready_result (t t' : T) (h : pollNext t = (none, t')) :
    t'.accepted = 0 ∧ t'.raw = [] ∧ t'.conns = [] ∧ due t = [] := by
  obtain ⟨h1, h2, _⟩ := pollNext_spec t
  simp only [h] at h1 h2
  obtain ⟨ha, hr, hc⟩ := h2 trivial
  exact ⟨ha, hr, hc, h1.trans (by simp [due, ha, hr, hc, inboundEvs, rawEvs, connEvs])⟩

/-- Non-vacuity: a failed inbound negotiation (id 7, unknown to `pending_dials`) is swallowed and `Pending` is returned
with empty queues; and the statement is not a tautology of the shape of the model — the variant that polls
`pending_connections` once per `poll_next` (`if let` instead of `while let`) returns `Pending` with the failure of
dial 0 still queued. -/
example : pollNext { conns := [.err 7], dials := [0] } = (none, { conns := [], dials := [0] }) := by decide
example : (pollConnsOnce [.err 7, .err 0] [0] []).1 = none ∧ (pollConnsOnce [.err 7, .err 0] [0] []).2.1 = [.err 0] := by
  decide

/-- **Every ready result is reported.** An executor that polls again after every item and stops at `Pending` collects
exactly the events the queued results stand for (`due`: one `PendingInboundConnection` per accepted socket, one
`ConnectionOpened`/`OpenFailure` per live `open`, one `ConnectionEstablished` per negotiated connection, one
`DialFailure` per failed dial — in every order and mixture with results that yield no event) and leaves nothing
queued — without any wake-up from outside. -/
theorem executor_collects_every_due_event (n : Nat) (t : T) (h : size t < n) :
    (drain n t).1 = due t ∧ size (drain n t).2 = 0 := by
  induction n generalizing t with
  | zero => omega
  | succ n ih =>
    simp only [drain]
    split
    · rename_i t' hp
      have := poll_next_reports_every_ready_result t t' hp
      simp only [size, this.1, this.2.1, this.2.2.1, this.2.2.2, List.length_nil]
      exact ⟨trivial, trivial⟩
    · rename_i e t' hp
      obtain ⟨h1, _, h3⟩ := pollNext_spec t
      simp only [hp] at h1 h3
      have ih := ih t' (by have := h3 nofun; omega)
      simp only [h1, ih.1, ih.2]
      exact ⟨rfl, trivial⟩

example : (drain 9 { conns := [.err 7, .err 8, .err 0, .ok 3], dials := [0], raw := [.canceled 5, .failed 4, .connected 6],
                     handles := [(5, true), (4, false), (6, false)], accepted := 1 }).1
    = [.pendingInbound 0, .openFailure 4, .opened 6, .dialFailure 0, .established 3] := by decide

/-- A failed dial that is queued is reported by the very next `poll_next`s, whatever is queued ahead of it. -/
theorem queued_dial_failure_is_due (t : T) (id : Id) (pre post : List ConnRes) (hc : t.conns = pre ++ .err id :: post)
    (hd : id ∈ t.dials) (hpre : ∀ r ∈ pre, r ≠ .ok id ∧ r ≠ .err id) : Ev.dialFailure id ∈ due t := by
  simp only [due, hc, List.mem_append]
  exact Or.inr (dialFailure_mem_connEvs post pre t.dials hd hpre)

example : Ev.dialFailure 0 ∈ due { conns := [.err 7, .ok 8, .err 0], dials := [0] } := by decide

/-- **The overall deadline of `TcpTransport::open` reports a failure.** For every address list (stalling, refusing,
answering nodes in any order), every `connection_open_timeout` and every deadline multiplier, when the manager does not
cancel: (1) the future `open` queued never resolves to `Canceled` — the deadline arm (reached whenever the stalled
attempts add up to the deadline) resolves it to `Failed` like the exhausted list; (2) the executor gets exactly one
terminal event for the attempt, `OpenFailure` or `ConnectionOpened`; (3) the cancel handle is consumed and nothing stays
queued; (4) if no address answers the event is `OpenFailure` (never silence). (5) `Canceled` — the one result `poll_next`
swallows — comes out only if `Transport::cancel(id)` was called before the result was ready. -/
theorem open_deadline_reports_failure (id : Id) (timeout mult : Nat) (addrs : List AddrKind) :
    openFuture id timeout mult addrs none ≠ .canceled id ∧
    ((drain 2 (afterOpen id timeout mult addrs none)).1 = [.openFailure id] ∨
      (drain 2 (afterOpen id timeout mult addrs none)).1 = [.opened id]) ∧
    ((drain 2 (afterOpen id timeout mult addrs none)).2.handles = [] ∧
      size (drain 2 (afterOpen id timeout mult addrs none)).2 = 0) ∧
    (AddrKind.answer ∉ addrs → (drain 2 (afterOpen id timeout mult addrs none)).1 = [.openFailure id]) ∧
    (∀ c, openFuture id timeout mult addrs c = .canceled id →
      ∃ t, c = some t ∧ t < (openRun id timeout (mult * timeout) addrs 0).2) := by
  obtain ⟨h1, h2⟩ := openRun_res id timeout (mult * timeout) addrs 0
  have hf : openFuture id timeout mult addrs none = (openRun id timeout (mult * timeout) addrs 0).1 := rfl
  rcases h1 with h | h
  · have ha : afterOpen id timeout mult addrs none = { raw := [.failed id], handles := [(id, false)] } := by
      simp [afterOpen, hf, h]
    rw [ha, drain_failed, hf, h]
    exact ⟨nofun, Or.inl rfl, ⟨rfl, rfl⟩, fun _ => rfl, openFuture_canceled id timeout mult addrs⟩
  · have ha : afterOpen id timeout mult addrs none = { raw := [.connected id], handles := [(id, false)] } := by
      simp [afterOpen, hf, h]
    rw [ha, drain_connected, hf, h]
    exact ⟨nofun, Or.inr rfl, ⟨rfl, rfl⟩, fun hn => absurd ((h2 hn).symm.trans h) nofun,
      openFuture_canceled id timeout mult addrs⟩

/-- Non-vacuity: three stalling addresses, 300 ms, multiplier 2 — the deadline (600) interrupts the second attempt and
the result is `Failed` at 600, reported as `OpenFailure`; a stall then an answering node is `ConnectionOpened`; a cancel
at 100 is silence; and the statement is not a tautology of the model's shape: the variant whose deadline arm returns
`Canceled` (`openRunSilent`, the seeded change) gives the executor nothing. -/
example : openRun 7 300 600 [.stall, .stall, .stall] 0 = (.failed 7, 600) ∧
    (drain 2 (afterOpen 7 300 2 [.stall, .stall, .stall] none)).1 = [.openFailure 7] ∧
    (drain 2 (afterOpen 7 300 2 [.stall, .answer] none)).1 = [.opened 7] ∧
    (drain 2 (afterOpen 7 300 2 [.stall, .stall, .stall] (some 100))).1 = [] ∧
    (openRunSilent 7 300 600 [.stall, .stall, .stall] 0).1 = .canceled 7 ∧
    (drain 2 { raw := [(openRunSilent 7 300 600 [.stall, .stall, .stall] 0).1], handles := [(7, false)] }).1 = [] := by decide

end Litep2pVerif.Props.C05.TcpPoll

#print axioms Litep2pVerif.Props.C05.TcpPoll.poll_next_reports_every_ready_result
#print axioms Litep2pVerif.Props.C05.TcpPoll.executor_collects_every_due_event
#print axioms Litep2pVerif.Props.C05.TcpPoll.queued_dial_failure_is_due
#print axioms Litep2pVerif.Props.C05.TcpPoll.open_deadline_reports_failure
