import Litep2pVerif.Proofs.Id.PeerId
import Litep2pVerif.Model.Id.Keys
import Litep2pVerif.Generated.Consts
/-!
# C18 — Peer ids are canonical, round-trip and match the libp2p reference

Property theorems only (models: `Model/Id/*.lean`, lemmas: `Proofs/Id/*.lean`). `M` is
`MAX_INLINE_KEY_LENGTH` as regenerated from `src/peer_id.rs` on every run; `hash` (SHA-256) is a
parameter with 32-byte output. `Constructible` = the value came out of one of `PeerId`'s
constructors (the field is private).
-/
namespace Litep2pVerif.Props.C18
open Litep2pVerif Litep2pVerif.Id
open Litep2pVerif.Id.Multihash (Multihash)

/-- `MAX_INLINE_KEY_LENGTH` of `src/peer_id.rs`. -/
abbrev M : Nat := Consts.MAX_INLINE_KEY_LENGTH

/-- Side conditions on the regenerated constant: equal to the reference's 42, room for `random()`'s 32
bytes, within `Multihash<64>`. -/
theorem M_eq : M = Ref.MAX_INLINE_KEY_LENGTH := by decide
theorem M_bounds : 32 ≤ M ∧ M ≤ Multihash.S := by decide

private theorem valid_of (hash : List UInt8 → List UInt8) (hlen : ∀ x, (hash x).length = 32)
    (p : PeerId) (h : PeerId.Constructible M hash p) : PeerId.Valid M p :=
  PeerId.constructible_valid M M_bounds.1 M_bounds.2 hash hlen p h

/-- **Derivation rule.** The peer id of a key encoding of at most 42 bytes is the identity multihash
(code 0x00) of the encoding itself, otherwise the SHA-256 multihash (code 0x12) of it. -/
theorem derive_rule (hash : List UInt8 → List UInt8) (hlen : ∀ x, (hash x).length = 32)
    (keyEnc : List UInt8) :
    (keyEnc.length ≤ 42 →
      PeerId.fromPublicKeyProtobuf M hash keyEnc = .ok ⟨⟨0x00, keyEnc⟩⟩) ∧
    (42 < keyEnc.length →
      PeerId.fromPublicKeyProtobuf M hash keyEnc = .ok ⟨⟨0x12, hash keyEnc⟩⟩) := by
  exact ⟨PeerId.fromPublicKeyProtobuf_inline M_bounds.2 hash keyEnc,
    PeerId.fromPublicKeyProtobuf_hashed hash keyEnc (by rw [hlen]; decide)⟩

example : PeerId.fromPublicKeyProtobuf M (fun _ => List.replicate 32 7) [8, 1, 18, 1, 9] =
    .ok ⟨⟨0x00, [8, 1, 18, 1, 9]⟩⟩ :=
  (derive_rule (fun _ => List.replicate 32 7) (fun _ => by simp) [8, 1, 18, 1, 9]).1 (by decide)
example : PeerId.fromPublicKeyProtobuf M (fun _ => List.replicate 32 7) (List.replicate 43 0) =
    .ok ⟨⟨0x12, List.replicate 32 7⟩⟩ :=
  (derive_rule (fun _ => List.replicate 32 7) (fun _ => by simp) (List.replicate 43 0)).2 (by decide)

/-- The reference (`libp2p_identity::PeerId::from_public_key` on the same encoding) derives the same
multihash, and neither `expect` fires. -/
theorem derive_eq_reference (hash : List UInt8 → List UInt8) (hlen : ∀ x, (hash x).length = 32)
    (keyEnc : List UInt8) :
    ∃ mh, PeerId.fromPublicKeyProtobuf M hash keyEnc = .ok ⟨mh⟩ ∧
      Ref.fromKeyEncoding hash keyEnc = .ok ⟨mh⟩ := by
  unfold Ref.fromKeyEncoding Ref.MAX_INLINE_KEY_LENGTH
  by_cases h : keyEnc.length ≤ 42
  · refine ⟨⟨0x00, keyEnc⟩, (derive_rule hash hlen keyEnc).1 h, ?_⟩
    rw [if_pos h, PeerId.wrap_ok _ _ (by omega)]; rfl
  · refine ⟨⟨0x12, hash keyEnc⟩, (derive_rule hash hlen keyEnc).2 (by omega), ?_⟩
    rw [if_neg h, PeerId.wrap_ok _ _ (by rw [hlen]; omega)]; rfl

example : ∃ mh, PeerId.fromPublicKeyProtobuf M (fun _ => List.replicate 32 7) (List.replicate 42 1) = .ok ⟨mh⟩ ∧
    Ref.fromKeyEncoding (fun _ => List.replicate 32 7) (List.replicate 42 1) = .ok ⟨mh⟩ :=
  derive_eq_reference _ (fun _ => by simp) _

/-- **ed25519.** The id of an ed25519 public key (32 bytes) is `00 24 08 01 12 20 ‖ key`. -/
theorem ed25519_id_form (hash : List UInt8 → List UInt8) (key : List UInt8) (hk : key.length = 32) :
    (PeerId.fromPublicKeyProtobuf M hash (ed25519Protobuf key)).map PeerId.toBytes =
      .ok ([0x00, 0x24, 0x08, 0x01, 0x12, 0x20] ++ key) := by
  have hl : (ed25519Protobuf key).length = 36 := by simp [ed25519Protobuf, hk]
  rw [PeerId.fromPublicKeyProtobuf_inline M_bounds.2 hash _ (by rw [hl]; decide)]
  simp only [Except.map, PeerId.toBytes, Multihash.toBytes, hl]
  simp [ed25519Protobuf, hk, IDENTITY_CODE, Varint.encodeU64, Varint.encodeU8, Varint.encodeLoop]

example : (PeerId.fromPublicKeyProtobuf M (fun _ => []) (ed25519Protobuf (List.replicate 32 0xAB))).map
    PeerId.toBytes = .ok ([0x00, 0x24, 0x08, 0x01, 0x12, 0x20] ++ List.replicate 32 0xAB) :=
  ed25519_id_form _ _ (by simp)

/-- **print ∘ parse.** Every constructible peer id is read back from its bytes. -/
theorem print_parse (hash : List UInt8 → List UInt8) (hlen : ∀ x, (hash x).length = 32)
    (p : PeerId) (hp : PeerId.Constructible M hash p) :
    PeerId.fromBytes M p.toBytes = .ok p :=
  PeerId.fromBytes_toBytes M p (valid_of hash hlen p hp)

example : ∃ p, PeerId.Constructible M (fun _ => List.replicate 32 7) p ∧ p.multihash.code = 0x12 :=
  ⟨⟨⟨0x12, List.replicate 32 7⟩⟩,
    .ofKey (List.replicate 50 3) _
      ((derive_rule _ (fun _ => by simp) (List.replicate 50 3)).2 (by decide)), rfl⟩

/-- **parse ∘ print, partial.** Full statement (false of the code, see `parse_print_witness`):
`fromBytes M bs = .ok p → p.toBytes = bs`. It holds whenever neither header varint (code, size) is
10 bytes long: shorter varints are accepted only in minimal form (`NotMinimal`), so the accepted
byte string is the canonical one. -/
theorem parse_print_partial (bs : List UInt8) (p : PeerId) (h : PeerId.fromBytes M bs = .ok p)
    (hcode : Varint.headLen bs ≤ 9) (hsize : Varint.headLen (bs.drop (Varint.headLen bs)) ≤ 9) :
    p.toBytes = bs :=
  Multihash.toBytes_fromBytes bs p.multihash (PeerId.fromBytes_ok M bs p h).1 hcode hsize

example : PeerId.fromBytes M ([0x12, 0x02, 0xAA, 0xBB]) = .ok ⟨⟨0x12, [0xAA, 0xBB]⟩⟩ ∧
    Varint.headLen [0x12, 0x02, 0xAA, 0xBB] ≤ 9 := by decide

/-- **Witness of non-canonicity** (known finding `c18-varint-trunc`): the 10-byte varint
`92 80 80 80 80 80 80 80 80 02` is accepted as code 0x12 — `decode!` computes `2 << 63` in a `u64`,
which drops the bit — so two different byte strings parse to the same peer id. -/
theorem parse_print_witness :
    ∃ bs p, PeerId.fromBytes M bs = .ok p ∧ p.toBytes ≠ bs ∧ PeerId.fromBytes M p.toBytes = .ok p :=
  ⟨[0x92, 0x80, 0x80, 0x80, 0x80, 0x80, 0x80, 0x80, 0x80, 0x02, 0x01, 0x07], ⟨⟨0x12, [0x07]⟩⟩,
    by decide, by decide, by decide⟩

/-- **Base58.** `bs58` decoding inverts encoding on all byte strings, and encoding inverts decoding
on every string the decoder accepts (leading zero bytes ↔ leading '1's). -/
theorem base58_roundtrip :
    (∀ bs : List UInt8, Base58.decode (Base58.encode bs) = .ok bs) ∧
    (∀ s bs : List UInt8, Base58.decode s = .ok bs → Base58.encode bs = s) :=
  ⟨Base58.decode_encode, Base58.encode_decode⟩

example : Base58.decode (Base58.encode [0, 0, 1, 2, 255]) = .ok [0, 0, 1, 2, 255] ∧
    Base58.encode [0, 0, 1, 2, 255] = [49, 49, 76, 105, 65] := by decide

/-- **Text form.** `to_base58` then `from_str` gives the peer id back. -/
theorem text_roundtrip (hash : List UInt8 → List UInt8) (hlen : ∀ x, (hash x).length = 32)
    (p : PeerId) (hp : PeerId.Constructible M hash p) :
    PeerId.fromStr M p.toBase58 = .ok p := by
  unfold PeerId.fromStr PeerId.toBase58
  rw [Base58.decode_encode]
  exact print_parse hash hlen p hp

example : PeerId.fromStr M (PeerId.toBase58 ⟨⟨0x00, [1, 2, 3]⟩⟩) = .ok ⟨⟨0x00, [1, 2, 3]⟩⟩ := by decide

/-- **Serialized forms** (human readable = base58 text, binary = bytes) round-trip. -/
theorem serde_roundtrip (hash : List UInt8 → List UInt8) (hlen : ∀ x, (hash x).length = 32)
    (p : PeerId) (hp : PeerId.Constructible M hash p) (humanReadable : Bool) :
    PeerId.deserialize M humanReadable (p.serialize humanReadable) = .ok p := by
  unfold PeerId.deserialize PeerId.serialize
  cases humanReadable
  · simpa using print_parse hash hlen p hp
  · simpa using text_roundtrip hash hlen p hp

example : PeerId.deserialize M false (PeerId.serialize false ⟨⟨0x12, [9, 9]⟩⟩) = .ok ⟨⟨0x12, [9, 9]⟩⟩ := by
  decide

/-- **Acceptance = reference.** litep2p and `libp2p_identity` (= `multiaddr::PeerId`) accept exactly
the same multihashes, byte strings and base58 strings, with the same resulting multihash. -/
theorem accepts_eq_reference :
    (∀ mh : Multihash, PeerId.fromMultihash M mh = .ok ⟨mh⟩ ↔ Ref.fromMultihash mh = .ok ⟨mh⟩) ∧
    (∀ (bs : List UInt8) (mh : Multihash),
      PeerId.fromBytes M bs = .ok ⟨mh⟩ ↔ Ref.fromBytes bs = .ok ⟨mh⟩) ∧
    (∀ (s : List UInt8) (mh : Multihash),
      PeerId.fromStr M s = .ok ⟨mh⟩ ↔ Ref.fromStr s = .ok ⟨mh⟩) := by
  have hM : M = 42 := by decide
  have key : ∀ mh mh' : Multihash,
      PeerId.fromMultihash M mh = .ok ⟨mh'⟩ ↔ Ref.fromMultihash mh = .ok ⟨mh'⟩ := by
    intro mh mh'
    unfold PeerId.fromMultihash Ref.fromMultihash SHA2_256_CODE IDENTITY_CODE
      Ref.MULTIHASH_SHA256_CODE Ref.MULTIHASH_IDENTITY_CODE Ref.MAX_INLINE_KEY_LENGTH
    rw [hM]
    split
    · simp
    · split <;> simp
  have bytes : ∀ (bs : List UInt8) (mh : Multihash),
      PeerId.fromBytes M bs = .ok ⟨mh⟩ ↔ Ref.fromBytes bs = .ok ⟨mh⟩ := by
    intro bs mh
    unfold PeerId.fromBytes Ref.fromBytes
    cases hmh : Multihash.fromBytes bs with
    | error e => simp
    | ok m =>
      -- both wrappers pass an `ok` through unchanged and turn an error into an error
      have hk := key m mh
      simp only
      revert hk
      cases PeerId.fromMultihash M m <;> cases Ref.fromMultihash m <;> simp
  refine ⟨fun mh => key mh mh, bytes, ?_⟩
  intro s mh
  unfold PeerId.fromStr Ref.fromStr
  cases Base58.decode s with
  | error e => simp
  | ok bs => exact bytes bs mh

example : PeerId.fromBytes M [0x12, 0x01, 0x05] = .ok ⟨⟨0x12, [5]⟩⟩ ∧
    Ref.fromBytes [0x12, 0x01, 0x05] = .ok ⟨⟨0x12, [5]⟩⟩ ∧
    PeerId.fromBytes M [0x16, 0x01, 0x05] = .error .multiHash ∧
    Ref.fromBytes [0x16, 0x01, 0x05] = .error (.unsupportedCode 0x16) := by decide

/-- **`From<PeerId> for multiaddr::PeerId` cannot panic.** Every constructible peer id satisfies
the `multiaddr::PeerId` rule, so `.expect("litep2p PeerId is always a valid multiaddr PeerId")`
never fires, and the conversion keeps the multihash. -/
theorem into_multiaddr_total (hash : List UInt8 → List UInt8) (hlen : ∀ x, (hash x).length = 32)
    (p : PeerId) (hp : PeerId.Constructible M hash p) :
    p.intoMultiaddrPeerId = .ok ⟨p.multihash⟩ := by
  have hv := (valid_of hash hlen p hp).2
  have h := (accepts_eq_reference.1 p.multihash).1 (PeerId.fromMultihash_of M p.multihash hv)
  unfold PeerId.intoMultiaddrPeerId PeerId.toMultiaddrPeerId
  rw [h]

example : PeerId.intoMultiaddrPeerId ⟨⟨0x00, List.replicate 42 1⟩⟩ = .ok ⟨⟨0x00, List.replicate 42 1⟩⟩ ∧
    -- a value that is NOT constructible would make the `expect` fire:
    (∃ msg, PeerId.intoMultiaddrPeerId ⟨⟨0x00, List.replicate 43 1⟩⟩ = .error (.expect msg)) :=
  ⟨by decide, ⟨_, rfl⟩⟩

/-- **Multiaddr round trip.** Appending `/p2p/<id>` to any address and extracting the peer id again
yields the same peer id. -/
theorem multiaddr_roundtrip (hash : List UInt8 → List UInt8) (hlen : ∀ x, (hash x).length = 32)
    (p : PeerId) (hp : PeerId.Constructible M hash p) (addr : Multiaddr) :
    ∃ r, p.intoMultiaddrPeerId = .ok r ∧
      PeerId.tryFromMultiaddr M (addr ++ [.p2p r]) = some p := by
  refine ⟨⟨p.multihash⟩, into_multiaddr_total hash hlen p hp, ?_⟩
  unfold PeerId.tryFromMultiaddr
  simp only [List.getLast?_append, List.getLast?_singleton, Option.some_or]
  rw [PeerId.fromMultihash_of M p.multihash (valid_of hash hlen p hp).2]

example : PeerId.tryFromMultiaddr M [.other 4, .other 6, .p2p ⟨⟨0x12, [1]⟩⟩] = some ⟨⟨0x12, [1]⟩⟩ ∧
    PeerId.tryFromMultiaddr M [.other 4, .other 6] = none := by decide

/-- **Total, panic-free parsing.** The decoders are total functions into `ok`/`err`; the only
panicking operations on the way are unreachable: the varint shift never overflows (`shiftPanic`
is never returned, so `PeerId::from_bytes`, which maps every multihash error to
`ParseError::MultiHash`, hides no panic), and the `expect`s of `from_public_key_protobuf` and
`random` never fire. -/
theorem parse_total :
    (∀ bs : List UInt8, Multihash.fromBytes bs ≠ .error (.varint .shiftPanic)) ∧
    (∀ bs : List UInt8, Varint.readU64 bs ≠ .error .shiftPanic) ∧
    (∀ (hash : List UInt8 → List UInt8), (∀ x, (hash x).length = 32) →
      ∀ k, ∃ p, PeerId.fromPublicKeyProtobuf M hash k = .ok p) ∧
    (∀ r : List UInt8, r.length = 32 → ∃ p, PeerId.random r = .ok p) := by
  refine ⟨Multihash.fromBytes_no_panic, Varint.readU64_no_panic, ?_, ?_⟩
  · intro hash hlen k
    obtain ⟨mh, h, _⟩ := derive_eq_reference hash hlen k
    exact ⟨_, h⟩
  · intro r hr
    unfold PeerId.random
    rw [PeerId.wrap_ok _ _ (by omega)]
    exact ⟨_, rfl⟩

example : Multihash.fromBytes [0xff, 0xff, 0xff, 0xff, 0xff, 0xff, 0xff, 0xff, 0xff, 0xff, 0xff] =
    .error (.varint .overflow) ∧
    Multihash.fromBytes [0x80, 0x00] = .error (.varint .notMinimal) ∧
    Multihash.fromBytes [0x12] = .error (.varint .insufficient) := by decide

/-! ## Ed25519 key material (src/crypto/ed25519.rs) -/

section Keys
open Litep2pVerif.Id.Keys

/-- **Keypair bytes round-trip and the input is wiped.** The 64 bytes `Keypair::to_bytes` produces for
a well-formed keypair parse back to the same keypair, and the caller's buffer is all zeros
afterwards. -/
theorem key_bytes_roundtrip (c : Curve) (k : Keypair) (hk : k.Wf c) :
    keypairFromBytes c k.toBytes = (some k, zeros 64) := by
  obtain ⟨hs, hp, hd, hv⟩ := hk
  have hlen : k.toBytes.length = 64 := by simp [Keypair.toBytes, hs, hp]
  have htake : k.toBytes.take 32 = k.secret := by simp [Keypair.toBytes, ← hs]
  have hdrop : k.toBytes.drop 32 = k.pub := by simp [Keypair.toBytes, ← hs]
  unfold keypairFromBytes
  rw [if_pos hlen, htake, hdrop, hv, ← hd]
  simp [hlen]

example :
    let c : Curve := ⟨fun s => s.map (· + 1), fun _ => true, fun _ _ _ => true⟩
    let k : Keypair := ⟨List.replicate 32 7, List.replicate 32 8⟩
    keypairFromBytes c k.toBytes = (some k, zeros 64) ∧ k.toBytes.length = 64 := by decide

/-- **A keypair is accepted only if it is 64 bytes whose public half is the valid key derived from
the secret half; a refused buffer is left untouched.** -/
theorem keypair_parse_sound (c : Curve) (buf : Bytes) :
    (∀ k buf', keypairFromBytes c buf = (some k, buf') →
      buf.length = 64 ∧ k.toBytes = buf ∧ k.pub = c.derive k.secret ∧ c.validPoint k.pub = true ∧
      k.secret.length = 32 ∧ buf' = zeros 64) ∧
    (∀ buf', keypairFromBytes c buf = (none, buf') → buf' = buf) := by
  unfold keypairFromBytes
  constructor
  · intro k buf' h
    split at h
    · rename_i hlen
      split at h
      · rename_i hc
        simp only [Bool.and_eq_true, beq_iff_eq] at hc
        cases h
        refine ⟨hlen, by simp [Keypair.toBytes], hc.2.symm, hc.1, by simp [hlen], by rw [hlen]⟩
      · cases h
    · cases h
  · intro buf' h
    split at h
    · split at h
      · cases h
      · cases h; rfl
    · cases h; rfl

example :
    let c : Curve := ⟨fun s => s.map (· + 1), fun _ => true, fun _ _ _ => true⟩
    keypairFromBytes c (List.replicate 32 7 ++ List.replicate 32 9) = (none, List.replicate 32 7 ++ List.replicate 32 9) ∧
    keypairFromBytes c (List.replicate 63 7) = (none, List.replicate 63 7) ∧
    keypairFromBytes c (List.replicate 65 7) = (none, List.replicate 65 7) := by decide

/-- **Secret and public keys obey their length rules.** A secret key is accepted iff it has 32 bytes
(the buffer is wiped on success and untouched otherwise); a public key is accepted iff it has 32
bytes and is a curve point, and is returned unchanged. -/
theorem key_length_rules (c : Curve) (buf : Bytes) :
    (secretFromBytes buf = (some buf, zeros 32) ↔ buf.length = 32) ∧
    (buf.length ≠ 32 → secretFromBytes buf = (none, buf)) ∧
    (∀ k, publicFromBytes c buf = some k ↔ (k = buf ∧ buf.length = 32 ∧ c.validPoint buf = true)) := by
  refine ⟨?_, ?_, ?_⟩
  · unfold secretFromBytes
    constructor
    · intro h; split at h
      · assumption
      · cases h
    · intro h; rw [if_pos h, h]
  · intro h; unfold secretFromBytes; rw [if_neg h]
  · intro k
    unfold publicFromBytes
    constructor
    · intro h
      split at h
      · rename_i hc
        simp only [Bool.and_eq_true, decide_eq_true_eq] at hc
        cases h; exact ⟨rfl, hc.1, hc.2⟩
      · cases h
    · rintro ⟨rfl, hl, hv⟩
      simp [hl, hv]

example :
    let c : Curve := ⟨id, fun k => k.head? != some 0xff, fun _ _ _ => true⟩
    secretFromBytes (List.replicate 32 1) = (some (List.replicate 32 1), zeros 32) ∧
    secretFromBytes (List.replicate 31 1) = (none, List.replicate 31 1) ∧
    publicFromBytes c (List.replicate 32 1) = some (List.replicate 32 1) ∧
    publicFromBytes c (List.replicate 32 0xff) = none ∧ publicFromBytes c (List.replicate 33 1) = none := by decide

/-- **Signature verification is total and never accepts a malformed signature**: `verify` returns
`true` only for a 64-byte signature the curve check accepts; every other input (any length, any
bytes) yields `false` — there is no panic value. -/
theorem verify_total (c : Curve) (key msg sig : Bytes) :
    (verify c key msg sig = true ↔ sig.length = 64 ∧ c.sigValid key msg sig = true) ∧
    (sig.length ≠ 64 → verify c key msg sig = false) := by
  unfold verify
  constructor
  · simp
  · intro h; simp [h]

example :
    let c : Curve := ⟨id, fun _ => true, fun _ _ s => s.head? == some 1⟩
    verify c [] [1, 2] (List.replicate 64 1) = true ∧ verify c [] [1, 2] (List.replicate 64 2) = false ∧
    verify c [] [1, 2] (List.replicate 63 1) = false ∧ verify c [] [1, 2] [] = false ∧
    verify c [] [1, 2] (List.replicate 65 1) = false := by decide

end Keys

#print axioms derive_rule
#print axioms derive_eq_reference
#print axioms ed25519_id_form
#print axioms print_parse
#print axioms parse_print_partial
#print axioms parse_print_witness
#print axioms base58_roundtrip
#print axioms text_roundtrip
#print axioms serde_roundtrip
#print axioms accepts_eq_reference
#print axioms into_multiaddr_total
#print axioms multiaddr_roundtrip
#print axioms parse_total
#print axioms key_bytes_roundtrip
#print axioms keypair_parse_sound
#print axioms key_length_rules
#print axioms verify_total

end Litep2pVerif.Props.C18
