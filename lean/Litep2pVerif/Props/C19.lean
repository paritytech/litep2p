import Litep2pVerif.Proofs.Wire.KadEncoders
import Litep2pVerif.Proofs.Wire.Identify
import Litep2pVerif.Proofs.Node.Wiring
/-!
# C19 — Bytes from the network can never panic or over-allocate a decoder

The decoders are modelled as total Lean functions over byte lists whose only failure value is
`none` (`Model/Wire/*`): there is no panic value to reach and every loop is structurally recursive on
a fuel that the input length bounds, so "returns a value or an error for every input, without
looping forever" holds by construction of the model. The theorems below are the quantitative part —
what a successful decode can allocate — and the encoder/decoder round trips (prost's and the hand-written
Kademlia encoders); then the identify protocol object on its two substreams, and in namespace `Wiring` the
message limit of a substream negotiated under a fallback name. The model is tied to prost and to
`KademliaMessage::from_bytes` by the C19 correspondence run.

`size` of a decoded message counts every byte of every bytes/string field plus one per repeated
element (`Proofs/Wire/Sizes.lean`).
-/
namespace Litep2pVerif.Props.C19
open Litep2pVerif.Wire

/-- A varint read consumes at least one byte (so every decoding loop makes progress). -/
theorem readVarint_consumes (bs rest : List Nat) (v : Nat) (h : readVarint bs = some (v, rest)) :
    rest.length < bs.length := readVarint_length h

example : readVarint [0x96, 0x01, 7] = some (150, [7]) := by decide

theorem readVarint_writeVarint (n : Nat) (hn : n < 2 ^ 64) (rest : List Nat) :
    readVarint (writeVarint n ++ rest) = some (n, rest) := readVarint_writeVarint' n hn rest

example : writeVarint 300 = [0xAC, 0x02] ∧ readVarint [0xFF, 0xFF, 0xFF, 0xFF, 0xFF, 0xFF, 0xFF, 0xFF, 0xFF, 0x02] = none := by
  decide

theorem readKey_writeKey (tag wt : Nat) (ht : 1 ≤ tag) (ht' : tag < 2 ^ 29) (hw : wt ≤ 5) (rest : List Nat) :
    readKey (writeKey tag wt ++ rest) = some (tag, wt, rest) := readKey_writeKey' tag wt ht ht' hw rest

example : readKey [0x52, 0x0a] = some (10, 2, [0x0a]) ∧ readKey [0x00] = none ∧ readKey [0x0e] = none := by decide

theorem bytes_field_roundtrip (b rest : List Nat) (hb : b.length < 2 ^ 64) :
    fieldBytes 2 (writeVarint b.length ++ b ++ rest) = some (b, rest) := fieldBytes_enc b rest hb

/-- **Allocation bound, Kademlia.** Whatever a successfully decoded Kademlia message holds (all byte
strings of the message, its record and its peers, plus one unit per peer and per address) fits in
the number of input bytes. -/
theorem kad_alloc_bound (bs : List Nat) (m : KMessage) (h : KMessage.decode bs = some m) :
    m.size ≤ bs.length := KMessage.decode_size h

example : (KMessage.decode [0x08, 0x04, 0x12, 0x02, 0x01, 0x02, 0x42, 0x04, 0x0a, 0x02, 0x12, 0x20, 0x50, 0x0a]).map KMessage.size
    = some 5 := by decide

/-- **Allocation bound, identify.** -/
theorem identify_alloc_bound (bs : List Nat) (m : Identify) (h : Identify.decode bs = some m) :
    m.size ≤ bs.length := Identify.decode_size h

/-- **Allocation bound, bitswap.** -/
theorem bitswap_alloc_bound (bs : List Nat) (m : BsMessage) (h : BsMessage.decode bs = some m) :
    m.size ≤ bs.length := BsMessage.decode_size h

/-- **Allocation bound, Noise handshake payload.** -/
theorem noise_alloc_bound (bs : List Nat) (m : NoisePayload) (h : NoisePayload.decode bs = some m) :
    m.size ≤ bs.length := NoisePayload.decode_size h

/-- **Allocation bound, public key.** -/
theorem key_alloc_bound (bs : List Nat) (m : PublicKeyPb) (h : PublicKeyPb.decode bs = some m) :
    m.size ≤ bs.length := PublicKeyPb.decode_size h

example : (BsMessage.decode [0x0a, 0x04, 0x0a, 0x02, 0x0a, 0x00, 0x1a, 0x03, 0x0a, 0x01, 0x07]).map BsMessage.size = some 3 := by
  decide

/-- The peers `KademliaMessage::from_bytes` keeps from one message never exceed the replication
factor, and each keeps at most the address-store capacity of addresses — for every input and every
behaviour of the third-party peer-id/multiaddr parsers. -/
theorem kad_peers_bounded (peerIdOk addrOk : List Nat → Bool) (repl : Nat) (ps : List KPeer) :
    (peersFrom peerIdOk addrOk repl ps).length ≤ repl ∧
    ∀ p ∈ peersFrom peerIdOk addrOk repl ps, p.naddrs ≤ addressStoreCapacity := by
  refine ⟨List.length_take_le _ _, fun p hp => ?_⟩
  obtain ⟨q, _, hq⟩ := List.mem_filterMap.1 (List.mem_of_mem_take hp)
  unfold peerTryFrom at hq
  split at hq
  · cases hq
  · split at hq
    · cases hq
    · simp only [Option.some.injEq] at hq
      subst hq
      exact Nat.min_le_right _ _

/-! ## Encoders round-trip

`X.encode` is prost's `encode_raw` for the struct prost-build generates from the `.proto` file, `X.decode`
its `decode`; both are regenerated from /repo's `.proto` files on every run (`tools/proto2lean.py`).
`m.WF` says what the Rust types guarantee (i32 ranges, UTF-8 strings, lengths and nested encodings
below 2^64); it is decidable. The static nesting of every schema is within prost's recursion limit
(`X.nest ≤ recursionLimit`, checked by `decide` inside `X.decode_encode`). -/

/-- **Kademlia**: every `schema::kademlia::Message` value decodes to itself. -/
theorem kad_roundtrip (m : KMessage) (h : m.WF) : KMessage.decode (KMessage.encode m) = some m :=
  KMessage.decode_encode m h

example : ({ type := 4, key := [1, 2], clusterLevelRaw := 10, record := some { key := [1], value := [7, 7], ttl := 3600 },
             closerPeers := [{ id := [0x12, 0x01, 0x05], addrs := [[4, 127, 0, 0, 1, 6, 0, 80], []], connection := 2 }, {}],
             providerPeers := [{ connection := -1 }] } : KMessage).WF := by decide

example : KMessage.encode { type := 1, key := [9], record := some {}, closerPeers := [{ id := [5] }] } =
    [0x08, 0x01, 0x12, 0x01, 0x09, 0x1a, 0x00, 0x42, 0x03, 0x0a, 0x01, 0x05] := by decide

theorem identify_roundtrip (m : Identify) (h : m.WF) : Identify.decode (Identify.encode m) = some m :=
  Identify.decode_encode m h

example : ({ protocolVersion := some [0x2f, 0x61], agentVersion := some [0xc3, 0xbc], publicKey := some [8, 1],
             listenAddrs := [[4, 10, 0, 0, 1, 6, 0, 1], []], observedAddr := none, protocols := [[0x2f, 0x78], []] } : Identify).WF ∧
    ¬ ({ agentVersion := some [0xff] } : Identify).WF := by decide

theorem bitswap_roundtrip (m : BsMessage) (h : m.WF) : BsMessage.decode (BsMessage.encode m) = some m :=
  BsMessage.decode_encode m h

example : ({ wantlist := some { entries := [{ block := [1, 2], priority := -5, cancel := true, wantType := 1, sendDontHave := true }, {}],
                                full := true },
             blocks := [[1], []], payload := [{ pfx := [1, 0x55, 0x12, 0x20], data := [0xde, 0xad] }],
             blockPresences := [{ cid := [1, 2, 3], type := 1 }], pendingBytes := 2147483647 } : BsMessage).WF ∧
    ¬ ({ pendingBytes := 2147483648 } : BsMessage).WF := by decide

example : BsMessage.encode { wantlist := some {}, payload := [{ data := [7] }] } = [0x0a, 0x00, 0x1a, 0x03, 0x12, 0x01, 0x07] := by
  decide

theorem noise_payload_roundtrip (m : NoisePayload) (h : m.WF) : NoisePayload.decode (NoisePayload.encode m) = some m :=
  NoisePayload.decode_encode m h

example : ({ identityKey := some [8, 1, 0x12, 0], identitySig := some [], extensions := some { streamMuxers := [[0x2f, 0x79]] } } :
    NoisePayload).WF := by decide

/-- **Public key** (proto2 `required` fields: always written). -/
theorem public_key_roundtrip (m : PublicKeyPb) (h : m.WF) : PublicKeyPb.decode (PublicKeyPb.encode m) = some m :=
  PublicKeyPb.decode_encode m h

example : PublicKeyPb.encode {} = [0x08, 0x00, 0x12, 0x00] ∧ ({ type := 1, data := [1, 2, 3] } : PublicKeyPb).WF := by decide

/-- **WebRTC framing message** (its decoder is compiled only with the `webrtc` feature; the schema is
translated all the same). -/
theorem webrtc_message_roundtrip (m : WebRtcMessage) (h : m.WF) : WebRtcMessage.decode (WebRtcMessage.encode m) = some m :=
  WebRtcMessage.decode_encode m h

example : ({ flag := some 3, message := some [1, 2] } : WebRtcMessage).WF ∧
    WebRtcMessage.encode { flag := some 0 } = [0x08, 0x00] := by decide

/-! ## The hand-written Kademlia encoders (kademlia/message.rs) against `KademliaMessage::from_bytes`

`peerIdOk`/`addrOk` are the third-party peer-id and multiaddr parsers (parameters). The hypotheses are the
stated limits: well-formed message, peers that `try_from` accepts, no more peers than the replication
factor (more are cut off by `take`). -/

/-- The written-out request bytes are what prost encodes for `find_node`/`get_record`/
`get_providers_request`. -/
theorem kad_request_encoding (type : Nat) (key : List Nat) :
    encodeKadRequest type key = KMessage.encode { type := Int.ofNat type, key := key, clusterLevelRaw := 10 } :=
  encodeKadRequest_eq type key

/-- The Kademlia request encodings (`find_node`, `get_record`, `get_providers_request`: type, key,
clusterLevelRaw = 10) decode to the value that was encoded — a corollary of `kad_roundtrip`. -/
theorem kad_request_roundtrip (type : Nat) (key : List Nat) (ht : type < 2 ^ 31) (hk : key.length < 2 ^ 64) :
    KMessage.decode (encodeKadRequest type key) =
      some { type := Int.ofNat type, clusterLevelRaw := 10, key := key } := by
  rw [encodeKadRequest_eq]
  exact kad_roundtrip _ (kadRequest_wf type key ht hk)

example : encodeKadRequest 4 [1, 2] = [0x08, 0x04, 0x12, 0x02, 0x01, 0x02, 0x50, 0x0a] := by decide

/-- `find_node`. -/
theorem kad_find_node_roundtrip (peerIdOk addrOk : List Nat → Bool) (repl : Nat) (key : List Nat)
    (h : (kadFindNode key).WF) :
    kadFromBytes peerIdOk addrOk repl (KMessage.encode (kadFindNode key)) = some (.findNode key []) := by
  rw [kadFromBytes_encode _ _ _ _ h]
  simp [kadOfMessage, kadFindNode, peersFrom]

/-- `put_value`. -/
theorem kad_put_value_roundtrip (peerIdOk addrOk : List Nat → Bool) (repl : Nat) (r : RecordIn)
    (h : (kadPutValue r).WF) (hr : recordInOk peerIdOk r) :
    kadFromBytes peerIdOk addrOk repl (KMessage.encode (kadPutValue r)) = some (.putValue (recordOutOf r)) := by
  rw [kadFromBytes_encode _ _ _ _ h]
  simp [kadOfMessage, kadPutValue, recordFromSchema_ok peerIdOk r hr]

/-- `get_record`. -/
theorem kad_get_record_roundtrip (peerIdOk addrOk : List Nat → Bool) (repl : Nat) (key : List Nat)
    (h : (kadGetRecord key).WF) :
    kadFromBytes peerIdOk addrOk repl (KMessage.encode (kadGetRecord key)) =
      some (.getRecord (if key.isEmpty then none else some key) none []) := by
  rw [kadFromBytes_encode _ _ _ _ h]
  simp [kadOfMessage, kadGetRecord, peersFrom]

/-- `find_node_response`: up to `replication_factor` acceptable peers come back as sent. -/
theorem kad_find_node_response_roundtrip (peerIdOk addrOk : List Nat → Bool) (repl : Nat) (key : List Nat)
    (peers : List PeerIn) (h : (kadFindNodeResponse key peers).WF) (hp : ∀ p ∈ peers, peerInOk peerIdOk p)
    (hl : peers.length ≤ repl) :
    kadFromBytes peerIdOk addrOk repl (KMessage.encode (kadFindNodeResponse key peers)) =
      some (.findNode key (peers.map (peerOutOf addrOk))) := by
  rw [kadFromBytes_encode _ _ _ _ h]
  have := peersFrom_map peerIdOk addrOk repl (fun p => p) peers hp hl
  simp [kadOfMessage, kadFindNodeResponse, this]

/-- `put_value_response`. -/
theorem kad_put_value_response_roundtrip (peerIdOk addrOk : List Nat → Bool) (repl : Nat) (key value : List Nat)
    (h : (kadPutValueResponse key value).WF) :
    kadFromBytes peerIdOk addrOk repl (KMessage.encode (kadPutValueResponse key value)) =
      some (.putValue { key := key, value := value, publisher := none, hasExpiry := false }) := by
  rw [kadFromBytes_encode _ _ _ _ h]
  simp [kadOfMessage, kadPutValueResponse, recordFromSchema]

/-- `get_value_response` (non-empty key, as every caller passes). -/
theorem kad_get_value_response_roundtrip (peerIdOk addrOk : List Nat → Bool) (repl : Nat) (key : List Nat)
    (peers : List PeerIn) (record : Option RecordIn) (h : (kadGetValueResponse key peers record).WF)
    (hk : key ≠ []) (hp : ∀ p ∈ peers, peerInOk peerIdOk p) (hl : peers.length ≤ repl)
    (hr : optAll (recordInOk peerIdOk) record) :
    kadFromBytes peerIdOk addrOk repl (KMessage.encode (kadGetValueResponse key peers record)) =
      some (.getRecord (some key) (record.map recordOutOf) (peers.map (peerOutOf addrOk))) := by
  rw [kadFromBytes_encode _ _ _ _ h]
  have := peersFrom_map peerIdOk addrOk repl (fun p => p) peers hp hl
  cases record with
  | none => simp [kadOfMessage, kadGetValueResponse, this, hk]
  | some r => simp [kadOfMessage, kadGetValueResponse, this, hk, recordFromSchema_ok peerIdOk r hr]

/-- `add_provider`: the provider arrives with connection type `CanConnect`. -/
theorem kad_add_provider_roundtrip (peerIdOk addrOk : List Nat → Bool) (repl : Nat) (key : List Nat)
    (provider : PeerIn) (h : (kadAddProvider key provider).WF) (hk : key ≠ []) (hp : peerIdOk provider.id = true)
    (hl : 1 ≤ repl) :
    kadFromBytes peerIdOk addrOk repl (KMessage.encode (kadAddProvider key provider)) =
      some (.addProvider key [peerOutOf addrOk { provider with conn := 2 }]) := by
  rw [kadFromBytes_encode _ _ _ _ h]
  have := peersFrom_map peerIdOk addrOk repl (fun p => { p with conn := 2 }) [provider]
    (List.forall_mem_singleton.2 ⟨hp, (by show (0 : Int) ≤ 2; decide), (by show (2 : Int) ≤ 3; decide)⟩) hl
  simp only [List.map_cons, List.map_nil] at this
  simp [kadOfMessage, kadAddProvider, this, hk]

/-- `get_providers_request`. -/
theorem kad_get_providers_request_roundtrip (peerIdOk addrOk : List Nat → Bool) (repl : Nat) (key : List Nat)
    (h : (kadGetProvidersRequest key).WF) :
    kadFromBytes peerIdOk addrOk repl (KMessage.encode (kadGetProvidersRequest key)) =
      some (.getProviders (if key.isEmpty then none else some key) [] []) := by
  rw [kadFromBytes_encode _ _ _ _ h]
  simp [kadOfMessage, kadGetProvidersRequest, peersFrom]

/-- `get_providers_response`: providers arrive as `NotConnected`, closer peers as sent, no key. -/
theorem kad_get_providers_response_roundtrip (peerIdOk addrOk : List Nat → Bool) (repl : Nat)
    (providers closer : List PeerIn) (h : (kadGetProvidersResponse providers closer).WF)
    (hp : ∀ p ∈ providers, peerIdOk p.id = true) (hc : ∀ p ∈ closer, peerInOk peerIdOk p)
    (hlp : providers.length ≤ repl) (hlc : closer.length ≤ repl) :
    kadFromBytes peerIdOk addrOk repl (KMessage.encode (kadGetProvidersResponse providers closer)) =
      some (.getProviders none (closer.map (peerOutOf addrOk))
        (providers.map fun p => peerOutOf addrOk { p with conn := 0 })) := by
  rw [kadFromBytes_encode _ _ _ _ h]
  have h1 := peersFrom_map peerIdOk addrOk repl (fun p => p) closer hc hlc
  have h2 := peersFrom_map peerIdOk addrOk repl (fun p => { p with conn := 0 }) providers
    (fun p hp' => ⟨hp p hp', (by show (0 : Int) ≤ 0; decide), (by show (0 : Int) ≤ 3; decide)⟩) hlp
  simp [kadOfMessage, kadGetProvidersResponse, h1, h2]

example : (kadFindNodeResponse [1, 2] [{ id := [0, 1, 9], addrs := [[4, 1, 2, 3, 4, 6, 0, 1]], conn := 1 }]).WF ∧
    (kadPutValue { key := [1], value := [2, 3], publisher := some [0, 1, 9], ttl := 4294967295 }).WF ∧
    recordInOk (fun b => b.length == 3) { key := [1], value := [2, 3], publisher := some [0, 1, 9], ttl := 1 } ∧
    peerInOk (fun b => b.length == 3) { id := [0, 1, 9], addrs := [], conn := 3 } := by decide

example : kadFromBytes (fun _ => true) (fun _ => true) 20
    (KMessage.encode (kadGetProvidersResponse [{ id := [7], addrs := [[1], [1], [2]], conn := 3 }] [{ id := [8], addrs := [], conn := 1 }])) =
    some (.getProviders none [{ id := [8], naddrs := 0, conn := 1 }] [{ id := [7], naddrs := 2, conn := 0 }]) := by decide
/-! ## The identify protocol object (`src/protocol/libp2p/identify.rs`)

`identifyOutbound info remote localId steps`: what the user sees after a remote played `steps` (writes in
any fragmentation, pauses, close, reset) on our outbound identify substream — the real frame reader
(`Model/Substream/Codec.lean`, codec `UnsignedVarint(Some(IDENTIFY_PAYLOAD_SIZE))`), the 10 s timeout,
prost's decoder, the address filters and the event built by `run()`. `info` is what the third-party
multiaddr parser says about an address. -/

/-- **No byte sequence, fragmentation or timing makes the identify handler panic.** -/
theorem identify_no_panic (info : List Nat → AddrInfo) (remote localId : List Nat) (steps : List OutStep) (msg : String) :
    identifyOutbound info remote localId steps ≠ .panic msg := by
  unfold identifyOutbound
  have := (identifyRead_spec steps _ 0 (Litep2pVerif.Substream.rinv_init identifyCodec)).2
  split
  · split <;> simp
  · rename_i m heq; exact absurd heq (this m)
  · simp

/-- **Everything an identify event holds on to is bounded by the frame limit**: the strings, the
protocol set, the observed address and the listen addresses together (plus one per list element) are at
most `IDENTIFY_PAYLOAD_SIZE` bytes — for every remote behaviour. -/
theorem identify_event_bounded (info : List Nat → AddrInfo) (remote localId : List Nat) (steps : List OutStep)
    (e : IdEvent) (h : identifyOutbound info remote localId steps = .event e) : e.size ≤ IDENTIFY_PAYLOAD_SIZE := by
  obtain ⟨p, hread, hh⟩ := identifyOutbound_event h
  exact Nat.le_trans (identifyHandle_size info remote localId p e hh)
    ((identifyRead_spec steps _ 0 (Litep2pVerif.Substream.rinv_init identifyCodec)).1 p hread)

/-- **Identity rule of identify.** The identified peer is the peer of the (Noise-authenticated)
connection, whatever the message says (its `publicKey` field is not consulted); every listen address
that is reported either names no peer at its end or names that peer; the observed address either is
absent (empty) or names no peer or names us. -/
theorem identify_event_identity (info : List Nat → AddrInfo) (remote localId : List Nat) (steps : List OutStep)
    (e : IdEvent) (h : identifyOutbound info remote localId steps = .event e) :
    e.peer = remote ∧ (∀ a ∈ e.listen, info a = .noP2p ∨ info a = .p2p remote) ∧
    (e.observed = [] ∨ info e.observed = .noP2p ∨ info e.observed = .p2p localId) := by
  obtain ⟨p, _, hh⟩ := identifyOutbound_event h
  exact identifyHandle_identity info remote localId p e hh

/-- Non-vacuity: a two-piece answer with a pause yields the event; an address naming somebody else is
dropped; ten seconds of silence, an early close and an oversized announcement yield nothing. -/
example :
    let info : List Nat → AddrInfo := fun a => if a = [1] then .p2p [9] else if a = [2] then .p2p [7] else .noP2p
    identifyOutbound info [9] [7] [.write [14, 0x12, 1, 1, 0x12, 1], .wait 9, .write [2, 0x12, 1, 3, 0x22, 1, 2, 0x2a, 0]] =
      .event { peer := [9], protocolVersion := some [], userAgent := none, protocols := [], observed := [2], listen := [[1], [3]] } ∧
    identifyOutbound info [9] [7] [.write [14, 0x12, 1, 1], .wait 10, .write [0x12, 1, 2, 0x12, 1, 3, 0x22, 1, 2, 0x2a, 0]] = .noevent ∧
    identifyOutbound info [9] [7] [.write [14, 0x12, 1, 1], .close] = .noevent ∧
    identifyOutbound info [9] [7] [.write [0x81, 0x20, 1, 2]] = .noevent := by decide

/-- **Our own identify message survives the remote-side handler.** The message node `cfg` sends on an
inbound identify substream (built from its configuration; `observed`: the asker's address as seen by
`cfg`), when it fits the frame limit, read by the asker's handler in any two-piece fragmentation, yields
exactly: `cfg`'s peer id, protocol version, agent (the default agent if none is configured), protocol
set, the observed address (unless it names another peer than the asker) and those of its addresses that
do not name another peer. -/
theorem identify_own_roundtrip (info : List Nat → AddrInfo) (cfg : IdLocal) (asker : List Nat) (observed : Option (List Nat))
    (split : Nat) (hwf : (ownIdentify cfg observed).WF)
    (hlen : (Identify.encode (ownIdentify cfg observed)).length ≤ IDENTIFY_PAYLOAD_SIZE) :
    identifyRoundtrip info cfg asker observed split = .event (ownEvent info cfg asker observed) :=
  identifyRoundtrip_own info cfg asker observed split hwf hlen

example :
    let cfg : IdLocal := { localId := [0, 2, 8, 1], pv := [0x2f, 0x61], agent := none, protocols := [[0x2f, 0x62], [0x2f, 0x62]],
                           listen := [[5], [4]], public_ := [[4]] }
    (ownIdentify cfg (some [6])).WF ∧ (Identify.encode (ownIdentify cfg (some [6]))).length ≤ IDENTIFY_PAYLOAD_SIZE ∧
    (ownEvent (fun _ => .noP2p) cfg [1] (some [6])).listen = [[4], [5]] ∧
    (ownEvent (fun _ => .noP2p) cfg [1] (some [6])).protocols = [[0x2f, 0x62]] ∧
    (ownIdentify cfg (some [6])).publicKey = some [8, 1] := by decide

/-- **A message above the frame limit never reaches the wire, and what does is a prefix of our frame.** -/
theorem identify_inbound_prefix (cfg : IdLocal) (observed : Option (List Nat)) (cap : Nat) (steps : List InStep) :
    (IDENTIFY_PAYLOAD_SIZE < (Identify.encode (ownIdentify cfg observed)).length → identifyInbound cfg observed cap steps = []) ∧
    ∃ k, identifyInbound cfg observed cap steps =
      (Litep2pVerif.Substream.encodeMsg identifyCodec (Identify.encode (ownIdentify cfg observed))).take k := by
  unfold identifyInbound
  refine ⟨?_, ?_⟩
  · intro hbig
    have : Litep2pVerif.Substream.accepts identifyCodec (Identify.encode (ownIdentify cfg observed)) = false := by
      simp [Litep2pVerif.Substream.accepts, identifyCodec, Litep2pVerif.Substream.overMax, hbig]
    simp [this]
  · simp only []
    split
    · exact ⟨_, rfl⟩
    · exact ⟨0, rfl⟩

example :
    let cfg : IdLocal := { localId := [0, 2, 8, 1], pv := [0x2f], agent := some [], protocols := [], listen := [], public_ := [] }
    identifyInbound cfg none 3 [.read 2, .wait 10, .read 50] = [9, 0x0a, 2, 8, 1] ∧
    identifyInbound cfg none 3 [.read 2, .wait 9, .read 50] = [9, 0x0a, 2, 8, 1, 0x2a, 1, 0x2f, 0x32, 0] := by decide

end Litep2pVerif.Props.C19

open Litep2pVerif.Props.C19 in
#print axioms readVarint_consumes
open Litep2pVerif.Props.C19 in
#print axioms readVarint_writeVarint
open Litep2pVerif.Props.C19 in
#print axioms readKey_writeKey
open Litep2pVerif.Props.C19 in
#print axioms bytes_field_roundtrip
open Litep2pVerif.Props.C19 in
#print axioms kad_alloc_bound
open Litep2pVerif.Props.C19 in
#print axioms identify_alloc_bound
open Litep2pVerif.Props.C19 in
#print axioms bitswap_alloc_bound
open Litep2pVerif.Props.C19 in
#print axioms noise_alloc_bound
open Litep2pVerif.Props.C19 in
#print axioms key_alloc_bound
open Litep2pVerif.Props.C19 in
#print axioms kad_peers_bounded
open Litep2pVerif.Props.C19 in
#print axioms kad_request_roundtrip
open Litep2pVerif.Props.C19 in
#print axioms kad_roundtrip
open Litep2pVerif.Props.C19 in
#print axioms identify_roundtrip
open Litep2pVerif.Props.C19 in
#print axioms bitswap_roundtrip
open Litep2pVerif.Props.C19 in
#print axioms noise_payload_roundtrip
open Litep2pVerif.Props.C19 in
#print axioms public_key_roundtrip
open Litep2pVerif.Props.C19 in
#print axioms webrtc_message_roundtrip
open Litep2pVerif.Props.C19 in
#print axioms kad_request_encoding
open Litep2pVerif.Props.C19 in
#print axioms kad_find_node_roundtrip
open Litep2pVerif.Props.C19 in
#print axioms kad_put_value_roundtrip
open Litep2pVerif.Props.C19 in
#print axioms kad_get_record_roundtrip
open Litep2pVerif.Props.C19 in
#print axioms kad_find_node_response_roundtrip
open Litep2pVerif.Props.C19 in
#print axioms kad_put_value_response_roundtrip
open Litep2pVerif.Props.C19 in
#print axioms kad_get_value_response_roundtrip
open Litep2pVerif.Props.C19 in
#print axioms kad_add_provider_roundtrip
open Litep2pVerif.Props.C19 in
#print axioms kad_get_providers_request_roundtrip
open Litep2pVerif.Props.C19 in
#print axioms kad_get_providers_response_roundtrip
open Litep2pVerif.Props.C19 in
#print axioms identify_no_panic
open Litep2pVerif.Props.C19 in
#print axioms identify_event_bounded
open Litep2pVerif.Props.C19 in
#print axioms identify_event_identity
open Litep2pVerif.Props.C19 in
#print axioms identify_own_roundtrip
open Litep2pVerif.Props.C19 in
#print axioms identify_inbound_prefix

/-! ## Wiring — the configured message limit on substreams negotiated under a FALLBACK name (added after seeded C19-e1)

Over the wiring model `Model/Node/Wiring.lean` (`Node.new c` = `Litep2p::new(ConfigBuilder…build())`, `notes` / `tcpHeld` =
what the constructed protocol objects / the TCP transport hold, `protocolCodec` = `ProtocolSet::protocol_codec`), tied to
the real code by the `node` area: real nodes built through the public API print what the CONSTRUCTED objects hold and what
a connection's `ProtocolSet` answers for every main and fallback name; the driver prints the model's; compared exactly. -/
namespace Litep2pVerif.Props.C19.Wiring
open Litep2pVerif Litep2pVerif.Node

/-- Kademlia setter calls of the sample: a later call overrides an earlier one; zero bounds. -/
def sampleSets : List KadSet := [.maxRecords 5, .replication 3, .maxRecords 0, .maxProviderKeys 0, .validationMode false]

/-- A configuration with fallback names, zero store bounds and non-default transport settings (non-vacuity examples). -/
def sample : Config :=
  { keepAliveMs := some 600, listen := [1],
    notif := [{ name := "/n/new", max := 32, handshake := "01", fallback := ["/n/a"], mode := 'a', sync := some 7, async := none,
                dial := some false }],
    rr := [{ name := "/r/new", max := 256, timeoutMs := 800, fallback := ["/r/a", "/r/b"], maxInbound := some 3 }],
    user := [⟨"/u/a", .identity 8⟩],
    kad := [{ names := ["/k/2", "/k/1"], max := some 2048,
              sets := sampleSets }],
    ping := some 1, identify := true, bitswap := true, maxParallelDials := some 0,
    tcpSets := [.readAhead 3, .parallelDials 7, .writeBuffer 4] }

/-- Every name of a request-response or notification protocol — main or fallback — is framed with the protocol's CONFIGURED
maximum message size: the length-prefix decoder of such a substream refuses a larger frame before allocating for it. -/
theorem fallback_name_keeps_configured_limit (c : Config) (w : Wired) (h : Node.new c = .ok w) :
    (∀ p ∈ (build c).rr, ∀ x ∈ p.name :: p.fallback, protocolCodec w.regs x = some (.varint (some p.max))) ∧
    (∀ p ∈ (build c).notif, ∀ x ∈ p.name :: p.fallback, protocolCodec w.regs x = some (.varint (some p.max))) := by
  obtain ⟨hreg, _, rfl⟩ := wire_ok h
  exact ⟨fun p hp x hx => (protocolSet_of_claim hreg (rr_mem_registrations _ hp) hx).1,
         fun p hp x hx => (protocolSet_of_claim hreg (notif_mem_registrations _ hp) hx).1⟩

example : ∃ w, Node.new sample = .ok w ∧ protocolCodec w.regs "/r/b" = some (.varint (some 256)) ∧
    protocolCodec w.regs "/n/a" = some (.varint (some 32)) := ⟨_, rfl, by decide, by decide⟩

end Litep2pVerif.Props.C19.Wiring

#print axioms Litep2pVerif.Props.C19.Wiring.fallback_name_keeps_configured_limit
