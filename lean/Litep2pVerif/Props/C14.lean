import Litep2pVerif.Proofs.Kad.Table
import Litep2pVerif.Proofs.Kad.TableWiring
import Litep2pVerif.Generated.Consts
/-!
# C14 — Kademlia routing table places and returns peers by XOR distance

The property theorems with non-vacuity examples (several on the small history `demo`): first the table (model
`Model/Kad/{Key,Bucket,Table}.lean`, helper lemmas `Proofs/Kad/Table.lean`), then in section `Coordinator` the event
handlers of `Kademlia` on top of it (`Model/Kad/TableWiring.lean`, `Proofs/Kad/TableWiring.lean`). `run K NB lk ops` is
the table reached from a fresh table with local key `lk` by an arbitrary history `ops` of `add_known_peer` / `on_connection_established` /
`on_dial_failure` / disconnect / bare `entry` calls (each with an arbitrary placeholder key `rnd`).
`K` and `NB` are the bucket capacity and `NUM_BUCKETS` regenerated from the Rust sources on every
run.
-/
namespace Litep2pVerif.Props.C14
open Litep2pVerif Litep2pVerif.Kad.Key Litep2pVerif.Kad.Bucket Litep2pVerif.Kad.Table

/-- Bucket capacity: the literal in `KBucket::entry`. -/
abbrev K : Nat := Consts.KBUCKET_CAPACITY
/-- `NUM_BUCKETS`. -/
abbrev NB : Nat := Consts.NUM_BUCKETS

/-- A small history used by the non-vacuity examples: local key `0x50`; peers in bucket 0 (distance
1), bucket 1, bucket 8; a connect of an unknown peer (leaves a placeholder in bucket 4). -/
def demoOps : List Op :=
  [.add 1 0x51 1 .connected 0, .add 2 0x52 1 .canConnect 0, .add 3 0x150 2 .notConnected 0,
   .connected 0x41 true 7, .add 4 0x50 1 .connected 0, .disconnected 0x52 0]

def demo : Table := run K NB 0x50 demoOps

/-- `demo`, evaluated. The examples about `closest` are evaluated on this short list: `closest` looks up each of
the `NB` buckets by index, and an index lookup in the table as `run` builds it walks a list of length `NB`. -/
theorem demo_bucket (i : Nat) : demo.buckets.getD i [] =
    [[.real ⟨1, 0x51, 1, .connected⟩], [.real ⟨2, 0x52, 1, .notConnected⟩], [], [], [.junk 7], [], [], [],
      [.real ⟨3, 0x150, 2, .notConnected⟩]].getD i [] := by
  have hpad (l : List Bucket) : (l ++ List.replicate 247 []).getD i [] = l.getD i [] := by
    simp only [List.getD_eq_getElem?_getD, List.getElem?_append, List.getElem?_replicate]
    split
    · rfl
    · rw [List.getElem?_eq_none (by omega)]
      split <;> rfl
  exact (congrArg (List.getD · i []) (by decide +kernel)).trans (hpad _)

/-- **Placement.** After every history, every stored peer (not a placeholder) sits in the bucket
whose index is `log2 (local xor key)`; in particular its distance to the local key is not 0. -/
theorem bucket_placement (lk : Nat) (ops : List Op) (i : Nat) (p : Peer)
    (h : Slot.real p ∈ (run K NB lk ops).buckets.getD i []) :
    lk ^^^ p.key ≠ 0 ∧ (lk ^^^ p.key).log2 = i := by
  have hp := ((run_tinv K NB lk ops).2 i).place p h
  rw [run_localKey] at hp
  exact bucketIndex_eq_some.1 hp

example : Slot.real ⟨3, 0x150, 2, .notConnected⟩ ∈ demo.buckets.getD 8 [] ∧ (0x50 ^^^ 0x150).log2 = 8 := by
  decide +kernel

/-- **The local node is never stored**, whatever is added (`demoOps` adds peer 4 with the local key). -/
theorem local_never_stored (lk : Nat) (ops : List Op) (i : Nat) (p : Peer)
    (h : Slot.real p ∈ (run K NB lk ops).buckets.getD i []) : p.key ≠ lk := by
  intro e
  have := (bucket_placement lk ops i p h).1
  rw [e, Nat.xor_self] at this
  exact this rfl

example : Op.add 4 0x50 1 .connected 0 ∈ demoOps ∧
    ∀ b ∈ demo.buckets, ∀ s ∈ b, s.key ≠ 0x50 := by
  decide +kernel

/-- **Bucket bound.** After every history there are `NB` buckets and none holds more than `K` nodes
(placeholders included). -/
theorem bucket_bound (lk : Nat) (ops : List Op) :
    (run K NB lk ops).buckets.length = NB ∧
    ∀ i, ((run K NB lk ops).buckets.getD i []).length ≤ K :=
  ⟨(run_tinv K NB lk ops).1, fun i => ((run_tinv K NB lk ops).2 i).len⟩

/-- Non-vacuity: 25 distinct `Connected` peers for bucket 8 fill it to exactly `K`. -/
example :
    ((run K NB 0 ((List.range 25).map fun n => Op.add n (0x100 + n) 1 .connected 0)).buckets.getD 8 []).length = K := by
  decide +kernel

/-- The constants the statement of C14 names: twenty nodes per bucket, 256 buckets (re-checked against
the Rust sources on every run). -/
theorem capacity_is_twenty : K = 20 ∧ NB = 256 := by
  decide

/-- `self.buckets[index]` is never out of range: for 256-bit keys the bucket index is below
`NUM_BUCKETS` (so the model's "do nothing when out of range" is never exercised). -/
theorem index_in_range (lk key : Nat) (hl : lk < 2 ^ 256) (hk : key < 2 ^ 256) (i : Nat)
    (h : bucketIndex (distance lk key) = some i) : i < NB := by
  obtain ⟨hne, rfl⟩ := bucketIndex_eq_some.1 h
  rw [capacity_is_twenty.2]
  exact (Nat.log2_lt hne).2 (Nat.xor_lt_two_pow hl hk)

example : bucketIndex (distance 0 (2 ^ 256 - 1)) = some 255 := by
  decide +kernel

/-- **A connected peer is never displaced.** If after a history the node in slot `si` of bucket `bi` is
a peer whose connection is `Connected` or `CanConnect`, then after any further operation the same slot
still holds the same peer (same id, same key). -/
theorem connected_not_evicted (lk : Nat) (ops : List Op) (op : Op) (bi si : Nat) (p : Peer)
    (h : ((run K NB lk ops).buckets.getD bi [])[si]? = some (.real p))
    (hc : p.conn = .connected ∨ p.conn = .canConnect) :
    ∃ p', ((run K NB lk (ops ++ [op])).buckets.getD bi [])[si]? = some (.real p') ∧
      p'.peer = p.peer ∧ p'.key = p.key := by
  have : run K NB lk (ops ++ [op]) = step K (run K NB lk ops) op := by
    simp [run, List.foldl_append]
  rw [this]
  obtain ⟨p', h', hp, hk, _⟩ := step_keep K _ op h hc
  exact ⟨p', h', hp, hk⟩

/-- Non-vacuity: a full bucket of `Connected` peers plus one `NotConnected`; a newcomer takes the slot of
the `NotConnected` one (slot 19), the connected peer in slot 0 stays. -/
example :
    let fill := ((List.range 19).map fun n => Op.add n (0x100 + n) 1 .connected 0) ++ [.add 19 0x113 1 .notConnected 0]
    ((run K NB 0 fill).buckets.getD 8 [])[0]? = some (.real ⟨0, 0x100, 1, .connected⟩) ∧
    ((run K NB 0 (fill ++ [.add 77 0x1ff 1 .connected 0])).buckets.getD 8 [])[0]? = some (.real ⟨0, 0x100, 1, .connected⟩) ∧
    ((run K NB 0 (fill ++ [.add 77 0x1ff 1 .connected 0])).buckets.getD 8 [])[19]? = some (.real ⟨77, 0x1ff, 1, .connected⟩) := by
  decide +kernel

/-- **Placeholders are invisible.** A placeholder has no address, and whatever `closest` returns is a
stored peer with at least one address (never a placeholder). -/
theorem junk_invisible (lk : Nat) (ops : List Op) (target k : Nat) :
    (∀ key, Slot.hasAddr (.junk key) = false) ∧
    ∀ s ∈ (run K NB lk ops).closest NB target k, ∃ p, s = .real p ∧ p.addrs ≠ 0 := by
  refine ⟨fun _ => rfl, fun s hs => ?_⟩
  have hs' : s ∈ closestAll NB (run K NB lk ops) target := List.mem_of_mem_take hs
  obtain ⟨i, _, hi⟩ := List.mem_flatMap.1 hs'
  have ha := (mem_closestIter.1 hi).2
  obtain ⟨p, rfl⟩ := real_of_hasAddr ha
  exact ⟨p, rfl, by simpa [Slot.hasAddr] using ha⟩

/-- Non-vacuity: `demo` contains a placeholder (bucket 4), and `closest` does not return it. -/
example : Slot.junk 7 ∈ demo.buckets.getD 4 [] ∧
    (demo.closest NB 0x41 60).map Slot.key = [0x51, 0x52, 0x150] := by
  simp only [Table.closest, demo_bucket]
  decide +kernel

/-- **What `ClosestBucketsIter` yields**, for every distance `d` and every number of buckets: the
start index (`log2 d`, or 0 for `d = 0`), then the lower indices whose bit of `d` is 1 in decreasing
order, then 0, then the indices `1 … nb-1` whose bit of `d` is 0 in increasing order. -/
theorem iter_order (nb d : Nat) :
    iterList nb d =
      (bucketIndex d).getD 0 :: ((List.range ((bucketIndex d).getD 0)).reverse.filter fun i => d.testBit i) ++
      0 :: (List.range' 1 (nb - 1)).filter fun i => !d.testBit i := by
  exact iterList_eq nb d

/-- The unit test `closest_buckets_iterator_set_lsb` of routing_table.rs. -/
example : (iterList 256 0b10011011).take 10 = [7, 4, 3, 1, 0, 0, 2, 5, 6, 8] := by
  decide +kernel

/-- **Which buckets are visited.** For a 256-bit distance the iterator yields exactly the indices
below `NB`; it yields one of them twice iff `d` is odd or `d < 2` (it is bucket 0, twice in a row);
after `closest` skips the repeated index every bucket is visited exactly once. -/
theorem iter_visits (d : Nat) (hd : d < 2 ^ 256) :
    (∀ i, i ∈ iterList NB d ↔ i < NB) ∧
    ((iterList NB d).Nodup ↔ ¬ (d % 2 = 1 ∨ d < 2)) ∧
    (visited NB d).Perm (List.range NB) := by
  have hd' : d < 2 ^ NB := by rw [capacity_is_twenty.2]; exact hd
  have hperm := visited_perm (by decide) hd'
  refine ⟨fun i => ?_, ?_, hperm⟩
  · rw [← List.mem_range, ← hperm.mem_iff, mem_visited, iterList_eq, List.mem_append, List.mem_cons]
  · -- bucket 0 is in the head part iff `d = 0` (the start index) or bit 0 of `d` is set
    rw [iterList_nodup_iff, mem_headPart, Nat.testBit_zero, decide_eq_true_eq]
    omega

example : (iterList NB 0b1011).take 5 = [3, 1, 0, 0, 2] ∧ (visited NB 0b1011).take 4 = [3, 1, 0, 2] ∧
    (iterList NB 0b1010).take 4 = [3, 1, 0, 2] := by
  decide +kernel

/-- **Key lemma: earlier-visited buckets hold strictly closer peers.** Let `v` be the list of bucket
indices `closest` visits for a target. If a key belongs (by the placement rule) to the bucket visited
at position `a` and another key to the bucket visited at a later position `b`, then the first key is
strictly closer to the target. Holds for every bit pattern of local key, target and keys. -/
theorem bucket_order (nb lk target pk qk a b : Nat) (hab : a < b)
    (hb : b < (visited nb (distance lk target)).length)
    (hp : bucketIndex (distance lk pk) = some (visited nb (distance lk target))[a])
    (hq : bucketIndex (distance lk qk) = some (visited nb (distance lk target))[b]) :
    distance target pk < distance target qk := by
  exact closer_of_before hp hq
    (List.pairwise_iff_getElem.1 (visited_pairwise nb (distance lk target)) a b (by omega) hb hab)

/-- Non-vacuity: local `0x50`, target `0x41` (distance `0b10001`): bucket 4 is visited first, bucket 0
second; `0x41` (bucket 4) is closer to the target than `0x51` (bucket 0). -/
example : (visited NB (distance 0x50 0x41)).take 3 = [4, 0, 1] ∧
    bucketIndex (distance 0x50 0x41) = some 4 ∧ bucketIndex (distance 0x50 0x51) = some 0 ∧
    distance 0x41 0x41 < distance 0x41 0x51 := by
  decide +kernel

/-- **`closest` is correct** (for the code repaired by
`fix: kademlia: visit each k-bucket once in RoutingTable::closest`). After every history, for every
256-bit local key and target and every `k`, with `stored` = the stored nodes that have a known address:
the result is strictly increasing in distance to the target (sorted, no duplicates), consists of
stored addressed peers, has `min k |stored|` elements, and every stored addressed peer that is left out
is strictly farther from the target than every returned one. -/
theorem closest_correct (lk target : Nat) (hl : lk < 2 ^ 256) (ht : target < 2 ^ 256) (ops : List Op) (k : Nat) :
    let t := run K NB lk ops
    let out := t.closest NB target k
    let stored := t.buckets.flatMap fun b => b.filter Slot.hasAddr
    out.Pairwise (fun x y => distance target x.key < distance target y.key) ∧
    (∀ s ∈ out, s ∈ stored) ∧
    out.length = min k stored.length ∧
    (∀ s ∈ stored, s ∉ out → ∀ r ∈ out, distance target r.key < distance target s.key) := by
  intro t out stored
  have hd : distance t.localKey target < 2 ^ NB := by
    rw [run_localKey, capacity_is_twenty.2]; exact Nat.xor_lt_two_pow hl ht
  exact closest_spec (run_tinv K NB lk ops) (by decide) hd k

/-- Non-vacuity: bucket 0 populated and an odd distance to the target — the case in which the
unrepaired code returned a duplicate; `k = 2` cuts the list. -/
example : (demo.closest NB 0x51 60).map Slot.key = [0x51, 0x52, 0x150] ∧
    (demo.closest NB 0x51 2).map Slot.key = [0x51, 0x52] ∧
    (demo.buckets.flatMap fun b => b.filter Slot.hasAddr).length = 3 := by
  simp only [Table.closest, demo_bucket]
  decide +kernel

/-- **Witness of the repaired defect** (DESIGN §8-l). On the code before the fix (`closestUnfixed`:
every index the iterator yields is visited) the same table and target return the bucket-0 peer twice,
so the full statement was false there; the repaired `closest` returns it once. -/
theorem closest_dup_witness :
    (demo.closestUnfixed NB 0x51 60).map Slot.key = [0x51, 0x51, 0x52, 0x150] ∧
    (demo.closest NB 0x51 60).map Slot.key = [0x51, 0x52, 0x150] := by
  simp only [Table.closest, Table.closestUnfixed, demo_bucket]
  decide +kernel

/-! ## Coordinator level: the event handlers of `Kademlia` on top of the table (`Model/Kad/TableWiring.lean`)

`wrun K NB lk evs` is the coordinator (routing table + the key set of `Kademlia::peers`) after the event history `evs`
(`AddKnownPeer` commands / peers of responses, `ConnectionEstablished`, `ConnectionClosed`, `DialFailure`, inbound
substreams). -/
section Coordinator
open Litep2pVerif.Kad.Wiring

/-- **The coordinator's table is a table history**: its routing table after `evs` is the table model run on the
operations the handlers performed, so every theorem above (placement, bound, `connected_not_evicted`, `closest`)
holds for coordinator histories. -/
theorem coordinator_table_is_table_run (lk : Nat) (evs : List Ev) :
    (wrun K NB lk evs).table = run K NB lk (opsOf K { table := Table.new NB lk } evs) :=
  wrun_table K NB lk evs

example : opsOf K { table := Table.new NB 0 } [.addKnown 1 0x101 1, .inbound 1, .addKnown 1 0x101 1, .closed 1 0x101] =
    [.add 1 0x101 1 .notConnected 0, .add 1 0x101 1 .connected 0, .disconnected 0x101 0] := by decide +kernel

/-- **A connected peer stays `Connected` in the table and keeps its slot.** If after a history the node in slot `si`
of bucket `bi` is a peer marked `Connected`, then after ANY further events — dial failures (also stale ones for that
very peer), connections and disconnections of other peers, adds of other peers filling its bucket past capacity,
inbound substreams — except the close of its own connection and an `add_known_peer` with addresses for it, the same
slot holds the same peer, still `Connected`. (Full statement "a peer whose connection is open is `Connected`": false
for `add_known_peer` on a peer without `PeerContext`, see `add_known_peer_downgrades_witness`; the exact condition is
in `connected_peer_kept_by_event`.) -/
theorem connected_peer_stays_connected_in_table (lk : Nat) (evs more : List Ev) (bi si : Nat) (p : Peer)
    (h : ((wrun K NB lk evs).table.buckets.getD bi [])[si]? = some (.real p)) (hc : p.conn = .connected)
    (hm : ∀ e ∈ more, e.harmless p.key) :
    ∃ p', ((wrun K NB lk (evs ++ more)).table.buckets.getD bi [])[si]? = some (.real p') ∧ p'.peer = p.peer ∧
      p'.key = p.key ∧ p'.conn = .connected := by
  rw [wrun, List.foldl_append]
  exact foldl_wstep_keeps_connected K more _ ⟨p, h, rfl, rfl, hc⟩ hm

/-- Non-vacuity (the seeded history): peer 1 is in the table, connects inbound with nothing pending, a stale
`DialFailure` for it arrives, its bucket fills up with 19 more connected peers, a 21st peer of the bucket is added:
peer 1 is still `Connected` in slot 0 and the newcomer found no slot. -/
example :
    let pre : List Ev := [.addKnown 1 0x101 1, .established 1 0x101 false false]
    let more : List Ev := [.dialFailure 1 0x101 1] ++
      ((List.range 19).flatMap fun n => [Ev.addKnown (n + 2) (0x102 + n) 1, .established (n + 2) (0x102 + n) true false]) ++
      [.addKnown 21 0x1f0 1]
    ((wrun K NB 0 pre).table.buckets.getD 8 [])[0]? = some (.real ⟨1, 0x101, 1, .connected⟩) ∧
    (∀ e ∈ more, e.harmless 0x101) ∧
    ((wrun K NB 0 (pre ++ more)).table.buckets.getD 8 [])[0]? = some (.real ⟨1, 0x101, 2, .connected⟩) ∧
    ((wrun K NB 0 (pre ++ more)).table.buckets.getD 8 []).length = K ∧
    (wrun K NB 0 (pre ++ more)).peers = [] := by
  decide +kernel

/-- **One event, exact condition**: a `Connected` entry loses neither slot nor flag unless the event closes that
peer's connection, or is an `add_known_peer` with addresses for it while the peer has no `PeerContext`
(`peers` is not the set of open connections). -/
theorem connected_peer_kept_by_event (lk : Nat) (evs : List Ev) (e : Ev) (bi si : Nat) (p : Peer)
    (h : ((wrun K NB lk evs).table.buckets.getD bi [])[si]? = some (.real p)) (hc : p.conn = .connected)
    (hclose : ∀ q, e ≠ .closed q p.key)
    (hadd : ∀ q n, e = .addKnown q p.key n → q ∈ (wrun K NB lk evs).peers ∨ n = 0) :
    ∃ p', ((wrun K NB lk (evs ++ [e])).table.buckets.getD bi [])[si]? = some (.real p') ∧ p'.peer = p.peer ∧
      p'.key = p.key ∧ p'.conn = .connected := by
  rw [wrun_append]
  exact wstep_keeps_connected K _ e ⟨p, h, rfl, rfl, hc⟩ hclose hadd

/-- Non-vacuity: after an inbound substream (the peer has a `PeerContext`) `add_known_peer` keeps it `Connected`. -/
example :
    let pre : List Ev := [.addKnown 1 0x101 1, .established 1 0x101 false false, .inbound 1]
    (wrun K NB 0 pre).peers = [1] ∧
    ((wrun K NB 0 (pre ++ [.addKnown 1 0x101 2])).table.buckets.getD 8 [])[0]? = some (.real ⟨1, 0x101, 3, .connected⟩) := by
  decide +kernel

/-- **Witness of the finding** (`known_findings`: add-known-peer-downgrades-open-connection): a peer that connected
while nothing was pending for it (so it has no `PeerContext`) is marked `NotConnected` by an `add_known_peer` for it
although its connection is open, and the next peer of its full bucket takes its slot. -/
theorem add_known_peer_downgrades_witness :
    let pre : List Ev := [.addKnown 1 0x101 1, .established 1 0x101 false false, .addKnown 1 0x101 1] ++
      ((List.range 19).flatMap fun n => [Ev.addKnown (n + 2) (0x102 + n) 1, .established (n + 2) (0x102 + n) true false])
    ((wrun K NB 0 pre).table.buckets.getD 8 [])[0]? = some (.real ⟨1, 0x101, 2, .notConnected⟩) ∧
    ((wrun K NB 0 (pre ++ [.addKnown 21 0x1f0 1])).table.buckets.getD 8 [])[0]? =
      some (.real ⟨21, 0x1f0, 1, .notConnected⟩) := by
  decide +kernel

end Coordinator

#print axioms bucket_placement
#print axioms local_never_stored
#print axioms bucket_bound
#print axioms capacity_is_twenty
#print axioms index_in_range
#print axioms connected_not_evicted
#print axioms junk_invisible
#print axioms iter_order
#print axioms iter_visits
#print axioms bucket_order
#print axioms closest_correct
#print axioms closest_dup_witness
#print axioms coordinator_table_is_table_run
#print axioms connected_peer_stays_connected_in_table
#print axioms connected_peer_kept_by_event
#print axioms add_known_peer_downgrades_witness

end Litep2pVerif.Props.C14
