import Litep2pVerif.Proofs.Kad.Engine
import Litep2pVerif.Proofs.Kad.Values
import Litep2pVerif.Proofs.Kad.EnginePar
import Litep2pVerif.Generated.Consts
/-!
# C15 — Iterative Kademlia lookups terminate with the closest responsive peers

The property theorems, the hypothesis bundles of their statements (`Inputs`, `EngineInputs`, `ValueInputs`,
`ProviderInputs`) and `engine_frontier`, which `engine_no_self` and `engine_no_requery` share. "Every reply order /
failure pattern" is every list of events (`Model/Kad/QueryRun.lean`): calls of `next_action` with a clock reading, responses with arbitrary
peer lists (also from peers that were never asked, also naming the local peer, with duplicates),
failures. Setting of the `FindNodeContext` theorems (`find`, `put record`, `add provider` lookups):
`d` is the distance of a peer to the target (the peer lists carry it: `kp.dist = d kp.peer`), `U`
a finite universe containing every peer that is ever named, the initial candidates do not contain
the local peer. Only the theorems that speak about time-outs (`terminates`, `parallelism_bound`,
`engine_parallelism_bound`) or use the response window (`success_*`) assume that clock readings never go back
(`monotoneFrom 0 evs`, at engine level `eMonotoneFrom T ops`);
`no_self`, `no_requery` and their value / provider / engine versions hold for arbitrary clock
readings. `InjOn d U`: distinct peers have distinct distances to the target (SHA-256 keys differ).
-/
namespace Litep2pVerif.Props.C15
open Litep2pVerif Litep2pVerif.Kad.Query

structure Inputs (d : Nat → Nat) (U : List Nat) (l : Nat) (inPeers : List KPeer) (evs : List Ev) : Prop where
  candsOk : ∀ kp ∈ inPeers, kp.dist = d kp.peer ∧ kp.peer ∈ U ∧ kp.peer ≠ l
  evsOk : ∀ e ∈ evs, e.ok d U

/-- **No self.** The local peer is never sent a request — for every event list and arbitrary clock
readings. -/
theorem no_self (d : Nat → Nat) (U : List Nat) (l r a q T : Nat) (inPeers : List KPeer) (evs : List Ev)
    (h : Inputs d U l inPeers evs) :
    l ∉ sentPeers ((FindNode.new l r a q T inPeers).run evs).2 :=
  FindNode.run_eq evs _ ▸ (lookup_run (FindNode.sim d U) _ l inPeers rfl h.candsOk evs h.evsOk).2.1

/-- **No re-query.** Every peer is sent at most one request by a lookup — for every event list and
arbitrary clock readings. -/
theorem no_requery (d : Nat → Nat) (U : List Nat) (l r a q T : Nat) (inPeers : List KPeer) (evs : List Ev)
    (h : Inputs d U l inPeers evs) :
    (sentPeers ((FindNode.new l r a q T inPeers).run evs).2).Nodup :=
  FindNode.run_eq evs _ ▸ (lookup_run (FindNode.sim d U) _ l inPeers rfl h.candsOk evs h.evsOk).1

/-- A lying network: peer 2 answers with the local peer 0, itself, a duplicate and peer 1 that is in
flight; only the new peer 3 is contacted afterwards. -/
example : sentPeers ((FindNode.new 0 20 3 7 10 [⟨1, 5⟩, ⟨2, 3⟩]).run
    [.next 0, .next 0, .resp 2 [⟨0, 9⟩, ⟨2, 3⟩, ⟨3, 1⟩, ⟨3, 1⟩, ⟨1, 5⟩], .next 0, .next 0]).2 = [2, 1, 3] := by
  decide

/-- The clock jumps back and forth (request 2 goes stale at 50 and is fresh again at 3): still no peer
is asked twice. -/
example : sentPeers ((FindNode.new 0 20 1 7 10 [⟨1, 5⟩, ⟨2, 3⟩, ⟨3, 4⟩]).run
    [.next 9, .next 50, .next 3, .next 60, .fail 2, .next 0, .next 100]).2 = [2, 3, 1] := by
  decide

/-- **Termination.** With parallelism at least 1, over a universe of `|U|` peers a lookup makes at
most `2|U|` productive steps (a request sent, or an outstanding request answered or failed) in any
event sequence, and whenever no request is outstanding the next call of `next_action` does not
return `None`: it sends a request (productive) or emits the terminal action. So if every request is
eventually answered or failed, the terminal action comes after at most `2|U| + 1` productive
steps. -/
theorem terminates (d : Nat → Nat) (U : List Nat) (l r a q T : Nat) (inPeers : List KPeer) (evs : List Ev)
    (h : Inputs d U l inPeers evs) (hclk : monotoneFrom 0 evs) (ha : 1 ≤ a) :
    (FindNode.new l r a q T inPeers).productiveCount evs ≤ 2 * U.length ∧
    ∀ now, lastNow 0 evs ≤ now → ((FindNode.new l r a q T inPeers).run evs).1.pending = [] →
      ((((FindNode.new l r a q T inPeers).run evs).1).nextAction now).2 ≠ none := by
  obtain ⟨A', h1, _, h3⟩ := (FInv.init l r a q T inPeers h.candsOk).run evs h.evsOk hclk
  refine ⟨?_, ?_⟩
  · have := (lookup_run (FindNode.sim d U) (FindNode.new l r a q T inPeers) l inPeers rfl h.candsOk evs
      h.evsOk).2.2.2.2.1
    rw [← FindNode.productiveCount_eq] at this
    omega
  · intro now hnow hp hnone
    obtain ⟨_, _, _, n4⟩ := h1.next now hnow
    rw [hnone] at n4
    exact n4.2.2.2.2.1 (by rw [h3.2.2.1]; exact ha) hp

/-- Three peers, everybody answers: 3 requests + 3 answers = 6 = 2·|U| productive steps, then the
terminal action. -/
example : (FindNode.new 0 20 1 7 10 [⟨1, 5⟩]).productiveCount
      [.next 0, .resp 1 [⟨2, 4⟩, ⟨3, 6⟩], .next 0, .resp 2 [], .next 0, .resp 3 [], .next 0] = 6 ∧
    ((FindNode.new 0 20 1 7 10 [⟨1, 5⟩]).run
      [.next 0, .resp 1 [⟨2, 4⟩, ⟨3, 6⟩], .next 0, .resp 2 [], .next 0, .resp 3 [], .next 0]).2 =
      [.send 7 1, .send 7 2, .send 7 3, .succeeded 7] := by
  decide

/-- With parallelism 0 a lookup with a candidate never sends a request and never terminates. -/
theorem parallelism_zero_stuck (l r q T : Nat) (inPeers : List KPeer) (evs : List Ev)
    (hc : initCandidates inPeers ≠ []) :
    ((FindNode.new l r 0 q T inPeers).run evs).2 = [] := by
  rw [FindNode.run_eq, runG_fixed (FindNode.step_stuck _ rfl hc rfl rfl)]

example : ((FindNode.new 0 20 0 7 10 [⟨1, 5⟩]).run [.next 0, .next 11, .fail 1, .next 50]).2 = [] := by decide

/-- **Parallelism bound** (full strength, holds for the repaired accounting): at every moment the
number of unanswered requests that are not older than the peer timeout is at most the parallelism
factor. (Before the fix `pending_responses` was decremented again on every `next_action` call for
every stale request; see `known_findings.d/C15.json`.) -/
theorem parallelism_bound (d : Nat → Nat) (U : List Nat) (l r a q T : Nat) (inPeers : List KPeer)
    (evs : List Ev) (h : Inputs d U l inPeers evs) (hclk : monotoneFrom 0 evs) (now : Nat)
    (hnow : lastNow 0 evs ≤ now) :
    (((FindNode.new l r a q T inPeers).run evs).1.fresh now).length ≤ a := by
  obtain ⟨A', h1, _, h3⟩ := (FInv.init l r a q T inPeers h.candsOk).run evs h.evsOk hclk
  have := h1.c.fresh_le now hnow
  rw [h3.2.2.1] at this
  exact this

/-- The scenario of DESIGN §8-m (parallelism 3, one request goes stale, `next_action` polled ten
times): exactly 3 fresh requests are in flight, 4 requests in total. -/
example :
    let s := ((FindNode.new 0 20 3 7 3 ((List.range 12).map fun i => ⟨i + 1, i + 1⟩)).run
      (.next 0 :: List.replicate 10 (.next 4))).1
    (s.fresh 4).length = 3 ∧ s.pending.length = 4 ∧ s.pendingResponses = 3 := by
  decide

/-- **Success: sorted and bounded.** When `next_action` reports success, the reported peers
(`responses`, as `on_query_succeeded` reads them) are strictly sorted by distance and at most the
replication factor many. -/
theorem success_sorted_bounded (d : Nat → Nat) (U : List Nat) (l r a q T : Nat) (inPeers : List KPeer)
    (evs : List Ev) (h : Inputs d U l inPeers evs) (hclk : monotoneFrom 0 evs) (now : Nat)
    (hnow : lastNow 0 evs ≤ now) (q' : Nat)
    (_hs : ((((FindNode.new l r a q T inPeers).run evs).1).nextAction now).2 = some (.succeeded q')) :
    let reported := dvalues ((((FindNode.new l r a q T inPeers).run evs).1).nextAction now).1.responses
    reported.Pairwise (fun x y => x.dist < y.dist) ∧ reported.length ≤ r := by
  obtain ⟨A', h1, _, h3⟩ := (FInv.init l r a q T inPeers h.candsOk).run evs h.evsOk hclk
  obtain ⟨n1, n2, _, _⟩ := h1.next now hnow
  exact ⟨n1.reported.1, Nat.le_trans n1.reported.2 (Nat.le_of_eq (n2.2.1.trans h3.2.1))⟩

/-- **Success: answered.** Every reported peer is a peer whose response was accepted. -/
theorem success_answered (d : Nat → Nat) (U : List Nat) (l r a q T : Nat) (inPeers : List KPeer)
    (evs : List Ev) (h : Inputs d U l inPeers evs) (hclk : monotoneFrom 0 evs) (now : Nat)
    (hnow : lastNow 0 evs ≤ now) :
    ∀ kp ∈ dvalues ((((FindNode.new l r a q T inPeers).run evs).1).nextAction now).1.responses,
      kp.peer ∈ (FindNode.new l r a q T inPeers).answered evs := by
  obtain ⟨A', h1, h2, _⟩ := (FInv.init l r a q T inPeers h.candsOk).run evs h.evsOk hclk
  obtain ⟨n1, _⟩ := h1.next now hnow
  intro kp hkp
  obtain ⟨x, hx, rfl⟩ := List.mem_map.1 hkp
  rcases h2 _ (n1.rkey x hx).2 with h | h
  · simp at h
  · exact h

/-- **Everything learned is tracked** (the invariant behind the closest-set condition; arbitrary
clock readings). Every peer the lookup ever learned of — an initial candidate or a peer named in an
accepted response, except the local node — is a candidate, an outstanding request, or a peer the
lookup is done with. Distances are injective on the universe (two peers at the same distance would
share one slot of the candidate map). -/
theorem learned_tracked (d : Nat → Nat) (U : List Nat) (l r a q T : Nat) (inPeers : List KPeer) (evs : List Ev)
    (h : Inputs d U l inPeers evs) (hinj : InjOn d U) :
    ∀ p ∈ inPeers.map (·.peer) ++ (FindNode.new l r a q T inPeers).learned evs, p ≠ l →
      p ∈ (dvalues ((FindNode.new l r a q T inPeers).run evs).1.candidates).map (·.peer) ∨
      p ∈ pendPeers ((FindNode.new l r a q T inPeers).run evs).1.pending ∨
      p ∈ ((FindNode.new l r a q T inPeers).run evs).1.queried := by
  obtain ⟨_, _, _, _, _, k6⟩ :=
    lookup_run (FindNode.sim d U) (FindNode.new l r a q T inPeers) l inPeers rfl h.candsOk evs h.evsOk
  rw [← FindNode.run_eq, ← FindNode.learned_eq] at k6
  intro p hp hpl
  have := k6 hinj p hp hpl
  simpa [View.knows, FindNode.view, candPeers, dvalues, List.map_map] using this

/-- Peer 1 names 2, 3 and the local peer 0; 2 is asked next, 3 stays a candidate, 1 is done. -/
example :
    let s0 := FindNode.new 0 20 1 7 10 [⟨1, 5⟩]
    let evs : List Ev := [.next 0, .resp 1 [⟨2, 3⟩, ⟨3, 9⟩, ⟨0, 1⟩], .next 0]
    s0.learned evs = [2, 3, 0] ∧ (dvalues (s0.run evs).1.candidates).map (·.peer) = [3] ∧
      pendPeers (s0.run evs).1.pending = [2] ∧ (s0.run evs).1.queried = [1] := by
  decide

/-- **Success: everything closer was contacted** (full statement). When `next_action` reports
success, every peer the lookup ever learned of — the initial candidates and every peer named in an
accepted response, except the local node — that is strictly closer to the target than the furthest
reported peer has been contacted: it is in `pending` (asked, no answer yet) or in `queried`
(answered or failed). Distances are injective on the universe. -/
theorem success_closer_contacted (d : Nat → Nat) (U : List Nat) (l r a q T : Nat) (inPeers : List KPeer)
    (evs : List Ev) (h : Inputs d U l inPeers evs) (hclk : monotoneFrom 0 evs) (hinj : InjOn d U) (now : Nat)
    (hnow : lastNow 0 evs ≤ now) (q' : Nat)
    (hs : ((((FindNode.new l r a q T inPeers).run evs).1).nextAction now).2 = some (.succeeded q')) :
    ∀ far ∈ (dvalues ((FindNode.new l r a q T inPeers).run evs).1.responses).getLast?,
      ∀ p ∈ inPeers.map (·.peer) ++ (FindNode.new l r a q T inPeers).learned evs, p ≠ l → d p < far.dist →
        p ∈ pendPeers ((FindNode.new l r a q T inPeers).run evs).1.pending ∨
        p ∈ ((FindNode.new l r a q T inPeers).run evs).1.queried := by
  obtain ⟨A', h1, _⟩ := (FInv.init l r a q T inPeers h.candsOk).run evs h.evsOk hclk
  obtain ⟨_, _, _, n4⟩ := h1.next now hnow
  rw [hs] at n4
  simp only [NextSpec] at n4
  obtain ⟨_, _, k3, _, _, k6⟩ :=
    lookup_run (FindNode.sim d U) (FindNode.new l r a q T inPeers) l inPeers rfl h.candsOk evs h.evsOk
  rw [← FindNode.run_eq, ← FindNode.learned_eq] at k6
  rw [← FindNode.run_eq] at k3
  intro far hfar p hp hpl hlt
  simp only [dvalues, List.getLast?_map, Option.mem_def, Option.map_eq_some_iff] at hfar
  obtain ⟨y, hy, rfl⟩ := hfar
  have hk := h1.rkey y (List.mem_of_getLast? hy)
  exact View.knows_contacted k3 (k6 hinj p hp hpl)
    (fun c hc => by have := n4.2.2.2.2.2 y hy c hc; rw [← hk.1]; exact this) hlt

/-- Replication 1: peer 1 (distance 5) answers and names the closer peer 2 (distance 3) and the
farther peer 3; the lookup goes on, and succeeds with peer 2 only once 2 has answered; the learned
peers are 1, 2, 3, of which 1 and 2 were contacted and 3 (not closer than 2) is still a candidate. -/
example :
    let s := ((FindNode.new 0 1 1 7 10 [⟨1, 5⟩]).run [.next 0, .resp 1 [⟨2, 3⟩, ⟨3, 9⟩], .next 0, .resp 2 []]).1
    (s.nextAction 0).2 = some (.succeeded 7) ∧ dvalues s.responses = [⟨2, 3⟩] ∧
      dvalues s.candidates = [⟨3, 9⟩] ∧ s.queried = [2, 1] ∧
      (FindNode.new 0 1 1 7 10 [⟨1, 5⟩]).learned [.next 0, .resp 1 [⟨2, 3⟩, ⟨3, 9⟩], .next 0, .resp 2 []] = [2, 3] ∧
      (FindNode.new 0 1 1 7 10 [⟨1, 5⟩]).answered [.next 0, .resp 1 [⟨2, 3⟩, ⟨3, 9⟩], .next 0, .resp 2 []] = [1, 2] := by
  decide

/-- Without injectivity the statement is false of the code: peers 2 and 3 at the same distance share
one slot of the `BTreeMap`, peer 2 is forgotten and never contacted although it is closer than the
reported peer 1. -/
theorem success_closer_contacted_needs_injectivity :
    let s0 := FindNode.new 0 1 1 7 10 [⟨1, 5⟩, ⟨2, 3⟩, ⟨3, 3⟩]
    let evs : List Ev := [.next 0, .fail 3, .next 0, .resp 1 []]
    ((s0.run evs).1.nextAction 0).2 = some (.succeeded 7) ∧ dvalues (s0.run evs).1.responses = [⟨1, 5⟩] ∧
      2 ∉ pendPeers (s0.run evs).1.pending ∧ 2 ∉ (s0.run evs).1.queried := by
  decide

/-- **At most one terminal action** (engine level, all query kinds). As long as query id `q` is not
started again, the engine emits at most one terminal action about `q`; a terminal action removes
the query, and about a query that is not active no action at all is emitted. The engine never hits
`expect("query to exist")`. -/
theorem terminal_once (e : Engine) (hk : KeyOk e) (q : Nat) (ops : List EOp)
    (hst : ∀ op ∈ ops, op.starts ≠ some q) :
    terminalCount q (e.run ops).2 ≤ 1 ∧
    (q ∉ keys e.queries → actionCount q (e.run ops).2 = 0) ∧
    (∀ op a, (e.step op).2 = .act a → a.terminal = true → a.query ∉ keys (e.step op).1.queries) ∧
    (∀ op, (e.step op).2 ≠ .bug) := by
  refine ⟨run_terminal_le q ops e hk hst, fun hq => (run_absent q ops e hk (qLookup_eq_none_iff.2 hq) hst).1,
    fun op a ha ht => qLookup_eq_none_iff.1 ?_, fun op => (step_id e op hk).2.1⟩
  cases hs : op.starts with
  | some q' => obtain ⟨_, _, he⟩ := step_start (e := e) hs; rw [he] at ha; cases ha
  | none =>
    exact ((step_id e op hk).2.2 a.query (by rw [hs]; nofun)).terminal_gone ha rfl ht

/-- Two concurrent lookups in one engine, visited in either order; query 1 fails (its only peer
fails), later events about it are ignored. -/
example :
    let e : Engine := { localPeer := 0, repl := 2, par := 1, peerTimeout := 10 }
    KeyOk e ∧
    (e.run [.startFindNode 1 [⟨5, 2⟩], .startGetRecord 2 [⟨6, 1⟩] .one false, .next 0 [2, 1], .next 0 [1, 2],
      .responseFailure 1 5, .next 0 [1, 2], .responseFailure 1 5, .next 0 [2], .next 0 [1, 2]]).2 =
      [.none, .none, .act (.send 2 6), .act (.send 1 5), .none, .act (.failed 1), .none, .none, .none] := by
  refine ⟨by intro x hx; simp at hx, by decide⟩

/-- The hypotheses of the per-query statements at engine level: in an arbitrary engine state `e`
(other queries active in any state, possibly an older query under the same id `q`), `start` starts an
iterative lookup (find node, put record, add provider, get record, get providers) under id `q` with
initial candidates `inPeers`; afterwards comes an arbitrary list `ops` of engine operations — starts,
responses, failures and `next_action` calls for any ids, active or not, `next_action` visiting the
queries in any order — in which `q` is not started again and the responses routed to `q` carry true
distances (nothing is assumed about the messages for other queries). `d` is the distance to the
target of `q`. A restart of `q` begins a new lookup, to which the statement applies again. -/
structure EngineInputs (d : Nat → Nat) (U : List Nat) (e : Engine) (q : Nat) (inPeers : List KPeer)
    (start : EOp) (ops : List EOp) : Prop where
  keyOk : KeyOk e
  starts : start.startsLookup q inPeers
  candsOk : ∀ kp ∈ inPeers, kp.dist = d kp.peer ∧ kp.peer ∈ U ∧ kp.peer ≠ e.localPeer
  noRestart : ∀ op ∈ ops, op.starts ≠ some q
  opsOk : ∀ op ∈ ops, op.okFor d U q

theorem engine_frontier {d : Nat → Nat} {U : List Nat} {e : Engine} {q : Nat} {inPeers : List KPeer}
    {start : EOp} {ops : List EOp} (h : EngineInputs d U e q inPeers start ops) :
    (sentTo q ((e.step start).1.run ops).2).Nodup ∧
    ∀ c ∈ sentTo q ((e.step start).1.run ops).2, c ≠ e.localPeer := by
  obtain ⟨t, h1, hv⟩ := start_view e q inPeers start h.starts
  obtain ⟨r1, r2, _⟩ := run_view d U e.localPeer q ops (e.step start).1 (step_id e start h.keyOk).1
    h.noRestart h.opsOk
    (fun t2 ht2 => by rw [h1] at ht2; cases ht2; rw [hv]; exact ⟨Frontier.init inPeers h.candsOk, rfl⟩)
  exact ⟨r1, fun c hc => (r2 c hc).1⟩

/-- **No self, per query id at engine level**: over every interleaving, no request of query `q` goes
to the local peer (arbitrary clock readings). -/
theorem engine_no_self (d : Nat → Nat) (U : List Nat) (e : Engine) (q : Nat) (inPeers : List KPeer)
    (start : EOp) (ops : List EOp) (h : EngineInputs d U e q inPeers start ops) :
    e.localPeer ∉ sentTo q ((e.step start).1.run ops).2 :=
  fun hm => (engine_frontier h).2 _ hm rfl

/-- **No re-query, per query id at engine level**: over every interleaving, query `q` sends at most
one request to every peer (arbitrary clock readings). -/
theorem engine_no_requery (d : Nat → Nat) (U : List Nat) (e : Engine) (q : Nat) (inPeers : List KPeer)
    (start : EOp) (ops : List EOp) (h : EngineInputs d U e q inPeers start ops) :
    (sentTo q ((e.step start).1.run ops).2).Nodup :=
  (engine_frontier h).1

/-- **Parallelism bound, per query id at engine level**: with monotone clock readings, at every
moment query `q` (if still active) has at most `parallelism` requests in flight (unanswered and not
older than the peer timeout; every unanswered request for value and provider lookups). -/
theorem engine_parallelism_bound (d : Nat → Nat) (U : List Nat) (e : Engine) (q : Nat) (inPeers : List KPeer)
    (start : EOp) (ops : List EOp) (h : EngineInputs d U e q inPeers start ops) (T : Nat)
    (hclk : eMonotoneFrom T ops) (now : Nat) (hnow : eLastNow T ops ≤ now) :
    ∀ t, qLookup q ((e.step start).1.run ops).1.queries = some t → t.inFlight now ≤ e.par := by
  intro t ht
  exact (run_par d U e.par q ops T (e.step start).1 (step_id e start h.keyOk).1 h.noRestart h.opsOk hclk
    (start_par d U T e q inPeers start h.starts h.candsOk) t ht).inFlight_le now hnow

/-- Two concurrent lookups with overlapping peers, a lying peer, a response for an id that is not
active, a response of the wrong kind, and query 2 restarted in the middle of query 1: query 1 asks
every peer once and never the local peer 0; 1 request of query 1 is in flight at the end. -/
example :
    let e : Engine := { localPeer := 0, repl := 2, par := 2, peerTimeout := 10 }
    let ops : List EOp := [.startGetRecord 2 [⟨5, 9⟩, ⟨6, 1⟩] .one false, .next 0 [2, 1], .next 0 [2, 1], .next 1 [1, 2],
      .response 1 5 (.findNode [⟨0, 7⟩, ⟨5, 2⟩, ⟨6, 4⟩, ⟨8, 1⟩]), .response 9 5 (.findNode []), .next 1 [1, 1],
      .startGetRecord 2 [⟨5, 9⟩] .one false, .next 2 [2, 1], .response 1 8 .putValue, .next 3 [2, 1], .next 3 [1]]
    KeyOk e ∧
    sentTo 1 ((e.step (.startFindNode 1 [⟨5, 2⟩])).1.run ops).2 = [5, 8, 6] ∧
    sentTo 2 ((e.step (.startFindNode 1 [⟨5, 2⟩])).1.run ops).2 = [6, 5, 5] ∧
    (qLookup 1 ((e.step (.startFindNode 1 [⟨5, 2⟩])).1.run ops).1.queries).map (·.inFlight 3) = some 1 := by
  refine ⟨by intro x hx; simp at hx, by decide, by decide, by decide⟩

/-- The default parallelism factor (regenerated from `kademlia/mod.rs`) satisfies the hypothesis of
`terminates`. -/
theorem default_parallelism_pos : 1 ≤ Consts.KAD_PARALLELISM_FACTOR := by decide

/-- **Value and provider lookups keep at most `parallelism` requests in flight** (they have no
timeouts: every unanswered request counts). -/
theorem lookup_parallelism_bound (l r a q : Nat) (quorum : Quorum) (loc : Bool) (known : List Prov)
    (inPeers : List KPeer) (gr : List GREv) (gp : List GPEv) :
    ((GetRecord.new l r a q quorum loc inPeers).run gr).1.pending.length ≤ a ∧
    ((GetProviders.new l a q known inPeers).run gp).1.pending.length ≤ a := by
  exact ⟨(GetRecord.run_pending_le gr _ (Nat.zero_le _)).1, (GetProviders.run_pending_le gp _ (Nat.zero_le _)).1⟩

example : ((GetRecord.new 0 20 2 7 .all false [⟨1, 5⟩, ⟨2, 3⟩, ⟨3, 4⟩]).run [.next, .next, .next]).2 =
    [.send 7 2, .send 7 3] := by decide

structure ValueInputs (d : Nat → Nat) (U : List Nat) (l : Nat) (inPeers : List KPeer) (evs : List GREv) :
    Prop where
  candsOk : ∀ kp ∈ inPeers, kp.dist = d kp.peer ∧ kp.peer ∈ U ∧ kp.peer ≠ l
  evsOk : ∀ e ∈ evs, e.ok d U

structure ProviderInputs (d : Nat → Nat) (U : List Nat) (l : Nat) (inPeers : List KPeer) (evs : List GPEv) :
    Prop where
  candsOk : ∀ kp ∈ inPeers, kp.dist = d kp.peer ∧ kp.peer ∈ U ∧ kp.peer ≠ l
  evsOk : ∀ e ∈ evs, e.ok d U

/-- **Value lookups: no self.** -/
theorem value_no_self (d : Nat → Nat) (U : List Nat) (l r a q : Nat) (quorum : Quorum) (loc : Bool)
    (inPeers : List KPeer) (evs : List GREv) (h : ValueInputs d U l inPeers evs) :
    l ∉ sentPeers ((GetRecord.new l r a q quorum loc inPeers).run evs).2 :=
  GetRecord.run_eq evs _ ▸ (lookup_run (GetRecord.sim d U) _ l inPeers rfl h.candsOk evs h.evsOk).2.1

/-- **Value lookups: no re-query.** -/
theorem value_no_requery (d : Nat → Nat) (U : List Nat) (l r a q : Nat) (quorum : Quorum) (loc : Bool)
    (inPeers : List KPeer) (evs : List GREv) (h : ValueInputs d U l inPeers evs) :
    (sentPeers ((GetRecord.new l r a q quorum loc inPeers).run evs).2).Nodup :=
  GetRecord.run_eq evs _ ▸ (lookup_run (GetRecord.sim d U) _ l inPeers rfl h.candsOk evs h.evsOk).1

/-- A lying network for a value lookup: peer 2 names the local peer, itself, peer 1 (in flight) and
the new peer 3 twice. -/
example : sentPeers ((GetRecord.new 0 20 3 7 .all false [⟨1, 5⟩, ⟨2, 3⟩]).run
    [.next, .next, .resp 2 none [⟨0, 9⟩, ⟨2, 3⟩, ⟨3, 1⟩, ⟨3, 1⟩, ⟨1, 5⟩], .next, .next]).2 = [2, 1, 3] := by
  decide

/-- **Value lookups terminate.** With parallelism at least 1, over a universe of `|U|` peers a value
lookup makes at most `3|U|` productive steps (a request sent, an outstanding request answered or
failed, a partial result handed out) in any event sequence, and whenever no request is outstanding
the next call of `next_action` does not return `None`: it hands out a record, sends a request
(both productive) or emits the terminal action. -/
theorem value_terminates (d : Nat → Nat) (U : List Nat) (l r a q : Nat) (quorum : Quorum) (loc : Bool)
    (inPeers : List KPeer) (evs : List GREv) (h : ValueInputs d U l inPeers evs) (ha : 1 ≤ a) :
    (GetRecord.new l r a q quorum loc inPeers).productiveCount evs ≤ 3 * U.length ∧
    (((GetRecord.new l r a q quorum loc inPeers).run evs).1.pending = [] →
      ((GetRecord.new l r a q quorum loc inPeers).run evs).1.nextAction.2 ≠ none) := by
  refine ⟨?_, fun hp => GetRecord.next_ne_none _ hp (by rw [(GetRecord.run_pending_le evs _ (Nat.zero_le _)).2]; exact ha)⟩
  have hfr : (GetRecord.new l r a q quorum loc inPeers).view.Fr d U := Frontier.init inPeers h.candsOk
  have := GetRecord.run_w3 evs _ hfr h.evsOk
  have h0 := View.w3_le U (GetRecord.new l r a q quorum loc inPeers).view rfl
  have h1 : (GetRecord.new l r a q quorum loc inPeers).records.length = 0 := rfl
  omega

/-- Two peers, both answer with a record: 2 requests + 2 answers + 2 partial results = 6 = 3·|U|
productive steps, then the terminal action. -/
example : (GetRecord.new 0 20 1 7 .all false [⟨1, 5⟩]).productiveCount
      [.next, .resp 1 (some (8, false)) [⟨2, 4⟩], .next, .next, .resp 2 (some (8, false)) [], .next, .next] = 6 ∧
    ((GetRecord.new 0 20 1 7 .all false [⟨1, 5⟩]).run
      [.next, .resp 1 (some (8, false)) [⟨2, 4⟩], .next, .next, .resp 2 (some (8, false)) [], .next, .next]).2 =
      [.send 7 1, .partialRecord 7 1 8, .send 7 2, .partialRecord 7 2 8, .succeeded 7] := by
  decide

/-- **Value lookups: what the terminal action means.** A value lookup has no response window, so
"closer than the furthest reported" has no meaning; what holds instead: when the terminal action is
emitted, either the quorum is met, or every peer the lookup ever learned of (except the local node)
has been contacted *and* has answered or failed (is in `queried`). A failure is only reported in the
second case. -/
theorem value_done_means (d : Nat → Nat) (U : List Nat) (l r a q : Nat) (quorum : Quorum) (loc : Bool)
    (inPeers : List KPeer) (evs : List GREv) (h : ValueInputs d U l inPeers evs) (hinj : InjOn d U) (q' : Nat) :
    let s := ((GetRecord.new l r a q quorum loc inPeers).run evs).1
    let allDone := ∀ p ∈ inPeers.map (·.peer) ++ (GetRecord.new l r a q quorum loc inPeers).learned evs,
      p ≠ l → p ∈ s.queried
    (s.nextAction.2 = some (.succeeded q') → s.sufficient s.foundRecords = true ∨ allDone) ∧
    (s.nextAction.2 = some (.failed q') → allDone) := by
  intro s allDone
  obtain ⟨_, _, _, _, _, k6⟩ :=
    lookup_run (GetRecord.sim d U) (GetRecord.new l r a q quorum loc inPeers) l inPeers rfl h.candsOk evs h.evsOk
  rw [← GetRecord.run_eq, ← GetRecord.learned_eq] at k6
  have key : s.pending = [] ∧ s.candidates = [] → allDone := fun ⟨hp, hc⟩ p hpm hpl =>
    View.knows_queried (k6 hinj p hpm hpl) hc (congrArg kpPeers hp)
  exact ⟨fun hs => ((GetRecord.terminal_means s q').1 hs).imp_right key,
    fun hf => key ((GetRecord.terminal_means s q').2 hf)⟩

/-- Quorum `All` with replication 20 is never met by two peers: the lookup ends when both learned
peers have answered. -/
example :
    let s0 := GetRecord.new 0 20 1 7 .all false [⟨1, 5⟩]
    let evs : List GREv := [.next, .resp 1 none [⟨2, 4⟩, ⟨0, 1⟩], .next, .fail 2]
    (s0.run evs).1.nextAction.2 = some (.failed 7) ∧ s0.learned evs = [2, 0] ∧ (s0.run evs).1.queried = [2, 1] := by
  decide

/-- **Provider lookups: no self.** -/
theorem provider_no_self (d : Nat → Nat) (U : List Nat) (l a q : Nat) (known : List Prov)
    (inPeers : List KPeer) (evs : List GPEv) (h : ProviderInputs d U l inPeers evs) :
    l ∉ sentPeers ((GetProviders.new l a q known inPeers).run evs).2 :=
  GetProviders.run_eq evs _ ▸ (lookup_run (GetProviders.sim d U) _ l inPeers rfl h.candsOk evs h.evsOk).2.1

/-- **Provider lookups: no re-query.** -/
theorem provider_no_requery (d : Nat → Nat) (U : List Nat) (l a q : Nat) (known : List Prov)
    (inPeers : List KPeer) (evs : List GPEv) (h : ProviderInputs d U l inPeers evs) :
    (sentPeers ((GetProviders.new l a q known inPeers).run evs).2).Nodup :=
  GetProviders.run_eq evs _ ▸ (lookup_run (GetProviders.sim d U) _ l inPeers rfl h.candsOk evs h.evsOk).1

example : sentPeers ((GetProviders.new 0 3 7 [] [⟨1, 5⟩, ⟨2, 3⟩]).run
    [.next, .next, .resp 2 [] [⟨0, 9⟩, ⟨2, 3⟩, ⟨3, 1⟩, ⟨3, 1⟩, ⟨1, 5⟩], .next, .next]).2 = [2, 1, 3] := by
  decide

/-- **Provider lookups terminate.** With parallelism at least 1 a provider lookup makes at most
`2|U|` productive steps (a request sent, or an outstanding request answered or failed), and whenever
no request is outstanding the next call of `next_action` sends a request or emits the terminal
action. -/
theorem provider_terminates (d : Nat → Nat) (U : List Nat) (l a q : Nat) (known : List Prov)
    (inPeers : List KPeer) (evs : List GPEv) (h : ProviderInputs d U l inPeers evs) (ha : 1 ≤ a) :
    (GetProviders.new l a q known inPeers).productiveCount evs ≤ 2 * U.length ∧
    (((GetProviders.new l a q known inPeers).run evs).1.pending = [] →
      ((GetProviders.new l a q known inPeers).run evs).1.nextAction.2 ≠ none) := by
  refine ⟨?_, fun hp => GetProviders.next_ne_none _ hp (by rw [(GetProviders.run_pending_le evs _ (Nat.zero_le _)).2]; exact ha)⟩
  obtain ⟨_, _, _, _, k5, _⟩ :=
    lookup_run (GetProviders.sim d U) (GetProviders.new l a q known inPeers) l inPeers rfl h.candsOk evs h.evsOk
  rw [← GetProviders.productiveCount_eq] at k5
  omega

example : (GetProviders.new 0 1 7 [] [⟨1, 5⟩]).productiveCount
      [.next, .resp 1 [⟨4, 9, [1]⟩] [⟨2, 4⟩], .next, .fail 2, .next] = 4 ∧
    ((GetProviders.new 0 1 7 [] [⟨1, 5⟩]).run
      [.next, .resp 1 [⟨4, 9, [1]⟩] [⟨2, 4⟩], .next, .fail 2, .next]).2 = [.send 7 1, .send 7 2, .succeeded 7] := by
  decide

/-- **Provider lookups are exhaustive.** A provider lookup has no early exit: when it emits its
terminal action, every peer it ever learned of (except the local node) has been contacted and has
answered or failed — in particular every learned peer closer than any reported one. -/
theorem provider_all_contacted (d : Nat → Nat) (U : List Nat) (l a q : Nat) (known : List Prov)
    (inPeers : List KPeer) (evs : List GPEv) (h : ProviderInputs d U l inPeers evs) (hinj : InjOn d U) (q' : Nat)
    (hs : ((GetProviders.new l a q known inPeers).run evs).1.nextAction.2 = some (.succeeded q') ∨
      ((GetProviders.new l a q known inPeers).run evs).1.nextAction.2 = some (.failed q')) :
    ∀ p ∈ inPeers.map (·.peer) ++ (GetProviders.new l a q known inPeers).learned evs, p ≠ l →
      p ∈ ((GetProviders.new l a q known inPeers).run evs).1.queried := by
  obtain ⟨_, _, _, _, _, k6⟩ :=
    lookup_run (GetProviders.sim d U) (GetProviders.new l a q known inPeers) l inPeers rfl h.candsOk evs h.evsOk
  rw [← GetProviders.run_eq, ← GetProviders.learned_eq] at k6
  obtain ⟨hp, hc⟩ := GetProviders.terminal_means _ q' hs
  exact fun p hpm hpl => View.knows_queried (k6 hinj p hpm hpl) hc (congrArg kpPeers hp)

example :
    let s0 := GetProviders.new 0 1 7 [] [⟨1, 5⟩]
    let evs : List GPEv := [.next, .resp 1 [⟨4, 9, [1]⟩] [⟨2, 4⟩], .next, .fail 2]
    (s0.run evs).1.nextAction.2 = some (.succeeded 7) ∧ s0.learned evs = [2] ∧ (s0.run evs).1.queried = [2, 1] := by
  decide

/-- **Records once.** Along every event sequence of a value lookup the records handed out as
partial results followed by the records still queued are exactly the unexpired records of the
accepted responses, in order of arrival — none lost, none duplicated — and a terminal action is
only emitted when the queue is empty. -/
theorem records_once (s : GetRecord) (hs : s.records = []) (evs : List GREv) :
    reportedRecords (s.run evs).2 ++ (s.run evs).1.records = s.received evs ∧
    ∀ q, ((s.run evs).1.nextAction.2 = some (.succeeded q) ∨ (s.run evs).1.nextAction.2 = some (.failed q)) →
      reportedRecords (s.run evs).2 = s.received evs := by
  have h := GetRecord.run_records evs s
  rw [hs, List.nil_append] at h
  refine ⟨h, fun q hq => ?_⟩
  rw [GetRecord.terminal_drained _ q hq, List.append_nil] at h
  exact h

example : reportedRecords ((GetRecord.new 0 20 2 7 .all false [⟨1, 5⟩, ⟨2, 3⟩]).run
    [.next, .next, .resp 2 (some (8, false)) [], .resp 1 (some (9, true)) [], .resp 2 (some (8, false)) [],
     .next, .next, .next]).2 = [(2, 8)] := by decide

/-- **Quorum stop.** Once the number of found records meets the quorum, no event sequence makes the
value lookup send another request. -/
theorem quorum_stop (s : GetRecord) (h : s.sufficient s.foundRecords = true) (evs : List GREv) :
    sentPeers (s.run evs).2 = [] :=
  GetRecord.run_no_send evs s h

example :
    let s := ((GetRecord.new 0 20 1 7 .one false [⟨1, 5⟩, ⟨2, 3⟩]).run [.next, .resp 2 (some (8, false)) [⟨3, 1⟩]]).1
    s.sufficient s.foundRecords = true ∧ s.candidates ≠ [] ∧
      (s.run [.next, .next]).2 = [.partialRecord 7 2 8, .succeeded 7] := by decide

/-- **Observation (not a violation):** a record found in the local store is counted twice
(`known_records = 1` and `found_records = 1`), so a lookup with quorum `N(2)` and a local record is
satisfied before any peer has been asked. -/
theorem local_record_double_count (l r a q : Nat) (inPeers : List KPeer) :
    (GetRecord.new l r a q (.n 2) true inPeers).sufficient
      (GetRecord.new l r a q (.n 2) true inPeers).foundRecords = true := by
  simp [GetRecord.new, GetRecord.sufficient]

example : ((GetRecord.new 0 20 3 7 (.n 2) true [⟨1, 5⟩]).run [.next]).2 = [.succeeded 7] := by decide

/-- **Providers once.** The reported provider list names every provider (known locally or returned
by a peer) exactly once, and is sorted by distance. -/
theorem providers_once (s : GetProviders) :
    (s.found.map (·.peer)).Nodup ∧
    (∀ p, p ∈ s.found.map (·.peer) ↔ p ∈ (s.knownProviders ++ s.foundProviders).map (·.peer)) ∧
    s.found.Pairwise (fun x y => x.dist ≤ y.dist) :=
  mergeAndSort_spec _

example : (((GetProviders.new 0 3 7 [⟨4, 9, [1]⟩] [⟨1, 5⟩]).run
    [.next, .resp 1 [⟨4, 9, [2, 1]⟩, ⟨5, 2, []⟩, ⟨5, 2, [3]⟩] []]).1).found = [⟨5, 2, [3]⟩, ⟨4, 9, [1, 2]⟩] := by
  decide

end Litep2pVerif.Props.C15

open Litep2pVerif.Props.C15 in
#print axioms no_self
open Litep2pVerif.Props.C15 in
#print axioms no_requery
open Litep2pVerif.Props.C15 in
#print axioms terminates
open Litep2pVerif.Props.C15 in
#print axioms parallelism_zero_stuck
open Litep2pVerif.Props.C15 in
#print axioms parallelism_bound
open Litep2pVerif.Props.C15 in
#print axioms success_sorted_bounded
open Litep2pVerif.Props.C15 in
#print axioms success_answered
open Litep2pVerif.Props.C15 in
#print axioms learned_tracked
open Litep2pVerif.Props.C15 in
#print axioms success_closer_contacted
open Litep2pVerif.Props.C15 in
#print axioms success_closer_contacted_needs_injectivity
open Litep2pVerif.Props.C15 in
#print axioms terminal_once
open Litep2pVerif.Props.C15 in
#print axioms engine_no_self
open Litep2pVerif.Props.C15 in
#print axioms engine_no_requery
open Litep2pVerif.Props.C15 in
#print axioms engine_parallelism_bound
open Litep2pVerif.Props.C15 in
#print axioms default_parallelism_pos
open Litep2pVerif.Props.C15 in
#print axioms lookup_parallelism_bound
open Litep2pVerif.Props.C15 in
#print axioms records_once
open Litep2pVerif.Props.C15 in
#print axioms quorum_stop
open Litep2pVerif.Props.C15 in
#print axioms local_record_double_count
open Litep2pVerif.Props.C15 in
#print axioms providers_once
open Litep2pVerif.Props.C15 in
#print axioms value_no_self
open Litep2pVerif.Props.C15 in
#print axioms value_no_requery
open Litep2pVerif.Props.C15 in
#print axioms value_terminates
open Litep2pVerif.Props.C15 in
#print axioms value_done_means
open Litep2pVerif.Props.C15 in
#print axioms provider_no_self
open Litep2pVerif.Props.C15 in
#print axioms provider_no_requery
open Litep2pVerif.Props.C15 in
#print axioms provider_terminates
open Litep2pVerif.Props.C15 in
#print axioms provider_all_contacted
