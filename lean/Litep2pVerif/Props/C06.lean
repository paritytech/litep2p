import Litep2pVerif.Proofs.Manager.Caps
import Litep2pVerif.Proofs.Manager.Ids
import Litep2pVerif.Proofs.Conn.Permits
import Litep2pVerif.Proofs.Node.Wiring
/-!
# C06 — Connection caps: at most two per peer, configured limits never exceeded

The property theorems with their non-vacuity examples. Model: `Model/Manager/{PeerState,Limits,Dial}.lean` (an
operational copy of `src/transport/manager/{peer_state,limits,mod}.rs`); lemmas and the invariant:
`Proofs/Manager/{Basic,Caps,Ids}.lean` (and `Proofs/Conn/Permits.lean` for the connection task's side). Except for
`connection_ids_unique`, which assumes that the transport keeps its contract (`Reach`), the theorems of namespace
`C06` hold for EVERY input history — no assumption on the transport or on the order of events (`ReachAny`, `runG`
take arbitrary inputs; `two_per_peer_reject` and `below_limit_accepts` speak about an arbitrary state) — and for
every limit configuration, including `none` and `0`. Namespace `Wiring`: the limits `Litep2p::new` installs;
namespace `Release`: the connection task tells the manager about its end exactly once.

`g.live` is the ghost set of connections the manager accepted (an `accept` call was made on the
transport) and that have not been reported closed or rolled back since.
-/
namespace Litep2pVerif.Props.C06
open Litep2pVerif Litep2pVerif.Manager

/-- **Limits are never exceeded.** After every history of API calls, transport events, accept
results and closures, from every configuration: the numbers of counted inbound and outbound
connections are within the configured maxima. -/
theorem limits_inv (cfg : LimitsCfg) (is : List In) :
    let g := runG (G.init cfg) is
    (∀ m, cfg.maxIn = some m → g.m.limits.incoming.length ≤ m) ∧
    (∀ m, cfg.maxOut = some m → g.m.limits.outgoing.length ≤ m) := by
  intro g
  have h : Inv06 g := inv06_reach (reachAny_runG is (ReachAny.init cfg))
  have hc : g.m.limits.cfg = cfg := cfg_runG is (G.init cfg)
  exact ⟨fun m hm => h.inc.le m (hc ▸ hm), fun m hm => h.out.le m (hc ▸ hm)⟩

/-- Non-vacuity: limits (1, 1); a second inbound and a second outbound connection are turned away
at the limit, the counters stand at exactly 1 and 1. -/
example :
    let g := runG (G.init ⟨some 1, some 1⟩)
      [.alloc, .alloc, .evEstablished 1 ⟨true, [.ip4 1, .tcp 1], 0⟩ true,
       .evEstablished 2 ⟨true, [.ip4 2, .tcp 2], 1⟩ true,
       .dialAddress [.ip4 3, .tcp 3, .p2p 3], .dialAddress [.ip4 4, .tcp 4, .p2p 4],
       .evEstablished 3 ⟨false, [.ip4 3, .tcp 3, .p2p 3], 2⟩ true,
       .evEstablished 4 ⟨false, [.ip4 4, .tcp 4, .p2p 4], 3⟩ true]
    g.m.limits.incoming = [0] ∧ g.m.limits.outgoing = [2] ∧ stateOf g.m 2 = .disconnected none ∧
      stateOf g.m 4 = .disconnected none := by
  decide

/-- **A connection is counted iff it is open.** In every reachable state an id is in the inbound
(outbound) counter iff inbound (outbound) connections are limited and the connection was accepted
and has not been closed or rolled back since; no id is counted twice. -/
theorem counted_iff_open (cfg : LimitsCfg) (is : List In) :
    let g := runG (G.init cfg) is
    (∀ c, c ∈ g.m.limits.incoming ↔
      (cfg.maxIn.isSome = true ∧ ∃ l ∈ g.live, l.conn = c ∧ l.isListener = true)) ∧
    (∀ c, c ∈ g.m.limits.outgoing ↔
      (cfg.maxOut.isSome = true ∧ ∃ l ∈ g.live, l.conn = c ∧ l.isListener = false)) ∧
    g.m.limits.incoming.Nodup ∧ g.m.limits.outgoing.Nodup := by
  intro g
  have h : Inv06 g := inv06_reach (reachAny_runG is (ReachAny.init cfg))
  have hc : g.m.limits.cfg = cfg := cfg_runG is (G.init cfg)
  exact ⟨fun c => hc ▸ h.inc.iff c, fun c => hc ▸ h.out.iff c, h.inc.nodup, h.out.nodup⟩

/-- **Released exactly once.** Closing a connection lowers the counter of its direction by one if
it was counted and by nothing otherwise (so a second close report releases nothing). -/
theorem released_once {g : G} (h : ReachAny g) (p : Peer) (c : ConnId) :
    let g' := (gstep g (.evClosed p c)).1
    g'.m.limits.incoming.length + (if c ∈ g.m.limits.incoming then 1 else 0) = g.m.limits.incoming.length ∧
    g'.m.limits.outgoing.length + (if c ∈ g.m.limits.outgoing then 1 else 0) = g.m.limits.outgoing.length ∧
    c ∉ g'.m.limits.incoming ∧ c ∉ g'.m.limits.outgoing := by
  intro g'
  have hi := inv06_reach h
  have hl : g'.m.limits = g.m.limits.onConnectionClosed c := by
    show (ghost g _ _ _).m.limits = _; rw [ghost_m]; rfl
  rw [hl]
  refine ⟨length_setRemove _ _ hi.inc.nodup, length_setRemove _ _ hi.out.nodup, ?_, ?_⟩ <;>
    simp [Limits.onConnectionClosed, mem_setRemove]

/-- Non-vacuity: an accepted inbound connection is counted, a rolled-back one (failing `accept`)
and a closed one are not; the accept-failure path releases what it took. -/
example :
    let g := runG (G.init ⟨some 3, none⟩)
      [.alloc, .alloc, .alloc, .evEstablished 1 ⟨true, [], 0⟩ true, .evEstablished 2 ⟨true, [], 1⟩ false,
       .evEstablished 3 ⟨true, [], 2⟩ true, .acceptResult 0 true, .evClosed 1 0]
    g.m.limits.incoming = [2] ∧ g.live = [⟨3, 2, true⟩] := by
  decide

/-- **At most two connections per peer.** In every reachable state the open connections of a peer
carry at most two distinct ids — the two slots of its `Connected` state. -/
theorem two_per_peer {g : G} (h : ReachAny g) (p : Peer) :
    ∃ slots : List ConnId, slots.length ≤ 2 ∧ ∀ l ∈ g.live, l.peer = p → l.conn ∈ slots :=
  ⟨(stateOf g.m p).slots, PeerState.slots_length_le _,
    fun l hl hp => hp ▸ (inv06_reach h).liveSlots l hl⟩

/-- **A surplus connection is rejected without disturbing anything.** With both slots of `p`
taken, a further established connection (either direction) is answered with `reject` only, and the
state of every peer, the limit counters, the pending accepts and the live set stay as they were. -/
theorem two_per_peer_reject (g : G) (p : Peer) (ep : Endpoint) (ok : Bool) (r x : ConnRecord)
    (hfull : stateOf g.m p = .connected r (some (.secondary x)))
    (hcan : g.m.limits.canAccept ep.isListener = true)
    (hpend : alookup ep.conn g.m.pending = none) :
    let g' := (gstep g (.evEstablished p ep ok)).1
    (gstep g (.evEstablished p ep ok)).2.calls = [.reject ep.conn] ∧
    (gstep g (.evEstablished p ep ok)).2.events = [] ∧
    (∀ q, stateOf g'.m q = stateOf g.m q) ∧ g'.m.limits = g.m.limits ∧
    g'.m.pendingAccept = g.m.pendingAccept ∧ g'.live = g.live := by
  have hout : onEstablished g.m p ep ok = (estPre g.m p ep, { calls := [.reject ep.conn] }) := by
    unfold onEstablished
    simp [hpend, hcan, estPre_state, hfull, PeerState.onConnectionEstablished]
  intro g'
  have hg' : g' = ghost g (.evEstablished p ep ok) (estPre g.m p ep) { calls := [.reject ep.conn] } := by
    show ghost g (.evEstablished p ep ok) (onEstablished g.m p ep ok).1 (onEstablished g.m p ep ok).2 = _
    rw [hout]
  refine ⟨by show (onEstablished g.m p ep ok).2.calls = _; rw [hout],
    by show (onEstablished g.m p ep ok).2.events = _; rw [hout], ?_, ?_, ?_, ?_⟩
  · intro q; rw [hg', ghost_m, estPre_state]
  · rw [hg', ghost_m, estPre_limits]
  · rw [hg', ghost_m, estPre_pa]
  · rw [hg', ghost_live_est]; simp

/-- Non-vacuity: a third connection from a peer with two open ones is rejected; the two stay. -/
example :
    let g := runG (G.init ⟨none, none⟩)
      [.alloc, .alloc, .alloc, .evEstablished 1 ⟨true, [], 0⟩ true, .evEstablished 1 ⟨true, [], 1⟩ true]
    stateOf g.m 1 = .connected ⟨[.p2p 1], 0⟩ (some (.secondary ⟨[.p2p 1], 1⟩)) ∧
    (gstep g (.evEstablished 1 ⟨true, [], 2⟩ true)).2.calls = [.reject 2] ∧
    (gstep g (.evEstablished 1 ⟨true, [], 2⟩ true)).1.live = [⟨1, 1, true⟩, ⟨1, 0, true⟩] := by
  decide

/-- **Below the limit means accepted.** If the node keeps no connection with `p`, is below its
inbound limit (or has none) and the connection id is not one of its own pending dials, an inbound
established connection from `p` is accepted: `accept` is called on the transport, `p` becomes
`Connected` through it, and nothing panics. Together with `counted_iff_open` / `released_once`:
capacity freed by a close is available to the next peer. -/
theorem below_limit_accepts (s : Mgr) (p : Peer) (a : Multiaddr) (c : ConnId) (ok : Bool)
    (hfree : (stateOf s p).slots = [])
    (hbelow : ∀ m, s.limits.cfg.maxIn = some m → s.limits.incoming.length < m)
    (hfresh : alookup c s.pending = none) :
    let r := onEstablished s p ⟨true, a, c⟩ ok
    Call.accept c ∈ r.2.calls ∧ r.2.panic = false ∧
    (ok = true → c ∈ (stateOf r.1 p).slots ∧ (p, (⟨true, a, c⟩ : Endpoint)) ∈ r.1.pendingAccept) := by
  intro r
  have hcan : s.limits.canAccept true = true := by
    unfold Limits.canAccept
    simp only [if_true]
    split
    · rename_i m hm; have := hbelow m hm; simp; omega
    · rfl
  have hest := PeerState.est_of_no_slots (stateOf s p) (ConnRecord.new p a c) hfree
  cases est_shape s p ⟨true, a, c⟩ ok with
  | refused hcalls _ _ _ =>
    exfalso; apply hcalls
    unfold onEstablished
    simp [hfresh, hcan, hest]
    split <;> simp
  | accepted hok hcalls hpanic _ _ _ hpa hst =>
    refine ⟨hcalls, hpanic, fun _ => ⟨?_, ?_⟩⟩
    · show c ∈ (stateOf (onEstablished s p ⟨true, a, c⟩ ok).1 p).slots
      rw [hst p]; simp only [if_true]
      exact PeerState.est_accept_mem _ (ConnRecord.new p a c) hest
    · show _ ∈ (onEstablished s p ⟨true, a, c⟩ ok).1.pendingAccept
      rw [hpa]; simp
  | rolledBack hok hcalls hpanic _ _ _ _ _ => exact ⟨hcalls, hpanic, fun h => by simp [hok] at h⟩

/-- Non-vacuity: inbound limit 1 reached, the connection closes, the next peer is accepted. -/
example :
    let g := runG (G.init ⟨some 1, none⟩)
      [.alloc, .alloc, .alloc, .evEstablished 1 ⟨true, [], 0⟩ true, .acceptResult 0 true,
       .evEstablished 2 ⟨true, [], 1⟩ true, .evClosed 1 0]
    stateOf g.m 2 = .disconnected none ∧ g.m.limits.incoming = [] ∧
    (onEstablished g.m 2 ⟨true, [], 2⟩ true).2.calls = [.accept 2] := by
  decide

/-- **Connection ids are unique.** The manager's own dials (`dial`, `dial_address`) and the ids the transports take
for inbound connections (`In.alloc` = `TransportHandle::next_connection_id()` of the handle `transport_handle(..)`
hands out) come from ONE counter, `Mgr.nextConn`. In every state reachable while the transport keeps its contract
(an inbound connection carries an id it took from the counter, a dialed one the id of its dial):
the ids of all live connections — inbound and outbound — are pairwise distinct; each is below the counter, is not an
id still held for a waiting inbound socket, and is shared with no dial in flight (an obligation with the id of a
live connection is that connection's own pending `accept`); the ids of the dials in flight are pairwise distinct
too. Hence the id sets of `ConnectionLimits` (`counted_iff_open`) count connections, and `on_connection_closed(c)`
— which removes `c` from BOTH sets — releases the slot of the one connection that closed and of no other. -/
theorem connection_ids_unique {g : G} (h : Reach g) :
    (∀ l ∈ g.live, ∀ l' ∈ g.live, l.conn = l'.conn → l = l') ∧
    (∀ l ∈ g.live, l.conn < g.m.nextConn ∧ l.conn ∉ g.fresh ∧
      ∀ o ∈ g.owed, o.conn = l.conn → o.phase = .accepting) ∧
    (g.owed.map (·.conn)).Nodup ∧ (∀ o ∈ g.owed, o.conn < g.m.nextConn) ∧
    (∀ c ∈ g.fresh, c < g.m.nextConn ∧ c ∉ g.owed.map (·.conn)) := by
  have hi := invIds_reach h
  have h5 := inv05_reach h
  exact ⟨hi.uniq, fun l hl => hi.spent h5 hl, h5.nodup, h5.bOwed,
    fun c hc => ⟨h5.bFresh c hc, h5.freshOwed c hc⟩⟩

/-- Non-vacuity: a dial (id 0), an inbound connection (id 1, taken by the transport), a second dial (id 2) and a
second inbound connection (id 3) — the history keeps the contract, four connections
are live under four different ids, and `alloc` / `dial_address` hand out the same counter. -/
example :
    let is : List In :=
      [.dialAddress [.ip4 1, .tcp 1, .p2p 1], .alloc, .evEstablished 2 ⟨true, [.ip4 2, .tcp 2], 1⟩ true,
       .dialAddress [.ip4 3, .tcp 3, .p2p 3], .alloc, .evEstablished 4 ⟨true, [.ip4 4, .tcp 4], 3⟩ true,
       .evEstablished 1 ⟨false, [.ip4 1, .tcp 1, .p2p 1], 0⟩ true,
       .evEstablished 3 ⟨false, [.ip4 3, .tcp 3, .p2p 3], 2⟩ true]
    let g := runG (G.init ⟨some 2, some 3⟩) is
    g.live.map (·.conn) = [2, 0, 3, 1] ∧ g.m.limits.incoming = [3, 1] ∧ g.m.limits.outgoing = [2, 0] ∧
    g.m.nextConn = 4 ∧ (step g.m .alloc).2.res = .conn 4 ∧
    (step g.m (.dialAddress [.ip4 5, .tcp 5, .p2p 5])).2.calls = [.dial 4 [.ip4 5, .tcp 5, .p2p 5]] ∧
    (step g.m (.dialAddress [.ip4 5, .tcp 5, .p2p 5])).1.nextConn = 5 := by
  decide

example : Reach (runG (G.init ⟨some 2, some 2⟩)
      [.dialAddress [.ip4 1, .tcp 1, .p2p 1], .alloc, .evEstablished 2 ⟨true, [.ip4 2, .tcp 2], 1⟩ true,
       .evEstablished 1 ⟨false, [.ip4 1, .tcp 1, .p2p 1], 0⟩ true]) :=
  Reach.step _ (Reach.step _ (Reach.step _ (Reach.step _ (Reach.init _)
    (by decide)) (by decide)) (by decide)) (by decide)

/-- What the uniqueness buys (and what breaks without it): were the inbound connection given the id of the live
outbound one (id 0 — not an id from the counter, so the contract forbids the event), closing it would release
the outbound slot although the outbound connection is still open. -/
example :
    let g := runG (G.init ⟨some 2, some 1⟩)
      [.dialAddress [.ip4 1, .tcp 1, .p2p 1], .evEstablished 1 ⟨false, [.ip4 1, .tcp 1, .p2p 1], 0⟩ true,
       .evEstablished 2 ⟨true, [.ip4 2, .tcp 2], 0⟩ true, .evClosed 2 0]
    g.m.limits.outgoing = [] ∧ stateOf g.m 1 = .connected ⟨[.ip4 1, .tcp 1, .p2p 1], 0⟩ none ∧
    allowed (runG (G.init ⟨some 2, some 1⟩)
      [.dialAddress [.ip4 1, .tcp 1, .p2p 1], .evEstablished 1 ⟨false, [.ip4 1, .tcp 1, .p2p 1], 0⟩ true])
      (.evEstablished 2 ⟨true, [.ip4 2, .tcp 2], 0⟩ true) = false := by
  decide

#print axioms limits_inv
#print axioms connection_ids_unique
#print axioms counted_iff_open
#print axioms released_once
#print axioms two_per_peer
#print axioms two_per_peer_reject
#print axioms below_limit_accepts

end Litep2pVerif.Props.C06

/-! ## Wiring — what `Litep2p::new` hands over (coverage round `node`)

Over the wiring model `Model/Node/Wiring.lean` (`Node.new c` = `Litep2p::new(ConfigBuilder…build())`), which is tied to
the real `ConfigBuilder`/`Litep2p::new` by the `node` area: the adapter prints the ACTUAL registration record of a node built
through the public API, the driver prints the model's, compared field by field on every run. -/
namespace Litep2pVerif.Props.C06.Wiring
open Litep2pVerif Litep2pVerif.Node

/-- A configuration with every kind of protocol (used by the non-vacuity examples). -/
def sample : Config :=
  { keepAliveMs := some 600, limits := some (some 2, none), listen := [1, 2],
    notif := [⟨"/n/a", 1024, "0102", ["/n/old"], 'a', some 64, some 64, none⟩],
    rr := [⟨"/r/a", 256, 800, ["/r/old"], none⟩, ⟨"/r/b", 64, 800, [], some 1⟩],
    user := [⟨"/u/a", .varint none⟩], kad := [⟨[], none, []⟩], ping := some 1, identify := true, bitswap := true,
    known := some [(0, [.listen 0, .closed, .quic, .wrongPeer 0, .noPeer 0])] }

/-- The connection limits the manager enforces are exactly the configured ones (none if the user set none). -/
theorem configured_limits_installed (c : Config) (w : Wired) (h : Node.new c = .ok w) :
    w.limits = c.limits.getD (none, none) := by
  obtain ⟨_, _, rfl⟩ := wire_ok h
  rfl

example : ∃ w, Node.new sample = .ok w ∧ w.limits = (some 2, none) := ⟨_, rfl, rfl⟩
example : ∃ w, Node.new { sample with limits := none } = .ok w ∧ w.limits = (none, none) := ⟨_, rfl, rfl⟩

end Litep2pVerif.Props.C06.Wiring

#print axioms Litep2pVerif.Props.C06.Wiring.configured_limits_installed

/-! ## The other end of `released_once`: the manager IS told (coverage round `mgr2`)

`released_once` / `counted_iff_open` say what the manager does when it is told that a connection closed. That it is
told — exactly once per connection, whatever became of the installed protocols — is a fact about
`ProtocolSet::report_connection_closed` and the connection task (`Model/Conn/{Close,Loop,Permits}.lean`, the model the
real `TcpConnection::start` loop is driven against in the `tcploop` area; C06's check runs that area with protocols
whose receivers are gone, judged by `tcploop.oracle_c06`). -/
namespace Litep2pVerif.Props.C06.Release
open Litep2pVerif Litep2pVerif.Conn

/-- **A connection that ends releases its slot: the manager is told exactly once, dead protocols or not.** For every
run of the connection task — every sequence of loop events, handle operations and shut-downs of the protocols (their
receivers may be dropped at any time, so that telling them fails) and deliveries: the manager is never told twice,
and once `start()` has returned the manager (its receiver exists as long as the node runs) has been told exactly
once. With `released_once` the slot of the connection is then released, once. -/
theorem slot_released_when_connection_ends (s0 : TLoop) (h0 : Fresh s0.loop.ps) (hc : s0.loop.cont = none)
    (hx : s0.loop.exited = none) (ls : List TLabel) :
    let s := (trun s0 ls).loop
    mgrCnt s.ps ≤ 1 ∧ (s.exited.isSome → s.ps.mgr.alive = true → mgrCnt s.ps = 1) :=
  ⟨(trun_pinv ls s0 (h0.pinv hc hx)).reports.2.1,
    fun hex hm => ((trun_pinv ls s0 (h0.pinv hc hx)).reports.2.2 hex).2.2 hm⟩

/-- Non-vacuity: protocol 1 shuts down (its receiver is dropped), then the connection loses its last permit holder
and exits: telling protocol 1 fails, protocol 0 and the manager are told all the same, once. -/
example :
    let s := trun (tinit [true, true] 4) [.recv 0, .recv 1, .dropRx 1, .downgrade 0, .dropHandle 1, .idleExit]
    Fresh (tinit [true, true] 4).loop.ps ∧ s.loop.exited.isSome ∧ s.loop.ps.mgr.alive = true ∧
    mgrCnt s.loop.ps = 1 ∧ cnt s.loop.ps 0 .closed = 1 ∧ cnt s.loop.ps 1 .closed = 0 :=
  ⟨tinit_fresh _ _, by decide⟩

end Litep2pVerif.Props.C06.Release

#print axioms Litep2pVerif.Props.C06.Release.slot_released_when_connection_ends
