import Litep2pVerif.Proofs.Mss.Negotiate
import Litep2pVerif.Proofs.Mss.Flush
import Litep2pVerif.Proofs.Mss.WebRtc
import Litep2pVerif.Generated.Consts
/-!
# C03 — Protocol negotiation agrees on one protocol and is transparent afterwards

The property theorems with their non-vacuity examples (the runs after `negotiate_agree` serve the three
`negotiate_*` theorems), the predicate `Proposable` of their statements with `proposable_sendable`, and the axiom
audit at the end. Models in `Model/Mss/*.lean`, helper lemmas in `Proofs/Mss/*.lean`.
-/
namespace Litep2pVerif.Props.C03
open Litep2pVerif Litep2pVerif.Mss

/-- **Message round trip.** `Message::decode (Message::encode m) = Ok(m)` for every well-formed `m`:
a proposed name starts with `/`, contains no line feed and is not `/multistream/1.0.0`; an `ls`
response has at most `MAX_PROTOCOLS` names, each starting with `/` (length within `usize`). -/
theorem msg_roundtrip (m : Msg) (h : m.WellFormed) : Msg.decode m.encode = .ok m :=
  decode_encode m h

/-- Non-vacuity, and the excluded names really fail: a name with a line feed decodes to something
else, a name without `/` is refused, and `/multistream/1.0.0` collides with the header. -/
example :
    Msg.WellFormed (.protocol [47, 97]) ∧ Msg.WellFormed (.protocols [[47, 97], [47, 98, 10, 99]]) ∧
    Msg.decode (Msg.protocol [47, 97, 10, 98]).encode ≠ .ok (.protocol [47, 97, 10, 98]) ∧
    Msg.decode (Msg.protocol [97]).encode ≠ .ok (.protocol [97]) ∧
    Msg.decode (Msg.protocol protoMultistream).encode = .ok .header ∧
    Consts.MSS_MAX_PROTOCOLS = 1000 := by
  decide

/-- **Varint round trip** for the two instances of `decode!` in use (`u16` frame lengths, `usize`
name lengths), whatever follows the encoded value. -/
theorem varint_roundtrip (n : Nat) (rest : Bytes) :
    (n < 2 ^ 16 → uviDecodeU16 (uviEncode n ++ rest) = .ok (n, rest)) ∧
    (n < 2 ^ 64 → uviDecodeUsize (uviEncode n ++ rest) = .ok (n, rest)) :=
  ⟨uviDecodeU16_encode n rest, uviDecodeUsize_encode n rest⟩

example : uviEncode 300 = [172, 2] ∧ uviDecodeU16 [172, 2, 7] = .ok (300, [7]) ∧
    uviDecodeU16 [128, 0] = .error .notMinimal := by
  refine ⟨by rw [uviEncode_two 300 (by omega) (by omega)], by decide, by decide⟩

/-- **Framing is transparent.** Frames `fs` (each at most `MAX_FRAME_SIZE` bytes) are submitted with
`start_send` to a `LengthDelimited` over a carrier that is write-through or WRITE-BEHIND (`wb`: what
`poll_write` accepts is staged and reaches the peer only when the carrier's own flush completes), and
the sink is flushed, polling again after every `Pending`, under ANY schedule `ws` of chunk sizes /
`Pending`s of the inner `poll_write` and ANY schedule `fl` of `Pending`/`Ready` answers of the inner
`poll_flush`. Once that flush has returned `Ready(Ok)`, exactly the frames are visible to the peer
(nothing is left in the write buffer or staged: `into_inner`'s assertion holds), and while it has not,
a write-behind carrier shows the peer nothing. Arbitrary bytes `rest` follow (the application's). For
EVERY schedule of chunk sizes and `Pending`s on the reading side, a reader that polls for `|fs|` frames
gets a prefix of `fs` — never anything else, never an error — and once it has got all of them it has
consumed exactly `Σ |uvi(len)| + len` bytes: what is left in the carrier is exactly `rest`, and the
reader's buffers are empty (so `into_inner` hands the carrier over with the application's bytes
untouched). -/
theorem framing_transparent (fs : List Bytes) (hfs : ∀ f ∈ fs, f.length ≤ maxFrameSize) (rest : Bytes)
    (eof : Bool) (fuel : Nat) (sched : List Nat) (wb : Bool) (ws : List Nat) (fl : List Bool) (polls : Nat) :
    sendAll {} fs = .ok ⟨wire fs⟩ ∧
    ((flushRun polls ⟨⟨wire fs⟩, { wb := wb }, ws, fl⟩).2 = .pending → wb = true →
      (flushRun polls ⟨⟨wire fs⟩, { wb := wb }, ws, fl⟩).1.c.visible = []) ∧
    ((flushRun polls ⟨⟨wire fs⟩, { wb := wb }, ws, fl⟩).2 = .ready →
      (flushRun polls ⟨⟨wire fs⟩, { wb := wb }, ws, fl⟩).1.c.visible = wire fs ∧
      (flushRun polls ⟨⟨wire fs⟩, { wb := wb }, ws, fl⟩).1.c.staged = [] ∧
      (flushRun polls ⟨⟨wire fs⟩, { wb := wb }, ws, fl⟩).1.w.writeBuffer = []) ∧
    ∃ k, k ≤ fs.length ∧
      (readN fs.length fuel Reader.fresh ⟨wire fs ++ rest, eof⟩ sched).1 = (fs.take k).map PollNext.frame ∧
      (k = fs.length →
        (readN fs.length fuel Reader.fresh ⟨wire fs ++ rest, eof⟩ sched).2.1 = Reader.fresh ∧
        (readN fs.length fuel Reader.fresh ⟨wire fs ++ rest, eof⟩ sched).2.2.1 = ⟨rest, eof⟩) := by
  refine ⟨by simpa using sendAll_wire fs {} hfs, ?_, ?_, ?_⟩
  · intro hp hwb
    subst hwb
    exact flushRun_pending_wb polls _ rfl hp
  · intro hr
    obtain ⟨h1, h2, h3⟩ := flushRun_ready polls _ hr
    exact ⟨by simpa [SinkIo.pipeline] using h3, h2, h1⟩
  · have hlen : ∀ g ∈ fs, g.length < 16384 := by
      intro g hg; have := hfs g hg; rw [maxFrameSize_eq] at this; omega
    obtain ⟨k, hk, hout, hfin, _⟩ := readN_ahead rest fs fuel Reader.fresh _ sched hlen (ahead_fresh rest fs eof)
    exact ⟨k, hk, hout, hfin⟩

/-- Non-vacuity: two frames and two application bytes read in 1-byte chunks with `Pending`s in
between: both frames are returned and exactly `[9, 9]` is left; over a write-behind carrier whose
flush answers `Pending` twice, the peer sees nothing after two polls and all five bytes after the
third; the side condition on the constants holds for the regenerated values. -/
example :
    wire [[1, 2, 3], []] ++ [9, 9] = [3, 1, 2, 3, 0, 9, 9] ∧
    (readN 2 50 Reader.fresh ⟨[3, 1, 2, 3, 0, 9, 9], false⟩ [1, 0, 1, 1, 0, 0, 1, 1, 5]).1 =
      [.frame [1, 2, 3], .frame []] ∧
    (readN 2 50 Reader.fresh ⟨[3, 1, 2, 3, 0, 9, 9], false⟩ [1, 0, 1, 1, 0, 0, 1, 1, 5]).2.2.1.data = [9, 9] ∧
    (flushRun 2 ⟨⟨[3, 1, 2, 3, 0]⟩, { wb := true }, [2, 9], [false, false, true]⟩).2 = .pending ∧
    (flushRun 2 ⟨⟨[3, 1, 2, 3, 0]⟩, { wb := true }, [2, 9], [false, false, true]⟩).1.c.staged = [3, 1, 2, 3, 0] ∧
    (flushRun 3 ⟨⟨[3, 1, 2, 3, 0]⟩, { wb := true }, [2, 9], [false, false, true]⟩).2 = .ready ∧
    (flushRun 3 ⟨⟨[3, 1, 2, 3, 0]⟩, { wb := true }, [2, 9], [false, false, true]⟩).1.c.visible = [3, 1, 2, 3, 0] ∧
    maxFrameSize = 16383 ∧ Consts.MSS_MAX_LEN_BYTES = 2 := by
  refine ⟨by simp [wire, frameBytes, uviEncode_lt], by decide, by decide, by decide, by decide, by decide, by decide,
    by decide, by decide⟩

/-- **Framing makes progress.** The liveness complement of `framing_transparent`. The carrier
"eventually delivers every byte": the schedule contains at least as many non-`Pending` choices (each
delivers at least one byte) as the frames have bytes on the wire, `Pending`s interleaved at will;
the reader polls again after every `Pending` (`fuel` at least the length of the schedule). Then
every frame is returned, the reader is back in its initial state and exactly `rest` is left.
The measure behind it (`pollNext_mid`): the number of frame bytes still in flight — every
non-`Pending` inner `poll_read` decreases it, a `Pending` leaves it unchanged, and while it is
positive the reader is inside a frame (`Mid`) and cannot fail. -/
theorem framing_progress (fs : List Bytes) (hfs : ∀ f ∈ fs, f.length ≤ maxFrameSize) (rest : Bytes)
    (eof : Bool) (fuel : Nat) (sched : List Nat) (hfuel : sched.length ≤ fuel)
    (hdeliver : (wire fs).length ≤ (sched.filter (· ≠ 0)).length) :
    (readN fs.length fuel Reader.fresh ⟨wire fs ++ rest, eof⟩ sched).1 = fs.map PollNext.frame ∧
    (readN fs.length fuel Reader.fresh ⟨wire fs ++ rest, eof⟩ sched).2.1 = Reader.fresh ∧
    (readN fs.length fuel Reader.fresh ⟨wire fs ++ rest, eof⟩ sched).2.2.1 = ⟨rest, eof⟩ := by
  have hlen : ∀ g ∈ fs, g.length < 16384 := by
    intro g hg; have := hfs g hg; rw [maxFrameSize_eq] at this; omega
  obtain ⟨k, _, hout, hfin, hall⟩ :=
    readN_ahead rest fs fuel Reader.fresh ⟨wire fs ++ rest, eof⟩ sched hlen (ahead_fresh rest fs eof)
  have hk := hall hfuel (by simp only [List.length_append, nz] at hdeliver ⊢; omega)
  rw [hk, List.take_length] at hout
  exact ⟨hout, hfin hk⟩

/-- Non-vacuity: the 5 bytes of two frames, six `Pending`s and five 1-byte deliveries. With one
delivery fewer the second frame is not returned (the bound is tight). -/
example :
    (wire [[1, 2, 3], []]).length = 5 ∧ ([1, 0, 1, 0, 0, 1, 0, 0, 1, 0, 1].filter (· ≠ 0)).length = 5 ∧
    (readN 2 11 Reader.fresh ⟨wire [[1, 2, 3], []] ++ [9, 9], false⟩ [1, 0, 1, 0, 0, 1, 0, 0, 1, 0, 1]).1 =
      [.frame [1, 2, 3], .frame []] ∧
    (readN 2 11 Reader.fresh ⟨wire [[1, 2, 3], []] ++ [9, 9], false⟩ [1, 0, 1, 0, 0, 1, 0, 0, 1, 0]).1 =
      [.frame [1, 2, 3]] := by
  refine ⟨by simp [wire, frameBytes, uviEncode_lt], by decide, ?_, ?_⟩ <;>
    (rw [show wire [[1, 2, 3], []] = [3, 1, 2, 3, 0] by simp [wire, frameBytes, uviEncode_lt]]; decide)

/-- **The writer loses nothing.** `poll_write_buffer` over a carrier that may stage what it accepts:
for every schedule, the bytes visible to the peer, followed by the bytes staged in the carrier,
followed by the bytes still in the write buffer are the same sequence as before; `Ready` means the
write buffer is empty (the assertion of `into_inner` on the write buffer holds after a flush); what
the peer sees is only ever extended; and on a write-behind carrier writing alone shows the peer
nothing — only a completed inner flush does (`flush_reaches_peer`). -/
theorem framing_writer_exact (sched : List Nat) (w : Writer) (c : WCarrier) :
    (pollWriteBufferC w c sched).2.1.visible ++ (pollWriteBufferC w c sched).2.1.staged ++
        (pollWriteBufferC w c sched).1.writeBuffer = c.visible ++ c.staged ++ w.writeBuffer ∧
    ((pollWriteBufferC w c sched).2.2.2 = .ready → (pollWriteBufferC w c sched).1.writeBuffer = []) ∧
    (c.wb = true → (pollWriteBufferC w c sched).2.1.visible = c.visible) ∧
    (∃ t, (pollWriteBufferC w c sched).2.1.visible = c.visible ++ t) := by
  obtain ⟨h1, h2, h3, h4, _⟩ := pollWriteBufferC_exact sched w c
  exact ⟨h1, h2, h3, h4⟩

example : frameBytes [7, 8] = [2, 7, 8] ∧
    (pollWriteBufferC ⟨[2, 7, 8]⟩ {} [1, 0, 5]).2.1.visible = [2] ∧
    (pollWriteBufferC ⟨[2, 7, 8]⟩ {} [1, 1, 1]).2.1.visible = [2, 7, 8] ∧
    (pollWriteBufferC ⟨[2, 7, 8]⟩ {} [1, 1, 1]).2.2.2 = .ready ∧
    (pollWriteBufferC ⟨[2, 7, 8]⟩ { wb := true } [1, 1, 1]).2.1.visible = [] ∧
    (pollWriteBufferC ⟨[2, 7, 8]⟩ { wb := true } [1, 1, 1]).2.1.staged = [2, 7, 8] := by
  refine ⟨by simp [frameBytes, uviEncode_lt], by decide, by decide, by decide, by decide, by decide⟩

/-- **`Ready` from the flush means the peer has everything.** `Sink::poll_flush` of `LengthDelimited`
(= `poll_write_buffer`, then the inner `poll_flush`, whose answer is returned) over a write-through or
write-behind carrier, from ANY state `s` — frames in the write buffer, bytes already handed to the
carrier and staged there by an earlier poll whose inner flush was `Pending`, an empty write buffer —
under EVERY schedule of inner write choices and EVERY schedule of `Pending`/`Ready` answers of the
inner flush, polled any number of times: when a poll returns `Ready(Ok)`, every byte written before
(visible, staged or buffered at the start, in this order) is visible to the peer, nothing is staged
and the write buffer is empty. In particular a poll that finds the write buffer empty may NOT report
`Ready` unless the inner flush does. -/
theorem flush_reaches_peer (polls : Nat) (s : SinkIo) (h : (flushRun polls s).2 = .ready) :
    (flushRun polls s).1.c.visible = s.c.visible ++ s.c.staged ++ s.w.writeBuffer ∧
    (flushRun polls s).1.c.staged = [] ∧ (flushRun polls s).1.w.writeBuffer = [] := by
  obtain ⟨h1, h2, h3⟩ := flushRun_ready polls s h
  exact ⟨h3, h2, h1⟩

/-- Non-vacuity: the situation of a busy write-behind transport. The first poll hands the frame
`[2, 7, 8]` to the carrier and gets `Pending` from the inner flush; the second poll finds the write
buffer EMPTY and the inner flush `Pending` again — it is `Pending`, and the peer still sees nothing;
the third poll completes. -/
example :
    (sinkPollFlush ⟨⟨[2, 7, 8]⟩, { wb := true }, [9], [false, false, true]⟩) =
      (⟨⟨[]⟩, { wb := true, staged := [2, 7, 8] }, [], [false, true]⟩, .pending) ∧
    (sinkPollFlush ⟨⟨[]⟩, { wb := true, staged := [2, 7, 8] }, [], [false, true]⟩) =
      (⟨⟨[]⟩, { wb := true, staged := [2, 7, 8] }, [], [true]⟩, .pending) ∧
    (sinkPollFlush ⟨⟨[]⟩, { wb := true, staged := [2, 7, 8] }, [], [true]⟩) =
      (⟨⟨[]⟩, { wb := true, visible := [2, 7, 8] }, [], []⟩, .ready) ∧
    (flushRun 3 ⟨⟨[2, 7, 8]⟩, { wb := true }, [9], [false, false, true]⟩).2 = .ready := by
  decide

/-- **A flush that is polled again completes.** The liveness complement, and what the message-level
composition below assumes of the carrier: it takes every byte eventually (the write schedule holds at
least as many non-`Pending` choices as the write buffer has bytes) and it completes a flush
eventually (some answer of the flush schedule is `Ready`); the caller polls again after every
`Pending` (more polls than the two schedules are long — every `Pending` poll uses up a choice or an
answer). Then the flush returns `Ready(Ok)` — and by `flush_reaches_peer` everything is visible. -/
theorem flush_completes (polls : Nat) (s : SinkIo) (hw : s.w.writeBuffer.length ≤ (s.ws.filter (· ≠ 0)).length)
    (hf : true ∈ s.fs) (hpolls : s.ws.length + s.fs.length < polls) :
    (flushRun polls s).2 = .ready ∧
    (flushRun polls s).1.c.visible = s.c.visible ++ s.c.staged ++ s.w.writeBuffer :=
  have h := flushRun_completes polls s hw hf hpolls
  ⟨h, (flushRun_ready polls s h).2.2⟩

/-- Non-vacuity (and the bounds are needed: without a `Ready` answer, or with a poll fewer than
`Pending` answers, the flush is still pending). -/
example :
    (flushRun 6 ⟨⟨[2, 7, 8]⟩, { wb := true }, [1, 0, 1, 1], [false, true]⟩).2 = .ready ∧
    (flushRun 6 ⟨⟨[2, 7, 8]⟩, { wb := true }, [1, 0, 1, 1], [false, true]⟩).1.c.visible = [2, 7, 8] ∧
    (flushRun 9 ⟨⟨[2, 7, 8]⟩, { wb := true }, [1, 0, 1, 1], [false, false]⟩).2 = .pending ∧
    (flushRun 2 ⟨⟨[2, 7, 8]⟩, { wb := true }, [1, 0, 1, 1], [false, true]⟩).2 = .pending := by
  decide

/-- A name the dialer may propose: valid (`ValidName`) and short enough for one frame. -/
def Proposable (p : Bytes) : Prop := ValidName p ∧ p.length + 1 ≤ maxFrameSize

instance (p : Bytes) : Decidable (Proposable p) := by unfold Proposable; infer_instance

theorem proposable_sendable (p : Bytes) (h : Proposable p) : Sendable p := by
  obtain ⟨⟨hh, _, _⟩, hl⟩ := h
  rw [maxFrameSize_eq] at hl
  refine ⟨by simp [protocolTryFrom, hh], ?_⟩
  simp [fitsFrame, Msg.encode, maxFrameSize_eq]
  omega

/-- **Termination, explicit bound.** The composition is at message level: a flush step of a future
(`FlushProtocol`, `Flush`, the deferred flush of `Negotiated::expecting`) hands the buffered messages to
the peer's channel in one transition. Over a write-behind carrier this is exactly what happens —
nothing written is visible before the flush returns `Ready`, everything is afterwards
(`flush_reaches_peer`, `framing_transparent`) — PROVIDED the flush returns `Ready` at all: the carrier
eventually completes a flush that is polled again (`flush_completes`). Under that assumption on the
carrier: every execution of the composed system (any interleaving of dialer and listener steps), for every dialer list of proposable names, every listener list, both
versions and whether or not the lazy dialer's application writes a frame that is not a negotiation message right
behind the negotiation (`junk`), has at most `6·|ps| + 7` transitions:
`6·|ps| + 7 − (transitions made)` is a measure that every transition decreases. -/
theorem negotiate_terminates (v : Version) (ps ls : List Bytes) (junk : Option PErr)
    (hps : ∀ p ∈ ps, Proposable p) (k : Nat) (u : Sys Dialer Listener)
    (h : Exec (dialerProc junk) listenerProc (negInit v ps ls) k u) : k ≤ 6 * ps.length + 7 :=
  (exec_agreed junk v ps ls (fun x hx => proposable_sendable x (hps x hx)) h).1

/-- **Confluence.** Any two maximal executions of the composed system end in the same state after
the same number of transitions: the outcome does not depend on the interleaving. -/
theorem negotiate_confluent (v : Version) (ps ls : List Bytes) (junk : Option PErr)
    (n k : Nat) (t u : Sys Dialer Listener)
    (h1 : Exec (dialerProc junk) listenerProc (negInit v ps ls) n t) (hf1 : Final (dialerProc junk) listenerProc t)
    (h2 : Exec (dialerProc junk) listenerProc (negInit v ps ls) k u) (hf2 : Final (dialerProc junk) listenerProc u) :
    u = t ∧ k = n :=
  (confluent (dialerProc_closeHalts junk) listenerProc_closeHalts k n _ t u (good_init junk v ps _) h1 hf1 h2).2 hf2

/-- **Agreement.** (Carrier assumption as for `negotiate_terminates`: write-through or write-behind, a
flush that is polled again eventually completes.) For all dialer lists `ps` of proposable names and all listener lists `ls`, both
versions (`V1`, and `V1Lazy` including the `Negotiated::expecting` phase), every maximal execution
of the composed system ends with both futures returned, and both report the first `p ∈ ps` that the
listener supports — or both report a failure when there is none. -/
theorem negotiate_agree (v : Version) (ps ls : List Bytes) (junk : Option PErr)
    (hps : ∀ p ∈ ps, Proposable p) (k : Nat) (u : Sys Dialer Listener)
    (h : Exec (dialerProc junk) listenerProc (negInit v ps ls) k u) (hfin : Final (dialerProc junk) listenerProc u) :
    match firstCommon ps ls with
    | some p => u.a.state = .completed p ∧ u.b.state = .done p
    | none => (∃ e, u.a.state = .failed e) ∧ (∃ e, u.b.state = .failed e) := by
  have hag := (exec_agreed junk v ps ls (fun x hx => proposable_sendable x (hps x hx)) h).2 hfin
  have hfc := firstCommon_filter ps ls (fun p hp => (hps p hp).1.1)
  have h3 := hag.2.2
  rw [hfc] at h3
  cases hc : firstCommon ps ls with
  | some p => rw [hc] at h3; exact h3
  | none =>
    rw [hc] at h3
    obtain ⟨⟨e1, h1, _⟩, ⟨e2, h2, _⟩⟩ := h3
    exact ⟨⟨e1, h1⟩, ⟨e2, h2⟩⟩

/-- Non-vacuity (`runSys` with fuel 40): under `V1`, `/a`, `/b` against `/b`, `/c` (and an ignored invalid name) agree
on `/b`; under `V1Lazy` with an undecodable frame behind the negotiation the dialer completes with `/b`, and disjoint
lists fail on both sides. -/
example :
    Proposable [47, 97] ∧ Proposable [47, 98] ∧
    (runSys (dialerProc none) listenerProc 40 (negInit .v1 [[47, 97], [47, 98]] [[47, 98], [47, 99], [120]])).a.state =
      .completed [47, 98] ∧
    (runSys (dialerProc none) listenerProc 40 (negInit .v1 [[47, 97], [47, 98]] [[47, 98], [47, 99], [120]])).b.state =
      .done [47, 98] ∧
    (runSys (dialerProc (some .invalidMessage)) listenerProc 40 (negInit .v1Lazy [[47, 98]] [[47, 98], [47, 99]])).a.state =
      .completed [47, 98] ∧
    (runSys (dialerProc (some .ioInvalidData)) listenerProc 40 (negInit .v1Lazy [[47, 97]] [[47, 98], [47, 99]])).a.state =
      .failed .failed ∧
    (runSys (dialerProc (some .ioInvalidData)) listenerProc 40 (negInit .v1Lazy [[47, 97]] [[47, 98], [47, 99]])).b.state =
      .failed (.protocolError .ioInvalidData) := by
  decide

/-- **`into_inner` is safe.** No maximal execution ends with a failed assertion of
`MessageIO::into_inner` / `MessageReader::into_inner` (read and write buffers are empty where the
futures and `Negotiated` call it). -/
theorem into_inner_safe (v : Version) (ps ls : List Bytes) (junk : Option PErr)
    (hps : ∀ p ∈ ps, Proposable p) (k : Nat) (u : Sys Dialer Listener)
    (h : Exec (dialerProc junk) listenerProc (negInit v ps ls) k u) (hfin : Final (dialerProc junk) listenerProc u) :
    u.a.state ≠ .failed .panic ∧ u.b.state ≠ .failed .panic := by
  have h3 := ((exec_agreed junk v ps ls (fun x hx => proposable_sendable x (hps x hx)) h).2 hfin).2.2
  split at h3
  · rw [h3.1, h3.2]; simp
  · obtain ⟨⟨e1, h1, hn1⟩, ⟨e2, h2, hn2⟩⟩ := h3
    rw [h1, h2]
    exact ⟨by intro hh; injection hh with hh; exact hn1 hh, by intro hh; injection hh with hh; exact hn2 hh⟩

example : (Dialer.onRecv ⟨.v1, [], .awaitProtocol [47, 97] true, [.header]⟩ (.msg (.protocol [47, 97]))).st.state =
    .failed .panic := by decide

/-- **Message-based variant, safety for arbitrary payloads.** For ALL payloads (well-formed or not),
all states and whatever the peer is: the listener only ever accepts a name it supports, and the
dialer only ever reports success for the name it is currently proposing. -/
theorem webrtc_safe (sup : List Bytes) (payload : Bytes) (hr : Bool) (d : WDialer) :
    (∀ p m, wListen sup payload hr = .ok (.accepted p m) → p ∈ sup) ∧
    (∀ q, (wRegister d payload).2 = .ok (.succeeded q) → q = d.protocol) :=
  ⟨fun p m h => wListen_accepted sup payload hr p m h,
   fun q h => wRegisterLoop_succeeded _ d payload q h⟩

example : wListen [[47, 98]] (wHdr ++ wFrame (.protocol [47, 98])) false =
      .ok (.accepted [47, 98] (wHdr ++ wFrame (.protocol [47, 98]))) ∧
    (wRegister ⟨[47, 98], [], .waitingResponse⟩ (wHdr ++ wFrame (.protocol [47, 98]))).2 = .ok (.succeeded [47, 98]) := by
  decide

/-- **Message-based variant: agreement for every grouping.** `WebRtcDialerState::{propose,
propose_next_fallback, register_response}` against `webrtc_listener_negotiate`, composed as
`transport/webrtc/connection.rs` composes them (`wPair`). For every main name that is valid and at
most `MAX_FRAME_SIZE − 23` bytes long (it travels behind the 20-byte header frame), every list of
valid fallback names of at most `MAX_FRAME_SIZE − 3` bytes, every listener list `sup` and EVERY
grouping of the messages into payloads that can occur (`split` bit 0: header and first proposal
travel as one payload or as two; bit 1: the listener's header + answer travel as one payload or as
two; every later message is alone in flight), the pair ends with the dialer reporting `Succeeded(p)`
and the listener having accepted `p`, where `p` is the first name of `main :: fallbacks` that the
listener supports, or — when there is none — with the dialer failing (`propose_next_fallback`
returned `None`) and the listener never having accepted anything.

The order in which the code tries the names is `main` first, then the fallbacks **in the order
given to `propose`** (`propose` reverses the vector, `propose_next_fallback` pops from its end). -/
theorem webrtc_agree (main : Bytes) (fallbacks sup : List Bytes) (split : Nat)
    (hmain : WProposableMain main) (hfb : ∀ f ∈ fallbacks, WProposable f) :
    wPair main fallbacks sup split =
      match firstCommon (main :: fallbacks) sup with
      | some p => ⟨.succeeded p, some (.ok p)⟩
      | none => ⟨.failed, none⟩ := by
  rw [wPair_agree main fallbacks sup split hmain hfb]
  cases firstCommon (main :: fallbacks) sup <;> rfl

/-- Non-vacuity: `/a` with fallbacks `/b`, `/c` against a listener supporting `/c`, `/b` agrees on
`/b` (the dialer's order decides, not the listener's) for every grouping; disjoint names fail on the
dialer side and the listener never accepts. The length bound is exact: one byte more and `propose`
itself fails. -/
example :
    WProposableMain [47, 97] ∧ (∀ f ∈ [[47, 98], [47, 99]], WProposable f) ∧
    (∀ split ∈ [0, 1, 2, 3], wPair [47, 97] [[47, 98], [47, 99]] [[47, 99], [47, 98]] split =
      ⟨.succeeded [47, 98], some (.ok [47, 98])⟩) ∧
    firstCommon [[47, 97], [47, 98], [47, 99]] [[47, 99], [47, 98]] = some [47, 98] ∧
    wPair [47, 97] [[47, 98]] [[47, 99]] 3 = ⟨.failed, none⟩ ∧
    (∀ p : Bytes, maxFrameSize < p.length + 23 → webrtcEncode (.protocol p) true = none) := by
  refine ⟨by decide, by decide, by decide, by decide, by decide, webrtcEncode_proto_true_too_long⟩

/-- **A fallback name is reported as the main protocol.** `installed` are the protocols given to
`ProtocolSet::new` as `(main name, fallback names)`. If the negotiated name is a fallback name of
`main` — and of no other installed protocol, otherwise hash-map iteration order decides —
`report_substream_open` reports the substream to `main` with `fallback = Some(negotiated)`. A name
that is no fallback name is reported as itself with `fallback = None` if it is installed, and
refused (`ProtocolNotSupported`) if not. -/
theorem fallback_reported_as_main (installed : List (Bytes × List Bytes)) (negotiated : Bytes)
    (hu : ∀ e1 ∈ installed, ∀ e2 ∈ installed, negotiated ∈ e1.2 → negotiated ∈ e2.2 → e1.1 = e2.1) :
    (∀ e ∈ installed, negotiated ∈ e.2 → reportInstalled installed negotiated = some (e.1, some negotiated)) ∧
    ((∀ e ∈ installed, negotiated ∉ e.2) →
      (negotiated ∈ installed.map (·.1) → reportInstalled installed negotiated = some (negotiated, none)) ∧
      (negotiated ∉ installed.map (·.1) → reportInstalled installed negotiated = none)) := by
  have hl := lookup_build installed negotiated
  constructor
  · intro e he hmem
    cases hf : installed.find? (fun e => negotiated ∈ e.2) with
    | none =>
      have := List.find?_eq_none.mp hf e he
      simp [hmem] at this
    | some e' =>
      have he' := List.mem_of_find?_eq_some hf
      have hm' : negotiated ∈ e'.2 := by simpa using List.find?_some hf
      have heq : e'.1 = e.1 := hu e' he' e he hm' hmem
      rw [hf] at hl
      have hin : e.1 ∈ installed.map (·.1) := List.mem_map.mpr ⟨e, he, rfl⟩
      simp only [Option.map_some, heq] at hl
      simp only [reportInstalled, reportSubstreamOpen, hl, hin, if_true]
  · intro hno
    have hf : installed.find? (fun e => negotiated ∈ e.2) = none :=
      List.find?_eq_none.mpr (fun e he => by simpa using hno e he)
    rw [hf] at hl
    simp only [Option.map_none] at hl
    constructor
    · intro hin; simp only [reportInstalled, reportSubstreamOpen, hl, hin, if_true]
    · intro hin; simp only [reportInstalled, reportSubstreamOpen, hl, hin, if_false]

/-- Non-vacuity: `/m` with fallbacks `/f`, `/g` and `/x` without any. -/
example :
    reportInstalled [([47, 109], [[47, 102], [47, 103]]), ([47, 120], [])] [47, 103] = some ([47, 109], some [47, 103]) ∧
    reportInstalled [([47, 109], [[47, 102], [47, 103]]), ([47, 120], [])] [47, 109] = some ([47, 109], none) ∧
    reportInstalled [([47, 109], [[47, 102], [47, 103]]), ([47, 120], [])] [47, 120] = some ([47, 120], none) ∧
    reportInstalled [([47, 109], [[47, 102], [47, 103]]), ([47, 120], [])] [47, 122] = none ∧
    unambiguousB [([47, 109], [[47, 102], [47, 103]]), ([47, 120], [])] = true := by decide

end Litep2pVerif.Props.C03

open Litep2pVerif.Props.C03 in
#print axioms msg_roundtrip
open Litep2pVerif.Props.C03 in
#print axioms varint_roundtrip
open Litep2pVerif.Props.C03 in
#print axioms framing_transparent
open Litep2pVerif.Props.C03 in
#print axioms framing_progress
open Litep2pVerif.Props.C03 in
#print axioms framing_writer_exact
open Litep2pVerif.Props.C03 in
#print axioms flush_reaches_peer
open Litep2pVerif.Props.C03 in
#print axioms flush_completes
open Litep2pVerif.Props.C03 in
#print axioms negotiate_terminates
open Litep2pVerif.Props.C03 in
#print axioms negotiate_confluent
open Litep2pVerif.Props.C03 in
#print axioms negotiate_agree
open Litep2pVerif.Props.C03 in
#print axioms into_inner_safe
open Litep2pVerif.Props.C03 in
#print axioms webrtc_safe
open Litep2pVerif.Props.C03 in
#print axioms webrtc_agree
open Litep2pVerif.Props.C03 in
#print axioms fallback_reported_as_main
