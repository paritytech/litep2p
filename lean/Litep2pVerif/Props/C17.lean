import Litep2pVerif.Proofs.Kad.Store
import Litep2pVerif.Proofs.Kad.StoreRefine
import Litep2pVerif.Generated.Consts
import Litep2pVerif.Proofs.Node.Wiring
/-!
# C17 — The DHT record and provider store respects its bounds and freshness rules

The property theorems with non-vacuity examples: bounds and freshness of the store (model `Model/Kad/Store.lean`,
helper lemmas `Proofs/Kad/Store.lean`), the record store as a finite map with an admission rule
(`record_store_refines_map`, lemmas `Proofs/Kad/StoreRefine.lean`), and in namespace `Wiring` the
store bounds given to `kademlia::ConfigBuilder`.
-/
namespace Litep2pVerif.Props.C17
open Litep2pVerif Litep2pVerif.Kad.Store

/-- **Bounds.** After every sequence of operations on an empty store, for every configuration
(including bounds 0 and 1; per-key provider bound at least 1): records, value sizes, provider keys,
providers per key (strictly sorted by distance) and addresses per provider are within the
configured limits. -/
theorem store_bounds (cfg : Cfg) (hpk : 1 ≤ cfg.maxProvidersPerKey) (ops : List Op) :
    let s := run cfg ops
    s.records.length ≤ cfg.maxRecords ∧
    (∀ r ∈ s.records, r.value.length < cfg.maxRecordSize) ∧
    s.providerKeys.length ≤ cfg.maxProviderKeys ∧
    (∀ kv ∈ s.providerKeys,
      kv.2.length ≤ cfg.maxProvidersPerKey ∧
      kv.2.Pairwise (fun a b => a.dist < b.dist) ∧
      ∀ p ∈ kv.2, p.addrs.length ≤ cfg.maxProviderAddrs) := by
  intro s
  have h : Inv cfg s := foldl_inv hpk ops (inv_empty cfg)
  exact ⟨h.recLen, h.recSize, h.provLen,
    fun kv hkv => ⟨(h.provLists kv hkv).len, (h.provLists kv hkv).sorted, (h.provLists kv hkv).addrs⟩⟩

/-- The default configuration (constants regenerated from `kademlia/config.rs` on every run) meets
the hypothesis of `store_bounds`, so the bounds hold for a default-configured node. -/
theorem default_config_bounds (ttl : Nat) (ops : List Op) :
    let cfg : Cfg := ⟨Consts.DEFAULT_MAX_RECORDS, Consts.DEFAULT_MAX_RECORD_SIZE_BYTES,
      Consts.DEFAULT_MAX_PROVIDER_KEYS, Consts.DEFAULT_MAX_PROVIDER_ADDRESSES,
      Consts.DEFAULT_MAX_PROVIDERS_PER_KEY, ttl⟩
    let s := run cfg ops
    s.records.length ≤ Consts.DEFAULT_MAX_RECORDS ∧
    (∀ kv ∈ s.providerKeys, kv.2.length ≤ Consts.DEFAULT_MAX_PROVIDERS_PER_KEY) := by
  intro cfg s
  have hpk : 1 ≤ Consts.DEFAULT_MAX_PROVIDERS_PER_KEY := by decide
  have h := store_bounds cfg hpk ops
  exact ⟨h.1, fun kv hkv => (h.2.2.2 kv hkv).1⟩

/-- Non-vacuity: a configuration with bounds 1 on which a history fills every bound. -/
example :
    let cfg : Cfg := ⟨1, 4, 1, 2, 1, 10⟩
    let s := run cfg [.put ⟨7, [1, 2, 3], none⟩, .put ⟨8, [1], none⟩, .put ⟨7, [1, 2, 3, 4], none⟩,
      .putProvider 5 1 30 [0, 1, 2] 0, .putProvider 5 2 20 [0] 0, .putProvider 6 2 20 [0] 0]
    s.records = [⟨7, [1, 2, 3], none⟩] ∧ s.providerKeys = [(5, [⟨2, 20, [0], 10⟩])] := by
  decide

/-- **Freshness of records.** `get` never returns an expired record, and returns the record stored
under the requested key. -/
theorem no_expired_record (s : Store) (k now : Nat) (r : Rec) (h : (getRecord s k now).2 = some r) :
    r.expiredAt now = false ∧ r.key = k := by
  rw [get_result, Option.filter_eq_some_iff] at h
  exact ⟨by simpa using h.2, (lookupRec_some h.1).2⟩

example : (getRecord { records := [⟨1, [9], some 5⟩] } 1 5).2 = none ∧
    (getRecord { records := [⟨1, [9], some 5⟩] } 1 4).2 = some ⟨1, [9], some 5⟩ := by decide

/-- **Freshness of providers.** `get_providers` never returns an expired provider. -/
theorem no_expired_provider (s : Store) (k now : Nat) :
    ∀ p ∈ (getProviders s k now).2, p.expiredAt now = false := by
  intro p hp
  rw [getProviders_result] at hp
  simpa using (List.mem_filter.1 hp).2

example : (getProviders { providerKeys := [(3, [⟨1, 10, [], 5⟩, ⟨2, 20, [], 9⟩])] } 3 7).2 =
    [⟨2, 20, [], 9⟩] := by decide

/-- **TTL monotonicity.** A stored record with an expiry time is not replaced by a record for the
same key that expires earlier: the store is unchanged by such a `put`. -/
theorem ttl_monotone (cfg : Cfg) (s : Store) (old new : Rec) (e e' : Nat)
    (hstored : lookupRec new.key s.records = some old)
    (he : old.expires = some e) (he' : new.expires = some e') (hlt : e' < e) :
    put cfg s new = s := by
  unfold put
  split
  · rfl
  · simp only [hstored, he, he', if_pos hlt]

example : put ⟨4, 4, 4, 4, 4, 4⟩ { records := [⟨1, [9], some 5⟩] } ⟨1, [8], some 4⟩ =
    { records := [⟨1, [9], some 5⟩] } ∧
    put ⟨4, 4, 4, 4, 4, 4⟩ { records := [⟨1, [9], some 5⟩] } ⟨1, [8], some 5⟩ =
    { records := [⟨1, [8], some 5⟩] } := by decide

/-- **Re-announcement updates in place.** If the provider (identified by its distance, which is an
injective function of the peer id for a fixed key) is already in the sorted list at position `i`,
announcing it again replaces exactly that entry and is accepted. -/
theorem reannounce_in_place (m : Nat) (ps : List Prov) (p q : Prov) (i : Nat)
    (hs : ps.Pairwise (fun a b => a.dist < b.dist)) (hq : ps[i]? = some q) (hd : q.dist = p.dist) :
    putProvList m ps p = (ps.set i p, true) := by
  unfold putProvList
  rw [search_of_getElem hs hq hd]

example : putProvList 2 [⟨1, 10, [], 5⟩, ⟨2, 20, [], 5⟩] ⟨2, 20, [7], 9⟩ =
    ([⟨1, 10, [], 5⟩, ⟨2, 20, [7], 9⟩], true) := by decide

/-- **A re-announcement renews the provider's freshness.** If the provider is already stored under the key (position
`i` of the sorted list), announcing it again at time `t` is accepted and the stored entry is the NEW record as a whole:
until `t + ttl` (the expiry of the LAST announcement, whatever the expiry `q.expires` of the earlier one was)
`get_providers` returns the provider with the new addresses; from `t + ttl` on it returns no provider at that
distance. -/
theorem reannounce_renews_expiry (cfg : Cfg) (s : Store) (k peer dist : Nat) (addrs : List Nat) (t : Nat)
    (ps : List Prov) (q : Prov) (i : Nat)
    (hk : lookupProv k s.providerKeys = some ps)
    (hs : ps.Pairwise (fun a b => a.dist < b.dist)) (hq : ps[i]? = some q) (hd : q.dist = dist) :
    let fresh : Prov := ⟨peer, dist, addrs.take cfg.maxProviderAddrs, t + cfg.providerTtl⟩
    let s' := (putProvider cfg s k peer dist addrs t).1
    (putProvider cfg s k peer dist addrs t).2 = true ∧
    lookupProv k s'.providerKeys = some (ps.set i fresh) ∧
    (∀ now, now < t + cfg.providerTtl → fresh ∈ (getProviders s' k now).2) ∧
    (∀ now, t + cfg.providerTtl ≤ now → ∀ p ∈ (getProviders s' k now).2, p.dist ≠ dist) := by
  intro fresh s'
  have hput : putProvider cfg s k peer dist addrs t =
      ({ s with providerKeys := setProvKey k (ps.set i fresh) s.providerKeys }, true) := by
    unfold putProvider
    simp only [hk]
    rw [reannounce_in_place cfg.maxProvidersPerKey ps _ q i hs hq hd]
  have hlook : lookupProv k s'.providerKeys = some (ps.set i fresh) := by
    show lookupProv k (putProvider cfg s k peer dist addrs t).1.providerKeys = _
    rw [hput]; exact lookupProv_setProvKey hk
  have hi : i < ps.length := (List.getElem?_eq_some_iff.1 hq).1
  have hmem : fresh ∈ ps.set i fresh := List.mem_iff_getElem?.2 ⟨i, by simp [hi]⟩
  have hsorted : (ps.set i fresh).Pairwise (fun a b => a.dist < b.dist) := by
    have := insProv_sorted (p := fresh) hs
    rwa [insProv, search_of_getElem hs hq hd] at this
  refine ⟨by rw [hput], hlook, fun now hnow => ?_, fun now hnow p hp hpd => ?_⟩
  · rw [getProviders_result, hlook]
    exact List.mem_filter.2 ⟨hmem, by simpa [Prov.expiredAt, fresh] using hnow⟩
  · rw [getProviders_result, hlook] at hp
    obtain ⟨hpm, hexp⟩ := List.mem_filter.1 hp
    -- the same distance in a strictly sorted list: `p` is the renewed entry, which has expired
    rw [Sorted.eq_of_dist hsorted hpm hmem hpd] at hexp
    simp only [Prov.expiredAt, fresh, Bool.not_eq_true', decide_eq_false_iff_not, Nat.not_le] at hexp
    omega

/-- Non-vacuity: ttl 10, first announcement at 1000, re-announced at 1006 with other addresses: at 1012 (the first
expiry has passed) the provider is returned with the new addresses, at 1016 it is not. -/
example :
    let cfg : Cfg := ⟨4, 4, 4, 4, 4, 10⟩
    let s1 := (putProvider cfg {} 3 7 20 [1] 1000).1
    let s2 := (putProvider cfg s1 3 7 20 [5, 6] 1006).1
    (getProviders s2 3 1012).2 = [⟨7, 20, [5, 6], 1016⟩] ∧ (getProviders s2 3 1016).2 = [] := by decide

/-- **Only the closest are retained** (one announcement). For a sorted list within the per-key
bound and a provider not yet in it, the new list is the `m` closest of the old providers plus the
new one: the sorted insertion truncated to `m`; the announcement is refused exactly when the new
provider would land beyond the bound. -/
theorem providers_closest_step (m : Nat) (ps : List Prov) (p : Prov)
    (hlen : ps.length ≤ m)
    (hnew : ∀ q ∈ ps, q.dist ≠ p.dist) :
    (putProvList m ps p).1 = (ps.insertIdx (lowerBound p.dist ps) p).take m ∧
    ((putProvList m ps p).2 = false ↔ lowerBound p.dist ps = m) := by
  have hsr : search p.dist ps = .error (lowerBound p.dist ps) := by
    unfold search
    simp only
    split
    · next q hq => exact if_neg (hnew q (List.mem_of_getElem? hq))
    · rfl
  refine ⟨by rw [putProvList_eq p hlen, insProv, hsr], ?_⟩
  unfold putProvList
  rw [hsr]
  simp only
  split <;> simp [*]

example : (putProvList 2 [⟨1, 10, [], 5⟩, ⟨2, 20, [], 5⟩] ⟨3, 15, [], 5⟩).1 =
      [⟨1, 10, [], 5⟩, ⟨3, 15, [], 5⟩] ∧
    (putProvList 2 [⟨1, 10, [], 5⟩, ⟨2, 20, [], 5⟩] ⟨3, 25, [], 5⟩) =
      ([⟨1, 10, [], 5⟩, ⟨2, 20, [], 5⟩], false) := by decide

/-- **Only the closest are retained** (any number of announcements for one key). Folding the
bounded `put_provider` list update over ANY sequence of announcements (new providers and
re-announcements in any order) yields exactly the first `m` entries of the unbounded reference
list, which is strictly sorted by distance and contains precisely the announced distances (i.e.
providers; the latest announcement of each). Hence the retained providers are the `m` closest of
all announced, whatever the order of announcements. -/
theorem providers_closest (m : Nat) (anns : List Prov) :
    anns.foldl (fun l p => (putProvList m l p).1) [] = (anns.foldl insProv []).take m ∧
    (anns.foldl insProv []).Pairwise (fun a b => a.dist < b.dist) ∧
    ∀ d, d ∈ (anns.foldl insProv []).map (·.dist) ↔ d ∈ anns.map (·.dist) := by
  exact ⟨by simpa using foldl_putProvList_take m anns [], foldl_insProv_sorted anns (by simp [Sorted]),
    fun d => by simpa using foldl_insProv_dists anns [] d⟩

example : [⟨1, 30, [], 5⟩, ⟨2, 10, [], 5⟩, ⟨3, 20, [], 5⟩, ⟨1, 30, [9], 6⟩, ⟨4, 5, [], 5⟩].foldl
    (fun l p => (putProvList 2 l p).1) ([] : List Prov) = [⟨4, 5, [], 5⟩, ⟨2, 10, [], 5⟩] := by decide


/-- **The record store is a finite map with an admission rule (refinement).** With `lookupRec k s.records`
as the abstract content of key `k`: a `put` sets exactly the record's own key, and only when the admission
rule `putAccepts` (size below the bound; an entry with an expiry is not replaced by one expiring earlier; a
new key only below the record bound) holds — otherwise the store is unchanged; a `get` returns the content
of its key unless expired, removes at most that expired entry and touches no other key; provider operations
never touch a record. Hence what any later `get` returns after any history is determined by the admission
and expiry rules alone. -/
theorem record_store_refines_map (cfg : Cfg) (s : Store) (h : Inv cfg s) :
    (∀ r k, lookupRec k (put cfg s r).records =
        if k = r.key ∧ putAccepts cfg s r = true then some r else lookupRec k s.records) ∧
    (∀ r, putAccepts cfg s r = false → put cfg s r = s) ∧
    (∀ k now, (getRecord s k now).2 = (lookupRec k s.records).filter (fun r => !r.expiredAt now)) ∧
    (∀ k now k', lookupRec k' (getRecord s k now).1.records =
        if k' = k then (lookupRec k s.records).filter (fun r => !r.expiredAt now)
        else lookupRec k' s.records) ∧
    (∀ op, (match op with | .put _ => False | .get _ _ => False | _ => True) →
        (apply cfg s op).records = s.records) := by
  refine ⟨fun r k => put_lookup cfg s r k, ?_, fun k now => get_result s k now,
    fun k now k' => get_lookup h k now k', fun op hop => provider_ops_keep_records cfg s op hop⟩
  intro r hrej
  rw [put_eq, if_neg (by simp [hrej])]

/-- A record the store admitted is what the next `get` of its key returns (until it expires). -/
theorem put_then_get (cfg : Cfg) (s : Store) (r : Rec) (now : Nat)
    (ha : putAccepts cfg s r = true) (hne : r.expiredAt now = false) :
    (getRecord (put cfg s r) r.key now).2 = some r := by
  rw [get_result, put_lookup]
  simp [ha, Option.filter, hne]

/-- Non-vacuity: admission and rejection both occur, and an invariant-satisfying store exists. -/
example :
    let cfg : Cfg := ⟨2, 4, 1, 2, 1, 10⟩
    let s : Store := { records := [⟨1, [9], some 50⟩] }
    putAccepts cfg s ⟨1, [8], some 60⟩ = true ∧ putAccepts cfg s ⟨1, [8], some 40⟩ = false ∧
    putAccepts cfg s ⟨2, [8], none⟩ = true ∧ putAccepts cfg s ⟨2, [1, 2, 3, 4], none⟩ = false ∧
    (getRecord (put cfg s ⟨2, [8], none⟩) 2 1000).2 = some ⟨2, [8], none⟩ ∧
    (getRecord (put cfg s ⟨2, [8], none⟩) 1 50).2 = none := by
  decide

example : Inv ⟨2, 4, 1, 2, 1, 10⟩ { records := [⟨1, [9], some 50⟩] } := by
  constructor <;> simp

end Litep2pVerif.Props.C17

open Litep2pVerif.Props.C17 in
#print axioms store_bounds
open Litep2pVerif.Props.C17 in
#print axioms default_config_bounds
open Litep2pVerif.Props.C17 in
#print axioms no_expired_record
open Litep2pVerif.Props.C17 in
#print axioms no_expired_provider
open Litep2pVerif.Props.C17 in
#print axioms ttl_monotone
open Litep2pVerif.Props.C17 in
#print axioms reannounce_in_place
open Litep2pVerif.Props.C17 in
#print axioms reannounce_renews_expiry
open Litep2pVerif.Props.C17 in
#print axioms providers_closest_step
open Litep2pVerif.Props.C17 in
#print axioms providers_closest
open Litep2pVerif.Props.C17 in
#print axioms record_store_refines_map
open Litep2pVerif.Props.C17 in
#print axioms put_then_get

/-! ## Wiring — the memory-store bounds given to `kademlia::ConfigBuilder` (added after seeded C17-e1)

Over the wiring model `Model/Node/Wiring.lean` (`Node.new c` = `Litep2p::new(ConfigBuilder…build())`, `notes` / `tcpHeld` =
what the constructed protocol objects / the TCP transport hold, `protocolCodec` = `ProtocolSet::protocol_codec`), tied to
the real code by the `node` area: real nodes built through the public API print what the CONSTRUCTED objects hold and what
a connection's `ProtocolSet` answers for every main and fallback name; the driver prints the model's; compared exactly. -/
namespace Litep2pVerif.Props.C17.Wiring
open Litep2pVerif Litep2pVerif.Node

/-- Kademlia setter calls of the sample: a later call overrides an earlier one; zero bounds. -/
def sampleSets : List KadSet := [.maxRecords 5, .replication 3, .maxRecords 0, .maxProviderKeys 0, .validationMode false]

/-- A configuration with fallback names, zero store bounds and non-default transport settings (non-vacuity examples). -/
def sample : Config :=
  { keepAliveMs := some 600, listen := [1],
    notif := [{ name := "/n/new", max := 32, handshake := "01", fallback := ["/n/a"], mode := 'a', sync := some 7, async := none,
                dial := some false }],
    rr := [{ name := "/r/new", max := 256, timeoutMs := 800, fallback := ["/r/a", "/r/b"], maxInbound := some 3 }],
    user := [⟨"/u/a", .identity 8⟩],
    kad := [{ names := ["/k/2", "/k/1"], max := some 2048,
              sets := sampleSets }],
    ping := some 1, identify := true, bitswap := true, maxParallelDials := some 0,
    tcpSets := [.readAhead 3, .parallelDials 7, .writeBuffer 4] }

/-- The `MemoryStore` of every configured Kademlia instance is constructed with exactly the bounds the user's builder calls
leave (`kadBuild`: defaults, then the setters in call order; `build()` passes them on unchanged), and a bound set last to
`n` IS `n` — zero included: a store configured to hold no record / no provider key holds none. -/
theorem store_config_reaches_protocol (c : Config) :
    (∀ k ∈ c.kad, Note.kad (kadBuild k.sets) ∈ notes (build c)) ∧
    ∀ (sets : List KadSet) (n : Nat),
      (kadBuild (sets ++ [.maxRecords n])).store.maxRecords = n ∧
      (kadBuild (sets ++ [.maxRecordSize n])).store.maxRecordSize = n ∧
      (kadBuild (sets ++ [.maxProviderKeys n])).store.maxProviderKeys = n ∧
      (kadBuild (sets ++ [.maxProviderAddresses n])).store.maxProviderAddresses = n ∧
      (kadBuild (sets ++ [.maxProvidersPerKey n])).store.maxProvidersPerKey = n ∧
      (kadBuild (sets ++ [.providerRefresh n])).store.providerRefreshMs = n ∧
      (kadBuild (sets ++ [.providerTtl n])).store.providerTtlMs = n := by
  refine ⟨fun k hk => notes_kad_mem _ hk, fun sets n => ?_⟩
  simp only [kadBuild_append, KadSet.apply, and_self]

example : Note.kad (kadBuild sampleSets) ∈ notes (build sample) ∧ (kadBuild sampleSets).store.maxRecords = 0 ∧
    (kadBuild sampleSets).store.maxProviderKeys = 0 ∧
    (kadBuild sampleSets).store.maxRecordSize = Consts.NODE_KAD_MAX_RECORD_SIZE := by decide

end Litep2pVerif.Props.C17.Wiring

#print axioms Litep2pVerif.Props.C17.Wiring.store_config_reaches_protocol
