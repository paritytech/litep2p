import Litep2pVerif.Proofs.Noise.XX
import Litep2pVerif.Generated.Consts
/-!
# C01 — Noise handshake authenticates the remote peer identity

Property theorems only (models: `Model/Noise/Identity.lean`, `Model/Noise/XX.lean`; helper lemmas:
`Proofs/Noise/{Identity,XX}.lean`). Cryptography enters as the parameter structures `Crypto`/`DH` whose laws
(`Laws`, `DH.Laws`) are hypotheses; `free_laws` shows that both are satisfiable.

Part 1: the identity check (`parse_and_verify_peer_id`, payload decoding, dialed-peer test), on bytes.
Part 2: the XX exchange as `handshake()` runs it, symbolically, against arbitrary attackers.

OBSERVATION (not a violation of C01): litep2p derives the peer id from the *received* identity-key bytes
(`PeerId::from_public_key_protobuf(&identity)`), the libp2p reference re-encodes the decoded key. A non-canonical
protobuf encoding of a valid key is therefore accepted under a peer id that differs from the reference's id of the
same key (`canonical_id`). The signature check still binds that id's key to the session.
-/
namespace Litep2pVerif.Props.C01
open Litep2pVerif Litep2pVerif.Wire Litep2pVerif.Id Litep2pVerif.Noise.Identity Litep2pVerif.Noise.XX

/-! ## Part 1 — the identity check -/

/-- The laws assumed of the signature scheme are satisfiable (free term instance: a signature *is* the pair
(key, message)), and so are those of the DH group. -/
theorem free_laws : Laws freeCrypto ∧ freeDH.Laws := by
  refine ⟨Litep2pVerif.Noise.Identity.free_laws, ?_⟩
  constructor
  · intro n; simp [freeDH, freeDhSec, freeDhPub]
  · intro b n h
    simp only [freeDH, freeDhSec] at h
    split at h
    · rename_i k hk
      split at h
      · rename_i ht
        cases h
        rw [← List.take_append_drop 31 b, ht, hk]; rfl
      · simp at h
    · simp at h
  · intro n; simp [freeDH, freeDhPub]

example : freeCrypto.verify (freeCrypto.pubOf 3) [1, 2] (freeCrypto.sign 3 [1, 2]) = true ∧
    freeCrypto.verify (freeCrypto.pubOf 3) [1, 2] (freeCrypto.sign 4 [1, 2]) = false := by decide

/-- What an honest node sends is accepted, under the peer id `00 24 ‖ canonical key encoding`. -/
theorem honest_payload_accepted (c : Crypto) (L : Laws c) (k : Nat) (rs : Bytes) (hrs : rs.length = 32) :
    parseAndVerify c (honestPayload c k rs) rs = .ok ⟨⟨IDENTITY_CODE, toU8 (keyEncoding (c.pubOf k))⟩⟩ := by
  rw [honestPayload, parseAndVerify_pubOf c L k _ rs (by have := L.sig_len k rs hrs; omega), L.verify_sign]
  rfl

/-- **Soundness of acceptance.** If `handshake()`'s identity check returns peer id `P` for a payload and the remote static key `rs` of the Noise session, then the payload decodes, carries identity-key bytes `kb` that decode to a key, carries a signature that this key verifies over `"noise-libp2p-static-key:" ++ rs`, and `P` is the peer id derived from exactly the received bytes `kb`. -/
theorem accept_sound (c : Crypto) (payload rs : Bytes) (P : PeerId)
    (h : parseAndVerify c payload rs = .ok P) :
    ∃ pl kb key sig, NoisePayload.decode payload = some pl ∧ pl.identityKey = some kb ∧
      pl.identitySig = some sig ∧ remotePublicKey c.validPoint kb = .ok key ∧
      c.verify key (STATIC_KEY_DOMAIN ++ rs) sig = true ∧ peerIdOfEncoding c kb = .ok P :=
  (parseAndVerify_ok_iff c payload rs P).1 h

/-- Non-vacuity: the honest payload of identity 3 for static key `freeDhPub 7` is accepted. -/
theorem honest_payload_accepted' : ∃ P, parseAndVerify freeCrypto (honestPayload freeCrypto 3 (freeDhPub 7)) (freeDhPub 7) = .ok P :=
  ⟨_, honest_payload_accepted freeCrypto free_laws.1 3 (freeDhPub 7) (by decide)⟩

/-- **Missing identity key** ⇒ `PeerIdMissing`. -/
theorem reject_missing_key (c : Crypto) (payload rs : Bytes) (pl : NoisePayload)
    (hd : NoisePayload.decode payload = some pl) (hk : pl.identityKey = none) :
    parseAndVerify c payload rs = .error .peerIdMissing := by
  simp [parseAndVerify, hd, checkPayload, hk]

example : parseAndVerify freeCrypto [] [] = .error .peerIdMissing := by decide

/-- **Missing signature** ⇒ `BadSignature`. -/
theorem reject_missing_sig (c : Crypto) (payload rs : Bytes) (pl : NoisePayload) (kb key : Bytes)
    (hd : NoisePayload.decode payload = some pl) (hk : pl.identityKey = some kb)
    (hkey : remotePublicKey c.validPoint kb = .ok key) (hs : pl.identitySig = none) :
    parseAndVerify c payload rs = .error .badSignature := by
  simp [parseAndVerify, hd, checkPayload, hk, hkey, hs]

example : parseAndVerify freeCrypto (encodePayload (keyEncoding (freePub 3)) [] |>.take 38) [] = .error .badSignature := by decide

/-- **Signature that does not verify** (wrong bytes, other message, other key) ⇒ `BadSignature`. -/
theorem reject_bad_sig (c : Crypto) (hsha : ∀ x, (c.sha256 x).length = 32) (payload rs : Bytes) (pl : NoisePayload)
    (kb key sig : Bytes)
    (hd : NoisePayload.decode payload = some pl) (hk : pl.identityKey = some kb)
    (hkey : remotePublicKey c.validPoint kb = .ok key) (hs : pl.identitySig = some sig)
    (hv : c.verify key (STATIC_KEY_DOMAIN ++ rs) sig = false) :
    parseAndVerify c payload rs = .error .badSignature := by
  obtain ⟨P, hP⟩ := peerIdOfEncoding_total c hsha kb
  simp [parseAndVerify, hd, checkPayload, hk, hkey, hs, hP, hv]

example : parseAndVerify freeCrypto (encodePayload (keyEncoding (freePub 3)) [1, 2, 3]) [] = .error .badSignature := by decide

/-- **Identity key that does not decode** — protobuf error, unknown/unsupported key type, wrong length or invalid curve point ⇒ the corresponding `ParseError`, never an accepted peer. -/
theorem reject_undecodable_key (c : Crypto) (payload rs : Bytes) (pl : NoisePayload) (kb : Bytes)
    (hd : NoisePayload.decode payload = some pl) (hk : pl.identityKey = some kb) :
    (remotePublicKey c.validPoint kb = .decodeErr → parseAndVerify c payload rs = .error .keyDecode) ∧
    (remotePublicKey c.validPoint kb = .unknownKeyType → parseAndVerify c payload rs = .error .unknownKeyType) ∧
    (remotePublicKey c.validPoint kb = .invalidData → parseAndVerify c payload rs = .error .invalidKey) ∧
    ((∀ key, remotePublicKey c.validPoint kb ≠ .ok key) → ∀ P, parseAndVerify c payload rs ≠ .ok P) := by
  refine ⟨?_, ?_, ?_, ?_⟩
  · intro h; simp [parseAndVerify, hd, checkPayload, hk, h]
  · intro h; simp [parseAndVerify, hd, checkPayload, hk, h]
  · intro h; simp [parseAndVerify, hd, checkPayload, hk, h]
  · intro h P hP
    obtain ⟨pl', kb', key, sig, h1, h2, _, h4, _⟩ := accept_sound c payload rs P hP
    rw [hd] at h1; cases h1
    rw [hk] at h2; cases h2
    exact h key h4

example : parseAndVerify freeCrypto (encodePayload [8, 2, 18, 0] []) [] = .error .unknownKeyType ∧
    parseAndVerify freeCrypto (encodePayload [8, 1, 18, 1, 7] []) [] = .error .invalidKey ∧
    parseAndVerify freeCrypto (encodePayload [8] []) [] = .error .keyDecode ∧
    parseAndVerify freeCrypto [10] [] = .error .parse := by decide

/-- **Bound to the session.** Under the signature laws, a signature made over another static key `rs' ≠ rs` — e.g. one replayed from another session of the same identity — is rejected. -/
theorem bound_to_session (c : Crypto) (L : Laws c) (k k' : Nat) (rs rs' : Bytes) (hrs : rs'.length = 32)
    (hne : rs' ≠ rs) :
    parseAndVerify c (encodePayload (keyEncoding (c.pubOf k)) (c.sign k' (STATIC_KEY_DOMAIN ++ rs'))) rs
      = .error .badSignature := by
  have hv : c.verify (c.pubOf k) (STATIC_KEY_DOMAIN ++ rs) (c.sign k' (STATIC_KEY_DOMAIN ++ rs')) ≠ true :=
    fun hvv => hne (List.append_cancel_left (L.sign_binds _ _ _ _ hvv).2).symm
  rw [parseAndVerify_pubOf c L k _ rs (by have := L.sig_len k' rs' hrs; omega), if_neg hv]

example : parseAndVerify freeCrypto (encodePayload (keyEncoding (freePub 3))
    (freeSign 3 (STATIC_KEY_DOMAIN ++ freeDhPub 8))) (freeDhPub 7) = .error .badSignature :=
  bound_to_session freeCrypto free_laws.1 3 3 (freeDhPub 7) (freeDhPub 8) (by decide) (by decide)

/-- **Bound to the identity.** A signature over the right static key by another identity `k' ≠ k` than the advertised one is rejected. -/
theorem bound_to_identity (c : Crypto) (L : Laws c) (k k' : Nat) (rs : Bytes) (hrs : rs.length = 32) (hne : k ≠ k') :
    parseAndVerify c (encodePayload (keyEncoding (c.pubOf k)) (c.sign k' (STATIC_KEY_DOMAIN ++ rs))) rs
      = .error .badSignature := by
  have hv : c.verify (c.pubOf k) (STATIC_KEY_DOMAIN ++ rs) (c.sign k' (STATIC_KEY_DOMAIN ++ rs)) ≠ true :=
    fun hvv => hne (L.sign_binds _ _ _ _ hvv).1
  rw [parseAndVerify_pubOf c L k _ rs (by have := L.sig_len k' rs hrs; omega), if_neg hv]

example : parseAndVerify freeCrypto (encodePayload (keyEncoding (freePub 3))
    (freeSign 4 (STATIC_KEY_DOMAIN ++ freeDhPub 7))) (freeDhPub 7) = .error .badSignature :=
  bound_to_identity freeCrypto free_laws.1 3 4 (freeDhPub 7) (by decide) (by decide)

/-- **Dialed peer.** `negotiate_connection` goes on only if the proven identity equals the dialed one. -/
theorem dialed_mismatch (d P Q : PeerId) (h : negotiateCheck (some d) P = .ok Q) : d = P ∧ Q = P := by
  by_cases hd : d = P
  · simp only [negotiateCheck, hd, ne_eq, not_true_eq_false, if_false, Except.ok.injEq] at h
    exact ⟨hd, h.symm⟩
  · simp [negotiateCheck, hd] at h

example : negotiateCheck (some ⟨⟨0, [1]⟩⟩) ⟨⟨0, [2]⟩⟩ = .error .peerIdMismatch ∧
    negotiateCheck (some ⟨⟨0, [1]⟩⟩) ⟨⟨0, [1]⟩⟩ = .ok ⟨⟨0, [1]⟩⟩ ∧ negotiateCheck none ⟨⟨0, [2]⟩⟩ = .ok ⟨⟨0, [2]⟩⟩ := by decide


/-- **Dialed peer, for every address family and both entry points of the transport.** The expectation
`negotiate_connection` is given is the `/p2p` suffix of the address handed to `TcpTransport::open` /
`TcpTransport::dial`, whatever the host component (`/ip4`, `/ip6`, `/dns`, `/dns4`, `/dns6`) and whatever follows the
`/p2p`: (1) it is `some d` through both entry points — `open` derives it from the address `dial_peer` returns, which is
the address it was given; (2) a node that proves any other identity `P ≠ d` gets `PeerIdMismatch`; (3) so a result
`ok Q` means `d = P = Q`: no opened / established connection for a node that proved a different identity.
(Without a `/p2p` suffix there is no expectation and every proven identity is accepted: clause 4.)
`d` ranges over EVERY `PeerId`, i.e. every representation `from_multihash` accepts; clause (5) spells out the case the
comparison could get wrong — the expectation written in SHA2-256 form (`IdForm.sha256`, "Qm…") of any key `kb'` while
the handshake derives the inlined id `P` of key `kb` (`|kb| ≤ MAX_INLINE_KEY_LENGTH`: every Ed25519 key): the ids are
compared structurally, the result is `PeerIdMismatch` — for a different key as the property demands, and for the same
key (`kb' = kb`) as well; (6) for every form `f` of the expectation, a connection is reported only under the proven id
and only if the written expectation IS the proven id. -/
theorem dialed_mismatch_any_address_family (e : Entry) (h : Host) (d : PeerId) (tail : DialedAddr) :
    entryDialedPeer e (.host h :: .tcp :: .p2p d :: tail) = some d ∧
    (∀ P, d ≠ P → transportCheck e (.host h :: .tcp :: .p2p d :: tail) P = .error .peerIdMismatch) ∧
    (∀ P Q, transportCheck e (.host h :: .tcp :: .p2p d :: tail) P = .ok Q → d = P ∧ Q = P) ∧
    (∀ P, transportCheck e [.host h, .tcp] P = .ok P) ∧
    (∀ (c : Crypto) (kb kb' : Bytes) (P : PeerId), kb.length ≤ Consts.MAX_INLINE_KEY_LENGTH →
      peerIdOfEncoding c kb = .ok P → hashedIdOfEncoding c kb' = some d →
      transportCheck e (.host h :: .tcp :: .p2p d :: tail) P = .error .peerIdMismatch) ∧
    (∀ (c : Crypto) (f : IdForm) (kb' : Bytes) (P Q : PeerId), expectedIdOf c f kb' = some d →
      transportCheck e (.host h :: .tcp :: .p2p d :: tail) P = .ok Q → Q = P ∧ expectedIdOf c f kb' = some P) := by
  have hexp : entryDialedPeer e (.host h :: .tcp :: .p2p d :: tail) = some d := by
    cases e <;> simp [entryDialedPeer, dialPeerAddress, expectedPeer, parseDialed]
  have hnone : entryDialedPeer e [.host h, .tcp] = none := by
    cases e <;> simp [entryDialedPeer, dialPeerAddress, expectedPeer, parseDialed]
  have hmis : ∀ P, d ≠ P → transportCheck e (.host h :: .tcp :: .p2p d :: tail) P = .error .peerIdMismatch := by
    intro P hne
    simp [transportCheck, hexp, negotiateCheck, hne]
  have hok : ∀ P Q, transportCheck e (.host h :: .tcp :: .p2p d :: tail) P = .ok Q → d = P ∧ Q = P := by
    intro P Q hc
    rw [transportCheck, hexp] at hc
    exact dialed_mismatch d P Q hc
  refine ⟨hexp, hmis, hok, ?_, ?_, ?_⟩
  · intro P
    simp [transportCheck, hnone, negotiateCheck]
  · intro c kb kb' P hlen hP hd
    apply hmis
    intro heq
    subst heq
    -- the derived id of a short encoding carries the identity code, the hashed form the SHA2-256 code
    have h1 := derived_short_code c kb d hlen hP
    have h2 := hashed_code c kb' d hd
    rw [h1] at h2
    exact absurd h2 (by decide)
  · intro c f kb' P Q hd hc
    obtain ⟨h1, h2⟩ := hok P Q hc
    exact ⟨h2, h1 ▸ hd⟩

example :
    transportCheck .open [.host .dns4, .tcp, .p2p ⟨⟨0, [1]⟩⟩] ⟨⟨0, [2]⟩⟩ = .error .peerIdMismatch ∧
    transportCheck .open [.host .dns, .tcp, .p2p ⟨⟨0, [1]⟩⟩] ⟨⟨0, [2]⟩⟩ = .error .peerIdMismatch ∧
    transportCheck .open [.host .dns6, .tcp, .p2p ⟨⟨0, [1]⟩⟩] ⟨⟨0, [2]⟩⟩ = .error .peerIdMismatch ∧
    transportCheck .open [.host .ip4, .tcp, .p2p ⟨⟨0, [1]⟩⟩] ⟨⟨0, [2]⟩⟩ = .error .peerIdMismatch ∧
    transportCheck .dial [.host .ip6, .tcp, .p2p ⟨⟨0, [1]⟩⟩, .other] ⟨⟨0, [2]⟩⟩ = .error .peerIdMismatch ∧
    transportCheck .open [.host .dns4, .tcp, .p2p ⟨⟨0, [1]⟩⟩] ⟨⟨0, [1]⟩⟩ = .ok ⟨⟨0, [1]⟩⟩ ∧
    transportCheck .dial [.host .dns, .tcp] ⟨⟨0, [2]⟩⟩ = .ok ⟨⟨0, [2]⟩⟩ ∧
    expectedPeer [.host .dns4, .other, .p2p ⟨⟨0, [1]⟩⟩] = none := by decide

/-- Non-vacuity of clauses (5), (6): key 3's encoding (36 bytes) has an inlined id; its own SHA2-256 form and the
SHA2-256 form of key 4 both exist, differ from it, and are answered with `PeerIdMismatch` through `open` and `dial`. -/
example :
    let c := freeCrypto
    let kb := keyEncoding (c.pubOf 3)
    ∃ P x y, peerIdOfEncoding c kb = .ok P ∧ kb.length ≤ Consts.MAX_INLINE_KEY_LENGTH ∧
      expectedIdOf c .sha256 kb = some x ∧ expectedIdOf c .sha256 (keyEncoding (c.pubOf 4)) = some y ∧
      expectedIdOf c .derived kb = some P ∧
      transportCheck .open [.host .dns, .tcp, .p2p x] P = .error .peerIdMismatch ∧
      transportCheck .dial [.host .ip4, .tcp, .p2p y] P = .error .peerIdMismatch ∧
      transportCheck .open [.host .ip6, .tcp, .p2p P] P = .ok P := by
  refine ⟨_, _, _, rfl, by decide, rfl, rfl, rfl, by decide, by decide, by decide⟩


/-- **Observation: the peer id is the hash of the RECEIVED key bytes.** For an accepted payload whose key bytes `kb`
decode to `key`: the accepted id is the id of `kb`; it is the reference id (of the canonical re-encoding
`keyEncoding key`) if `kb` is canonical, and it differs from it for every other inlined encoding of the same key. -/
theorem canonical_id (c : Crypto) (payload rs : Bytes) (P : PeerId) (h : parseAndVerify c payload rs = .ok P) :
    ∃ kb key, remotePublicKey c.validPoint kb = .ok key ∧ peerIdOfEncoding c kb = .ok P ∧
      (kb = keyEncoding key → peerIdOfEncoding c (keyEncoding key) = .ok P) ∧
      (kb.length ≤ Consts.MAX_INLINE_KEY_LENGTH → toU8 kb ≠ toU8 (keyEncoding key) →
        peerIdOfEncoding c (keyEncoding key) ≠ .ok P) := by
  obtain ⟨pl, kb, key, sig, _, _, _, hkey, _, hP⟩ := accept_sound c payload rs P h
  refine ⟨kb, key, hkey, hP, fun e => e ▸ hP, ?_⟩
  intro hlen hne hcan
  have hk32 : key.length = 32 := by
    unfold remotePublicKey at hkey
    split at hkey
    · simp at hkey
    · split at hkey
      · split at hkey
        · rename_i hc; simp only [KeyResult.ok.injEq] at hkey; subst hkey; exact hc.1
        · simp at hkey
      · simp at hkey
  have h1 := peerIdOfEncoding_inline c kb hlen
  have h2 := peerIdOfEncoding_inline c (keyEncoding key) (by simp [keyEncoding, hk32]; decide)
  rw [h1] at hP; rw [h2] at hcan
  simp only [Except.ok.injEq] at hP hcan
  rw [← hP] at hcan
  simp only [PeerId.mk.injEq, Multihash.Multihash.mk.injEq, true_and] at hcan
  exact hne hcan.symm

/-- Non-vacuity: the same key with its two protobuf fields in the other order is accepted by the key decoder and has
another (inlined) encoding. -/
example : remotePublicKey freeCrypto.validPoint ([18, 32] ++ freePub 3 ++ [8, 1]) = .ok (freePub 3) ∧
    toU8 ([18, 32] ++ freePub 3 ++ [8, 1]) ≠ toU8 (keyEncoding (freePub 3)) := by decide

/-! ## Part 2 — the XX exchange under attack -/

/-- **Honest run.** Two honest parties over a network that delivers everything both return a socket for the other's
identity, bound to the other's static key (for all keys; under the laws). -/
theorem honest_accepts (E : Env) (hc : Laws E.c) (hg : E.g.Laws) (D L : Party) (eof : Bool) :
    resolve eof (run1 E D L honestNet) =
      (.ok (idOf E.c L.id) (E.g.pubB L.s), .ok (idOf E.c D.id) (E.g.pubB D.s)) := by
  have h := Litep2pVerif.Noise.XX.honest_accepts E hc hg D L
  exact Prod.ext (resolve_ok_of.1 (by rw [h])) (resolve_ok_of.2 (by rw [h]))

set_option maxRecDepth 100000 in
example : resolve true (run1 freeEnv ⟨5, 1, 2⟩ ⟨6, 3, 4⟩ honestNet) =
    (.ok (idOf freeCrypto 6) (freeDhPub 4), .ok (idOf freeCrypto 5) (freeDhPub 2)) :=
  honest_accepts freeEnv free_laws.1 free_laws.2 _ _ _

/-- **No wrong identity, whatever the attacker does.** For EVERY attacker function (no restriction: it may know
all secrets but the signing keys' laws), a side whose `handshake()` returns `ok P` with a socket bound to the remote
static key `rs` has: accepted, in its own Noise state, a message from which exactly `rs` was decrypted as remote
static key (the session keys `ss` are derived from it), and verified a signature of the key encoded in `P` over
`rs` (`Verified`). -/
theorem tamper_no_wrong_identity (E : Env) (D L : Party) (A : Attacker) (eof : Bool) (P : PeerId) (rs : Bytes) :
    ((resolve eof (run1 E D L A)).1 = .ok P rs →
      ∃ x2 ss re rsT plT, dRead2 E D (dWrite1 E D).2 x2 = some (ss, re, rsT, plT) ∧ rs = termBytes rsT ∧
        Verified E.c (termBytes plT) rs P) ∧
    ((resolve eof (run1 E D L A)).2 = .ok P rs →
      ∃ x1 ssL reL x3 ss rsT plT, lRead1 SS.init x1 = some (ssL, reL) ∧
        lRead3 E L (lWrite2 E L ssL reL (L.payload E)).2 x3 = some (ss, rsT, plT) ∧ rs = termBytes rsT ∧
        Verified E.c (termBytes plT) rs P) := by
  constructor
  · intro h
    have h' := resolve_ok_inv.1 h
    simp only [run1] at h'
    obtain ⟨x2, ss, re, rsT, plT, _, hr, hrs, hv⟩ := stageD2_ok_inv h'
    exact ⟨x2, ss, re, rsT, plT, hr, hrs, accept_sound _ _ _ _ hv⟩
  · intro h
    have h' := resolve_ok_inv.2 h
    simp only [run1] at h'
    obtain ⟨x1, ssL, reL, x3, ss', rsT, plT, hr1, _, _, hr3, hrs, hv⟩ := stageL3_ok_inv h'
    exact ⟨x1, ssL, reL, x3, ss', rsT, plT, hr1, hr3, hrs, accept_sound _ _ _ _ hv⟩

/- Non-vacuity: a rogue dialer with its own keys and an honest payload of its own identity IS accepted by the
listener — as the rogue's identity 9, bound to the rogue's static key 92 (never as anybody else). -/
set_option maxRecDepth 100000 in
example : (resolve false (run1 freeEnv ⟨0, 1, 2⟩ ⟨6, 3, 4⟩
    (rogueDialer freeEnv ⟨9, 91, 92⟩ (honestPayload freeCrypto 9 (freeDhPub 92))))).2 =
    .ok (idOf freeCrypto 9) (freeDhPub 92) := by decide

/-- The same for two concurrent sessions whose messages the attacker may mix at will: each of the four results. -/
theorem tamper_no_wrong_identity_two_sessions (E : Env) (D L D' L' : Party) (A : Attacker2) (eof : Bool)
    (P : PeerId) (rs : Bytes) :
    ((resolve eof (run2 E D L D' L' A).1).1 = .ok P rs → ∃ pl, Verified E.c pl rs P) ∧
    ((resolve eof (run2 E D L D' L' A).1).2 = .ok P rs → ∃ pl, Verified E.c pl rs P) ∧
    ((resolve eof (run2 E D L D' L' A).2).1 = .ok P rs → ∃ pl, Verified E.c pl rs P) ∧
    ((resolve eof (run2 E D L D' L' A).2).2 = .ok P rs → ∃ pl, Verified E.c pl rs P) := by
  have hd : ∀ {D x}, (stageD2 E D x).res = .ok P rs → ∃ pl, Verified E.c pl rs P := fun h =>
    have ⟨_, _, _, _, _, _, _, _, hv⟩ := stageD2_ok_inv h
    ⟨_, accept_sound _ _ _ _ hv⟩
  have hl : ∀ {L xa x}, stageL3 E L (stageL1 E L xa) x = .ok P rs → ∃ pl, Verified E.c pl rs P := fun h =>
    have ⟨_, _, _, _, _, _, _, _, _, _, _, _, hv⟩ := stageL3_ok_inv h
    ⟨_, accept_sound _ _ _ _ hv⟩
  exact ⟨fun h => hd (resolve_ok_inv.1 h), fun h => hl (resolve_ok_inv.2 h),
    fun h => hd (resolve_ok_inv.1 h), fun h => hl (resolve_ok_inv.2 h)⟩

set_option maxRecDepth 100000 in
example : (resolve false (run2 freeEnv ⟨5, 1, 2⟩ ⟨6, 3, 4⟩ ⟨7, 11, 12⟩ ⟨8, 13, 14⟩ (scripted2 false .swap .swap .swap)).1).1 =
    .ok (idOf freeCrypto 8) (freeDhPub 14) := by decide

/-- **An honest identity can only be bound to the static key its owner signed.** Under the signature laws: if the
accepted payload advertises the key of identity `k` and its signature was made by ANY signing operation
`sign k' m'` (the only way signatures come into existence in the model), then `k' = k` and `m'` is this session's
static key; since an honest node signs nothing but its own static keys (`Party.payload`), `rs` is a static key of
node `k` — a payload replayed from another session, or a rogue's session under an honest identity, is impossible. -/
theorem honest_identity_binds_static (c : Crypto) (hc : Laws c) (p : NoisePayload) (rs : Bytes) (P : PeerId)
    (kb : Bytes) (k k' : Nat) (m' : Bytes)
    (h : checkPayload c p rs = .ok P) (hk : p.identityKey = some kb)
    (hkey : remotePublicKey c.validPoint kb = .ok (c.pubOf k)) (hs : p.identitySig = some (c.sign k' m')) :
    k' = k ∧ m' = STATIC_KEY_DOMAIN ++ rs ∧ ∀ st, m' = STATIC_KEY_DOMAIN ++ st → rs = st := by
  obtain ⟨kb', key, sig, e1, e2, e3, hv, -⟩ := (checkPayload_ok_iff c p rs P).1 h
  rw [hk] at e1; cases e1
  rw [hs] at e2; cases e2
  rw [hkey] at e3; cases e3
  obtain ⟨h1, h2⟩ := hc.sign_binds _ _ _ _ hv
  exact ⟨h1.symm, h2.symm, fun st hst => List.append_cancel_left (hst ▸ h2)⟩

set_option maxRecDepth 100000 in
example : checkPayload freeCrypto
    { identityKey := some (keyEncoding (freePub 3)), identitySig := some (freeSign 3 (STATIC_KEY_DOMAIN ++ freeDhPub 7)) }
    (freeDhPub 7) = .ok (idOf freeCrypto 3) := by decide

/-- **Tampering makes the receiver fail.** For every attacker that encrypts nothing itself (`Passive`: it may drop,
delay, truncate, extend, garble, duplicate, reflect and re-order what it saw, and add any plaintext or garbage —
e.g. every scripted action of the correspondence runs, `scripted_passive`), in every run:
if the dialer returns `ok`, the listener had sent message 2 in answer to exactly the dialer's message 1 and the
dialer received exactly that message 2; if the listener returns `ok`, then moreover the dialer had sent message 3 in
answer to it and the listener received exactly that message 3. Contrapositive: whichever side receives a message
that differs from the one sent returns an error and never a socket. (An attacker WITH own keys is a rogue peer: see
`tamper_no_wrong_identity`, `honest_identity_binds_static`.) -/
theorem tamper_receiver_fails (E : Env) (D L : Party) (A : Attacker) (hP : Passive A) (eof : Bool) :
    (∀ P rs, (resolve eof (run1 E D L A)).1 = .ok P rs →
      (stageL1 E L (A.a1 (hm1 E D))).msg? = some (hm2 E D L) ∧
      A.a2 (hm1 E D) (some (hm2 E D L)) = .msg (hm2 E D L)) ∧
    (∀ P rs, (resolve eof (run1 E D L A)).2 = .ok P rs →
      (stageL1 E L (A.a1 (hm1 E D))).msg? = some (hm2 E D L) ∧
      A.a2 (hm1 E D) (some (hm2 E D L)) = .msg (hm2 E D L) ∧
      (stageD2 E D (A.a2 (hm1 E D) (some (hm2 E D L)))).msg? = some (hm3 E D L) ∧
      A.a3 (hm1 E D) (some (hm2 E D L)) (some (hm3 E D L)) = .msg (hm3 E D L)) :=
  ⟨fun P rs h => agreement_run_D E D L A hP P rs (resolve_ok_inv.1 h),
   fun P rs h => agreement_run_L E D L A hP P rs (resolve_ok_inv.2 h)⟩

/- Non-vacuity: the scripted attacker is passive, and a flipped byte in message 2 makes both handshakes fail. -/
set_option maxRecDepth 100000 in
example : Passive (scripted true .pass (.flip 40 1) .pass) ∧
    resolve true (run1 freeEnv ⟨5, 1, 2⟩ ⟨6, 3, 4⟩ (scripted true .pass (.flip 40 1) .pass)) = (.err .snow, .err .io) :=
  ⟨scripted_passive _ _ _ _, by decide⟩

/-- **No connection after tampering with message 3 — although the dialer's `handshake()` has returned Ok.**
(1) With messages 1 and 2 delivered, the dialer's handshake result is `ok` for the listener's identity whatever
happens to message 3 — inherent to a three-message pattern. (2) But if a passive attacker delivers anything else than
the dialer's message 3, the listener's handshake fails, hence (model of `negotiate_connection`: the `/yamux`
negotiation needs the peer's answer) NEITHER side reports a connection. (3) Likewise when the proven identity differs
from the dialed one. -/
theorem tamper_no_connection (E : Env) (hc : Laws E.c) (hg : E.g.Laws) (D L : Party) (eof : Bool)
    (dialed : Option PeerId) :
    (∀ a3, (resolve eof (run1 E D L { honestNet with a3 := a3 })).1 = .ok (idOf E.c L.id) (E.g.pubB L.s)) ∧
    (∀ A, Passive A → A.a3 (hm1 E D) (some (hm2 E D L)) (some (hm3 E D L)) ≠ .msg (hm3 E D L) →
      negotiateConn dialed (resolve eof (run1 E D L A)) = (false, false)) ∧
    (∀ A d, dialed = some d → (∀ rs, (resolve eof (run1 E D L A)).1 ≠ .ok d rs) →
      negotiateConn dialed (resolve eof (run1 E D L A)) = (false, false)) := by
  refine ⟨?_, ?_, ?_⟩
  · intro a3
    have e : (run1 E D L { honestNet with a3 := a3 }).1 = (run1 E D L honestNet).1 := rfl
    exact resolve_ok_of.1 (by rw [e, Litep2pVerif.Noise.XX.honest_accepts E hc hg D L])
  · intro A hP ht
    have hl : (resolve eof (run1 E D L A)).2.isOk = false := by
      cases hr : (resolve eof (run1 E D L A)).2 with
      | ok P rs => exact absurd (agreement_run_L E D L A hP P rs (resolve_ok_inv.2 hr)).2.2.2 ht
      | _ => rfl
    simp [negotiateConn, hl]
  · intro A d hd hne
    subst hd
    cases hr : (resolve eof (run1 E D L A)).1 with
    | ok P rs =>
      have : d ≠ P := by
        intro e; subst e; exact hne rs hr
      simp [negotiateConn, hr, negotiateCheck, this]
    | _ => simp [negotiateConn, hr]

set_option maxRecDepth 100000 in
example : resolve false (run1 freeEnv ⟨5, 1, 2⟩ ⟨6, 3, 4⟩ (scripted false .pass .pass (.flip 9 128))) =
      (.ok (idOf freeCrypto 6) (freeDhPub 4), .err .snow) ∧
    negotiateConn none (resolve false (run1 freeEnv ⟨5, 1, 2⟩ ⟨6, 3, 4⟩ (scripted false .pass .pass (.flip 9 128)))) =
      (false, false) ∧
    negotiateConn (some (idOf freeCrypto 6)) (resolve false (run1 freeEnv ⟨5, 1, 2⟩ ⟨6, 3, 4⟩ honestNet)) = (true, true) ∧
    negotiateConn (some (idOf freeCrypto 7)) (resolve false (run1 freeEnv ⟨5, 1, 2⟩ ⟨6, 3, 4⟩ honestNet)) = (false, false) := by
  decide

end Litep2pVerif.Props.C01

#print axioms Litep2pVerif.Props.C01.free_laws
#print axioms Litep2pVerif.Props.C01.honest_payload_accepted
#print axioms Litep2pVerif.Props.C01.accept_sound
#print axioms Litep2pVerif.Props.C01.reject_missing_key
#print axioms Litep2pVerif.Props.C01.reject_missing_sig
#print axioms Litep2pVerif.Props.C01.reject_bad_sig
#print axioms Litep2pVerif.Props.C01.reject_undecodable_key
#print axioms Litep2pVerif.Props.C01.bound_to_session
#print axioms Litep2pVerif.Props.C01.bound_to_identity
#print axioms Litep2pVerif.Props.C01.dialed_mismatch
#print axioms Litep2pVerif.Props.C01.dialed_mismatch_any_address_family
#print axioms Litep2pVerif.Props.C01.canonical_id
#print axioms Litep2pVerif.Props.C01.honest_accepts
#print axioms Litep2pVerif.Props.C01.tamper_no_wrong_identity
#print axioms Litep2pVerif.Props.C01.tamper_no_wrong_identity_two_sessions
#print axioms Litep2pVerif.Props.C01.honest_identity_binds_static
#print axioms Litep2pVerif.Props.C01.tamper_receiver_fails
#print axioms Litep2pVerif.Props.C01.tamper_no_connection
