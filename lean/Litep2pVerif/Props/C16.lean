import Litep2pVerif.Proofs.Kad.Coordinator
import Litep2pVerif.Proofs.Kad.CoordinatorOwned
import Litep2pVerif.Proofs.Kad.CoordinatorQuorum
import Litep2pVerif.Proofs.Kad.Executor
import Litep2pVerif.Proofs.Kad.Serve
import Litep2pVerif.Proofs.Kad.Events
import Litep2pVerif.Generated.Consts
import Litep2pVerif.Proofs.Node.Wiring
/-!
# C16 — Every Kademlia operation started by the user ends with one terminal event

Property theorems (model: `Model/Kad/Coordinator.lean`, lemmas: `Proofs/Kad/Coordinator.lean`,
`Proofs/Kad/CoordinatorOwned.lean`, `Proofs/Kad/CoordinatorQuorum.lean`; for the executor pool, the served requests
and the event queue: `Model/Kad/{Executor,Serve,Events}.lean` with the lemma files of the same names).
The model is that of the repaired tree (four `fix:` commits: the unreachable peers of the
PUT_VALUE/ADD_PROVIDER fan-out are failed after tracking starts; `on_connection_established` fails
every kind of action whose substream cannot be opened and tracks the substreams it opens; an
undecodable reply fails the request).

Everything is proved for every schedule of user commands, engine actions, transport events, executor results and
inbound substreams of remote peers (`Reachable`); `waiting_owned`, the ownership invariant, by induction over the transition
system with the auxiliary invariants `ctx ⊆ connected` and uniqueness of the substream ids.
The model driver re-evaluates `WaitingOwned` on every validated trace (`!waiting-not-owned`): there it
guards the tie between model and code; it is not a hypothesis of any theorem.
-/
namespace Litep2pVerif.Props.C16
open Litep2pVerif Litep2pVerif.Kad.Coordinator

/-- **At most one terminal event.** In every reachable state (every schedule of user commands,
engine actions, transport events and executor results) each query id has at most one terminal
event. -/
theorem terminal_once (s : State) (h : Reachable s) (q : Qid) :
    (s.events.filter (fun e => e.1 == q)).length ≤ 1 := by
  rw [filter_key_length s.events (·.1) (Ledger.reachable h).evNodup q]
  split <;> omega

/-- **Nothing is lost.** Every started operation is either still live in the query engine (and has no
terminal event yet) or has left it with exactly one terminal event. -/
theorem terminal_accounted (s : State) (h : Reachable s) (q : Qid) (hq : q ∈ s.started) :
    (q ∈ ids s.engine ∧ (s.events.filter (fun e => e.1 == q)).length = 0) ∨
    (q ∉ ids s.engine ∧ (s.events.filter (fun e => e.1 == q)).length = 1) := by
  have L := Ledger.reachable h
  rw [filter_key_length s.events (·.1) L.evNodup q]
  rcases (L.accounted q).mp hq with hl | he
  · exact .inl ⟨hl, if_neg fun he => L.disjoint q he hl⟩
  · exact .inr ⟨L.disjoint q he, if_pos he⟩

/-- Non-vacuity: a put to two given peers, one of them without dialable address (the fan-out's
`open_substream_or_dial` fails for it); the other is dialed, sent the record, and the operation ends
with exactly one (failure, quorum All) event; the ownership invariant holds along the way. -/
example :
    let ls : List Label :=
      [.cmd (.putToPeers 1 .all),
       .engine (.lookupDone 0 true [1, 2]) [⟨false, .started, false⟩, ⟨false, .err, false⟩],
       .established 1 [true], .subOpened 0, .result ⟨1, 0, .putEat⟩ .assumeOk, .engine (.trackerDone 0) []]
    (run {} ls).events = [(0, false)] ∧ (run {} ls).engine.length = 0 ∧
    waitingOwnedB (run {} (ls.take 2)) = true ∧ waitingOwnedB (run {} (ls.take 4)) = true := by
  decide

theorem quiescent_no_owner (s : State) (hq : Quiescent s) (x : Query) (p : Peer) : ownedB s x p = false := by
  obtain ⟨hd, ho, hf, _⟩ := hq
  unfold ownedB
  simp [hd, ho, hf]

/-- **The ownership invariant.** In every reachable state every peer a live query is waiting for is owned by
at least one outstanding obligation of the environment: a pending dial action whose dial has not been
concluded, a pending substream action whose open is tracked in `pending_substreams` and has not been answered,
or an executor future (of the message kind that belongs to the query's phase). -/
theorem waiting_owned (s : State) (h : Reachable s) : WaitingOwned s := waitingOwned_reachable h

/-- Non-vacuity: a reachable state in which two queries wait for three peers, owned by a dial, a substream
open and an executor future respectively. -/
example :
    let s := run {} [.cmd .findNode, .cmd (.getProviders 5), .engine (.send 0 3) [⟨false, .started, false⟩],
      .established 4 [], .engine (.send 0 4) [⟨true, .err, false⟩], .engine (.send 1 4) [⟨true, .err, false⟩],
      .subOpened 1]
    Reachable s ∧ s.engine.map (fun x => (x.id, x.st.pending)) = [(0, [3, 4]), (1, [4])] ∧
      s.dials.length = 1 ∧ s.actions.length = 1 ∧ s.futs.length = 1 :=
  ⟨reachable_run .init _, by decide⟩

/-- Non-vacuity (inbound substreams are transitions of the system too): peer 4 has a request being served while
query 0 waits for the substream it opened to peer 4; the serving future fails, `disconnect_peer(4, None)` drops the
peer's context and pending action, and the query is told. -/
example :
    let s := run {} [.cmd .findNode, .established 4 [], .inbound 4, .engine (.send 0 4) [⟨true, .err, false⟩],
      .inboundFailed 4]
    Reachable s ∧ s.engine.map (fun x => (x.id, x.st.pending)) = [(0, [])] ∧ s.ctx = [] ∧ s.actions = [] ∧
      s.connected = [4] :=
  ⟨reachable_run .init _, by decide⟩

/-- **`Entry::Occupied` is dead code.** A peer without connection has no per-peer context in the coordinator,
so the branch of `on_connection_established` that discards the pending dial actions ("connection already
exists") cannot be taken: `ConnectionEstablished` is only reported for a peer without connection. -/
theorem occupied_unreachable (s : State) (h : Reachable s) (p : Peer) (hp : p ∉ s.connected) : p ∉ s.ctx :=
  Kad.Coordinator.occupied_unreachable h p hp

/-- Non-vacuity: a reachable state with a context for the connected peer 4 and none for the peer 3 being dialed. -/
example :
    let s := run {} [.cmd .findNode, .engine (.send 0 3) [⟨false, .started, false⟩], .established 4 [],
      .engine (.send 0 4) [⟨true, .err, false⟩]]
    Reachable s ∧ s.connected = [4] ∧ s.ctx = [4] ∧ s.dialing = [3] :=
  ⟨reachable_run .init _, by decide⟩

/-- **Exactly one terminal event at quiescence.** In every reachable state, once the environment has discharged
every obligation — no dial outstanding, no substream open unanswered, no executor future pending — and the
engine has been drained, no query is live any more and every started operation has exactly one terminal
event. -/
theorem terminal_once_at_quiescence (s : State) (h : Reachable s) (hq : Quiescent s) :
    s.engine = [] ∧ ∀ q ∈ s.started, (s.events.filter (fun e => e.1 == q)).length = 1 := by
  have hempty : s.engine = [] := by
    refine List.eq_nil_iff_forall_not_mem.mpr fun x hx => ?_
    have h1 := List.all_eq_true.mp hq.2.2.2 x hx
    have h2 := List.all_eq_true.mp (List.all_eq_true.mp (waiting_owned s h) x hx)
    cases hp : x.st.pending with
    | nil => simp [hp] at h1
    | cons p ps =>
      exact Bool.false_ne_true ((quiescent_no_owner s hq x p).symm.trans (h2 p (hp ▸ List.mem_cons_self)))
  refine ⟨hempty, fun q hqs => ?_⟩
  rcases terminal_accounted s h q hqs with ⟨hl, _⟩ | ⟨_, h1⟩
  · rw [hempty] at hl; simp [ids] at hl
  · exact h1

/-- Non-vacuity: the hypotheses hold at the end of a complete run (find_node: one peer queried over a
new connection, it answers, the lookup succeeds). -/
example :
    let s := run {} [.cmd .findNode, .engine (.send 0 3) [⟨false, .started, false⟩], .established 3 [true],
      .subOpened 0, .result ⟨3, 0, .reqResp⟩ .readOk, .engine (.lookupDone 0 true []) []]
    Reachable s ∧ s.dialing = [] ∧ s.opening = [] ∧ s.futs = [] ∧ engineIdle s.engine = true ∧
      s.started = [0] ∧ s.events = [(0, true)] :=
  ⟨reachable_run .init _, by decide⟩

/-- **A put / announcement reports success only with the (clamped) quorum of send successes.**
Every success of the send phase recorded in any reachable state (a `SuccessRec` is logged exactly when
a tracker emits its success event) counted at least `clampQuorum quorum nTargets` *distinct* peers,
and every counted peer had an executor result of a success kind (`SendSuccess`, `AssumeSendSuccess` or
`ReadSuccess`) of a **PUT_VALUE / ADD_PROVIDER future** (`k ≠ reqResp`: futures are tagged with their
message kind) for this query and peer, handled while the tracker was waiting for that peer.

The query id is the same in the lookup phase and in the send phase, and the coordinator reports the
`ReadSuccess` of a lookup-phase FIND_NODE/GET_VALUE request as a send success too; that such a result can
never be counted by the tracker rests on two invariants proved for every schedule
(`Proofs/Kad/CoordinatorQuorum.lean`): during the lookup phase the coordinator holds at most one record (pending
dial action, pending substream action, executor future) per query and peer and none for a peer the lookup
is not waiting for; hence — the engine only hands out fan-out targets the lookup is not waiting for — no
request/response future of the query is in flight for a peer its tracker waits for. -/
theorem put_quorum_sound (s : State) (h : Reachable s) (r : SuccessRec) (hr : r ∈ s.successLog) :
    clampQuorum r.quorum r.nTargets ≤ r.counted.length ∧ r.counted.Nodup ∧
    ∀ p ∈ r.counted, ∃ k, k ≠ .reqResp ∧ (r.q, p, k) ∈ s.sendResults :=
  (QuorumInv.reachable h).log r hr

/-- Non-vacuity: a put to two given peers with quorum N(2): both are dialed, sent the record (one answers,
one stays silent until the read timeout), the operation succeeds and the record lists both. -/
example :
    let s := run {} [.cmd (.putToPeers 1 (.n 2)),
      .engine (.lookupDone 0 true [1, 2]) [⟨false, .started, false⟩, ⟨false, .started, false⟩],
      .established 1 [true], .established 2 [true], .subOpened 0, .subOpened 1,
      .result ⟨1, 0, .putEat⟩ .readOk, .result ⟨2, 0, .putEat⟩ .assumeOk, .engine (.trackerDone 0) []]
    s.events = [(0, true)] ∧ (s.successLog.map (·.counted)) = [[2, 1]] ∧
      s.sendResults = [(0, 2, .putEat), (0, 1, .putEat)] := by
  decide

/-- Non-vacuity (the case the `k ≠ reqResp` clause is about): a `put_record` whose lookup still has a FIND_NODE
request to peer 3 in flight when it ends with target 1; the late `ReadSuccess` of that request is reported as a
send success of query 0 but is not counted, the success rests on the PUT_VALUE future of peer 1. -/
example :
    let s := run {} [.cmd (.putRecord 1 .one), .established 3 [], .engine (.send 0 3) [⟨true, .err, false⟩],
      .subOpened 0, .engine (.lookupDone 0 true [1]) [⟨false, .started, false⟩],
      .result ⟨3, 0, .reqResp⟩ .readOk, .established 1 [true], .subOpened 1,
      .result ⟨1, 0, .putEat⟩ .readOk, .engine (.trackerDone 0) []]
    Reachable s ∧ s.events = [(0, true)] ∧ (s.successLog.map (·.counted)) = [[1]] ∧
      s.sendResults = [(0, 1, .putEat), (0, 3, .reqResp)] :=
  ⟨reachable_run .init _, by decide⟩

/-- **The clamping rule, as coded.** `One ⇒ 1`, `N(n) ⇒ min(n, max(len, 1))`, `All ⇒ max(len, 1)`
with `len` the number of fan-out targets: the required number of successes never exceeds the requested
`n`, is at least 1 (for `n ≥ 1`), and is clamped to the number of discovered peers. -/
theorem quorum_clamp_rule (peers : List Peer) (k : Nat) (hk : 1 ≤ k) :
    (Tracker.new peers .one).peersToSucceed = 1 ∧
    (Tracker.new peers (.n k)).peersToSucceed = min k (max peers.length 1) ∧
    (Tracker.new peers .all).peersToSucceed = max peers.length 1 ∧
    1 ≤ (Tracker.new peers (.n k)).peersToSucceed ∧ (Tracker.new peers (.n k)).peersToSucceed ≤ k ∧
    (peers ≠ [] → (Tracker.new peers (.n k)).peersToSucceed ≤ peers.length) := by
  refine ⟨rfl, rfl, rfl, ?_, ?_, ?_⟩ <;> simp only [Tracker.new, clampQuorum]
  · omega
  · omega
  · intro hne
    have : 0 < peers.length := List.length_pos_iff.mpr hne
    omega

example : (Tracker.new [4, 5] (.n 3)).peersToSucceed = 2 ∧ (Tracker.new [] .all).peersToSucceed = 1 ∧
    (Tracker.new [4, 4] .all).peersToSucceed = 2 ∧ (Tracker.new [4, 4] .all).pending = [4] := by decide

/-- **Exactly one result per submitted future.** In every pool reachable by submissions (fresh ids, any method, any
script of the substream: blocked / unblocked / reset writes, replies, EOF, oversized frames at any time) and ticks of
the clock: a submitted future is either still pending or was yielded exactly once — never lost, never twice; the
result is one its method can produce; it was yielded no later than `WRITE_TIMEOUT + READ_TIMEOUT` after the submission,
and once that time has passed the future is no longer pending. -/
theorem executor_exactly_one_result (w r : Nat) (p : Kad.Executor.Pool) (h : Kad.Executor.Reach w r p)
    (id : Nat) (kind : Kad.Executor.Kind) (t : Nat) (hs : (id, kind, t) ∈ p.submitted) :
    (p.delivered.filter (fun d => d.1 == id)).length ≤ 1 ∧
    ((p.delivered.filter (fun d => d.1 == id)).length = 1 ↔ id ∉ p.pending.map (·.id)) ∧
    (t + w + r ≤ p.now → (p.delivered.filter (fun d => d.1 == id)).length = 1) ∧
    (∀ d ∈ p.delivered, d.1 = id → Kad.Executor.Res.allowed kind d.2.1 = true ∧ d.2.2.2 ≤ t + w + r) := by
  have inv := Kad.Executor.PInv.reach h
  have hnd := List.nodup_append.mp (inv.perm.nodup_iff.mpr inv.nodup)
  have hmem := List.mem_append.mp (inv.perm.mem_iff.mpr (List.mem_map.mpr ⟨_, hs, rfl⟩))
  rw [filter_key_length p.delivered (·.1) hnd.2.1 id]
  -- delivered xor pending
  have hiff : (if id ∈ p.delivered.map (·.1) then 1 else 0) = 1 ↔ id ∉ p.pending.map (·.id) := by
    split
    · rename_i hd
      exact ⟨fun _ hp => hnd.2.2 id hp id hd rfl, fun _ => rfl⟩
    · rename_i hd
      exact ⟨fun h => absurd h (by decide), fun hp => absurd (hmem.resolve_left hp) hd⟩
  refine ⟨by split <;> omega, hiff, ?_, ?_⟩
  · intro hnow
    refine hiff.mpr fun hp => ?_
    obtain ⟨f, hf, hfid⟩ := List.mem_map.mp hp
    obtain ⟨_, hlive, t', ht', hb⟩ := inv.pend f hf
    obtain ⟨-, -, rfl⟩ : f.id = id ∧ f.kind = kind ∧ t' = t := by
      simpa using eq_of_nodup_map (·.1) p.submitted inv.nodup _ ht' _ hs hfid
    have := Kad.Executor.live_horizon (r := r) hlive
    omega
  · intro d hd hdid
    obtain ⟨k, t', ht', hall, htime⟩ := inv.deliv d hd
    obtain ⟨-, rfl, rfl⟩ : d.1 = id ∧ k = kind ∧ t' = t := by
      simpa using eq_of_nodup_map (·.1) p.submitted inv.nodup _ ht' _ hs hdid
    exact ⟨hall, htime⟩

/-- Non-vacuity: a request whose reply never comes, one that cannot even be written and a plain send, after 30 s. -/
example :
    let p := ((((({} : Kad.Executor.Pool).submit 15 15 1 .reqResp false [(0, .writable)]).submit 15 15 2 .reqEat false []).submit
      15 15 3 .send false [(2, .writable)]).ticks 15 30)
    p.pending.length = 0 ∧ p.delivered = [(3, .sendOk, true, 2), (1, .readFailTimeout, true, 15), (2, .sendFailTimeout, false, 15)] := by
  decide

/-- The executor's methods as the coordinator uses them (`on_outbound_substream`). -/
def futKind : FKind → Kad.Executor.Kind
  | .reqResp => .reqResp
  | .putEat => .reqEat
  | .sendMsg => .send

/-- `QueryResult` as the coordinator's event loop sees it (the failure reason is only logged). -/
def coordRes : Kad.Executor.Res → Res
  | .sendOk => .sendOk | .assumeOk => .assumeOk
  | .sendFailTimeout | .sendFailClosed => .sendFail
  | .readOk => .readOk
  | .readFailTimeout | .readFailClosed => .readFail

/-- **The result table of the coordinator model is the executor's.** Whatever a future of the executor model yields
is a result the coordinator model accepts for that kind of future (`Res.allowed`, so far a hand-written table). -/
theorem executor_results_allowed (k : FKind) (res : Kad.Executor.Res)
    (h : Kad.Executor.Res.allowed (futKind k) res = true) : Res.allowed k (coordRes res) = true := by
  cases k <;> cases res <;> first | rfl | exact absurd h (by decide)

example : Kad.Executor.Res.allowed (futKind .putEat) .assumeOk = true ∧ Res.allowed .putEat (coordRes .assumeOk) = true := by
  decide

/-- Handle one executor result per outstanding future. -/
def drain (s : State) (rs : List (Fut × Res)) : State := rs.foldl (fun s x => execResult s x.1 x.2) s

theorem execResult_obligations (s : State) (f : Fut) (r : Res) (hf : f ∈ s.futs) (ha : Res.allowed f.kind r = true) :
    (execResult s f r).futs = s.futs.erase f ∧ (execResult s f r).dialing = s.dialing ∧
    (execResult s f r).opening = s.opening := by
  unfold execResult
  rw [if_pos ⟨hf, ha⟩]
  cases r <;> exact ⟨rfl, rfl, rfl⟩

theorem drain_spec (rs : List (Fut × Res)) (s : State) (h : Reachable s) (hperm : (rs.map (·.1)).Perm s.futs)
    (hall : ∀ x ∈ rs, Res.allowed x.1.kind x.2 = true) :
    Reachable (drain s rs) ∧ (drain s rs).futs = [] ∧ (drain s rs).dialing = s.dialing ∧
    (drain s rs).opening = s.opening := by
  induction rs generalizing s with
  | nil => exact ⟨h, hperm.symm.eq_nil, rfl, rfl⟩
  | cons x rs ih =>
    have hf : x.1 ∈ s.futs := hperm.mem_iff.mp (by simp)
    have ho := execResult_obligations s x.1 x.2 hf (hall x List.mem_cons_self)
    have := ih (execResult s x.1 x.2) (.step (.result x.1 x.2) h rfl) (by rw [ho.1]; simpa using hperm.erase x.1)
      (fun y hy => hall y (List.mem_cons_of_mem _ hy))
    exact ⟨this.1, this.2.1, this.2.2.1.trans ho.2.1, this.2.2.2.trans ho.2.2⟩

/-- **Every query terminates.** Take any reachable state whose dials are concluded and substream opens answered. The
executor yields exactly one allowed result for each outstanding future within `WRITE_TIMEOUT + READ_TIMEOUT`
(`executor_exactly_one_result`, `executor_results_allowed`) — `rs`, in any order. Once the coordinator has handled
them, no executor obligation is left, and as soon as the engine has nothing more to do every operation ever started has
exactly one terminal event. (A lost result would leave its future in `futs` for ever, and with it the query that waits
for the peer — `waiting_owned`.) -/
theorem every_query_terminates (s : State) (h : Reachable s) (hd : s.dialing = []) (ho : s.opening = [])
    (rs : List (Fut × Res)) (hperm : (rs.map (·.1)).Perm s.futs)
    (hall : ∀ x ∈ rs, Res.allowed x.1.kind x.2 = true) (hidle : engineIdle (drain s rs).engine = true) :
    (drain s rs).futs = [] ∧ (drain s rs).engine = [] ∧
    ∀ q ∈ (drain s rs).started, ((drain s rs).events.filter (fun e => e.1 == q)).length = 1 := by
  have hs := drain_spec rs s h hperm hall
  have hq : Quiescent (drain s rs) := ⟨by rw [hs.2.2.1, hd], by rw [hs.2.2.2, ho], hs.2.1, hidle⟩
  have := terminal_once_at_quiescence (drain s rs) hs.1 hq
  exact ⟨hs.2.1, this.1, this.2⟩

/-- Non-vacuity: a lookup whose only request times out. -/
example :
    let s := run {} [.cmd .findNode, .established 4 [], .engine (.send 0 4) [⟨true, .err, false⟩], .subOpened 0]
    s.futs = [⟨4, 0, .reqResp⟩] ∧ s.dialing = [] ∧ s.opening = [] ∧
    (drain s [(⟨4, 0, .reqResp⟩, .readFail)]).futs = [] ∧
    engineIdle (run (drain s [(⟨4, 0, .reqResp⟩, .readFail)]) [.engine (.lookupDone 0 false []) []]).engine = true := by
  decide

section EventChannel
open Litep2pVerif.Kad.Events

/-- **A terminal event is never dropped.** The coordinator hands every event to the user with
`event_tx.send(ev).await` on a bounded channel (`Model/Kad/Events.lean`). For every capacity `cap > 0` and EVERY
schedule of the three parties (the event loop reaching a send, the send running or suspending on the full channel,
the user reading): what the user has read, followed by the channel content, the event held by the suspended send
and the events the suspended loop has not sent yet, is exactly the sequence of events emitted, in emission order
(conservation); the channel never holds more than `cap` events; and a user who keeps reading (`n ≥ pending` reads)
has read exactly the emitted sequence - each event once, in order - with nothing left anywhere. -/
theorem terminal_event_never_dropped {α : Type} (cap : Nat) (hcap : 0 < cap) (sched : List (Step α)) (n : Nat) :
    let c := sched.foldl Chan.step ({ cap := cap } : Chan α)
    c.all = emitted sched ∧ c.queue.length ≤ cap ∧
    (c.pending ≤ n → (Chan.drain n c).got = emitted sched ∧ (Chan.drain n c).pending = 0) := by
  intro c
  have hall : c.all = emitted sched := by
    have := steps_all sched ({ cap := cap } : Chan α)
    simpa [Chan.all] using this
  have hwf : WF c := steps_wf sched (fresh_wf cap hcap)
  have hcapc : c.cap = cap := steps_cap sched _
  refine ⟨hall, hcapc ▸ hwf.len, fun hn => ?_⟩
  have := drain_all n c hwf hn
  exact ⟨this.2.trans hall, this.1⟩

/-- Non-vacuity: capacity 2, five failures emitted while the user does not read (the third send suspends, the loop
waits), then the user reads: all five arrive, in order. -/
example :
    let sched : List (Step Nat) := [.emit 10, .run, .emit 11, .run, .emit 12, .run, .emit 13, .emit 14, .run, .run]
    let c := sched.foldl Chan.step ({ cap := 2 } : Chan Nat)
    c.queue = [10, 11] ∧ c.blocked = some 12 ∧ c.todo = [13, 14] ∧ c.got = [] ∧ c.pending = 5 ∧
    (Chan.drain 5 c).got = [10, 11, 12, 13, 14] := by decide

/-- The contrast (what the seeded change did): with `try_send` the event that finds the channel full is gone. -/
theorem try_send_drops_witness :
    let c := ([10, 11, 12] : List Nat).foldl Chan.emitTry ({ cap := 2 } : Chan Nat)
    (Chan.drain 5 c).got = [10, 11] ∧ (Chan.drain 5 c).pending = 0 := by decide

/-- **Every query terminates, also through a full event channel.** In the situation of `every_query_terminates`
(dials concluded, opens answered, one allowed result per outstanding future handled, engine idle), whatever the
capacity of the event channel and however the sends of the coordinator's events interleave with the user's reads
(the channel may have been full any number of times): once the user has read `n ≥ pending` more events, for every
operation ever started the user has read exactly one terminal event. -/
theorem every_query_terminates_when_user_reads (s : State) (h : Reachable s) (hd : s.dialing = []) (ho : s.opening = [])
    (rs : List (Fut × Res)) (hperm : (rs.map (·.1)).Perm s.futs)
    (hall : ∀ x ∈ rs, Res.allowed x.1.kind x.2 = true) (hidle : engineIdle (drain s rs).engine = true)
    (cap : Nat) (hcap : 0 < cap) (sched : List (Step (Qid × Bool))) (hem : emitted sched = (drain s rs).events)
    (n : Nat) (hn : (sched.foldl Chan.step ({ cap := cap } : Chan (Qid × Bool))).pending ≤ n) :
    ∀ q ∈ (drain s rs).started,
      ((Chan.drain n (sched.foldl Chan.step ({ cap := cap } : Chan (Qid × Bool)))).got.filter (fun e => e.1 == q)).length = 1 := by
  have h1 := (terminal_event_never_dropped cap hcap sched n).2.2 hn
  rw [h1.1, hem]
  exact (every_query_terminates s h hd ho rs hperm hall hidle).2.2

end EventChannel

/-- **Manual validation mode never stores by itself.** For every history of inbound requests and user commands, in
`IncomingRecordValidationMode::Manual` every key of the record store was stored by the user (`store_record`,
`put_record`, `put_record_to_peers` with local update) — an inbound `PUT_VALUE` is acknowledged and reported, not
stored; in automatic mode an acceptable inbound record is stored. -/
theorem manual_validation_never_stores (cfg : Kad.Serve.Cfg) (ops : List Kad.Serve.Op) :
    (cfg.manualValidation = true →
      ∀ k ∈ Kad.Serve.keys (Kad.Serve.run cfg {} ops), k ∈ Kad.Serve.userKeys ops) ∧
    (cfg.manualValidation = false → ∀ (st : Kad.Serve.SState) (p k size : Nat), size < cfg.maxRecordSize →
      st.records.length < cfg.maxRecords → k ∈ Kad.Serve.keys (Kad.Serve.serve cfg st p (.putValue k size)).1) := by
  refine ⟨fun hm k hk => ?_, fun ha st p k size h1 h2 => Kad.Serve.serve_auto_stores cfg ha st p k size h1 (.inr h2)⟩
  rcases Kad.Serve.manual_keys cfg hm ops {} k hk with h | h
  · simp [Kad.Serve.keys] at h
  · exact h

example : Kad.Serve.keys (Kad.Serve.run { manualValidation := true } {}
      [.inbound 1 (.putValue 5 1), .inbound 1 (.getValue (some 5)), .userPut 6 1]) = [6] ∧
    Kad.Serve.keys (Kad.Serve.run {} {} [.inbound 1 (.putValue 5 1)]) = [5] := by decide

/-- **Requests are answered per kind, whatever the configuration**: exactly the `FIND_NODE`, `GET_VALUE`, `PUT_VALUE`
and `GET_PROVIDERS` requests (`GET_VALUE` and `GET_PROVIDERS` only when they carry a key) get a response — the `PUT_VALUE`
acknowledgement also in manual validation mode and when the record is filtered out. -/
theorem inbound_answered_per_kind (cfg : Kad.Serve.Cfg) (st : Kad.Serve.SState) (p : Nat) (req : Kad.Serve.Req) :
    (Kad.Serve.serve cfg st p req).2.1.isSome = req.answered :=
  Kad.Serve.serve_reply_iff cfg st p req

example : (Kad.Serve.serve { manualValidation := true, maxRecordSize := 0 } {} 1 (.putValue 5 9)).2.1 = some (.putValue 5 9) ∧
    (Kad.Serve.serve {} {} 1 (.addProvider 5 1)).2.1 = none := by decide

/-- **Manual routing-table mode never adds by itself.** For every history, in `RoutingTableUpdateMode::Manual` every
peer of the routing table was added by the user (`add_known_peer` / configured known peers). -/
theorem manual_update_never_adds (cfg : Kad.Serve.Cfg) (hm : cfg.manualUpdate = true) (ops : List Kad.Serve.Op) :
    ∀ p ∈ (Kad.Serve.run cfg {} ops).table, p ∈ Kad.Serve.userPeers ops := by
  intro p hp
  rcases Kad.Serve.manual_table cfg hm ops {} p hp with h | h
  · simp at h
  · exact h

example : (Kad.Serve.run { manualUpdate := true } {} [.learn [(2, true)], .addKnown 3 true]).table = [3] ∧
    (Kad.Serve.run {} {} [.learn [(2, true)], .addKnown 3 true]).table = [2, 3] := by decide

/-- **The settle step covers the executor's timeouts.** The check's `settle` operation advances the
(logical) clock by 16 s per round; the executor's read and write timeouts (regenerated from
`executor.rs` on every run) are shorter, so every silent future has completed afterwards. -/
theorem settle_covers_timeouts :
    Consts.KAD_READ_TIMEOUT_SECS < 16 ∧ Consts.KAD_WRITE_TIMEOUT_SECS < 16 := by decide

#print axioms terminal_once
#print axioms terminal_accounted
#print axioms waiting_owned
#print axioms occupied_unreachable
#print axioms terminal_once_at_quiescence
#print axioms put_quorum_sound
#print axioms quorum_clamp_rule
#print axioms settle_covers_timeouts
#print axioms executor_exactly_one_result
#print axioms executor_results_allowed
#print axioms every_query_terminates
#print axioms terminal_event_never_dropped
#print axioms try_send_drops_witness
#print axioms every_query_terminates_when_user_reads
#print axioms manual_validation_never_stores
#print axioms inbound_answered_per_kind
#print axioms manual_update_never_adds

end Litep2pVerif.Props.C16

/-! ## Wiring — the query parameters given to `kademlia::ConfigBuilder`

Over the wiring model `Model/Node/Wiring.lean` (`Node.new c` = `Litep2p::new(ConfigBuilder…build())`, `notes` / `tcpHeld` =
what the constructed protocol objects / the TCP transport hold, `protocolCodec` = `ProtocolSet::protocol_codec`), tied to
the real code by the `node` area: real nodes built through the public API print what the CONSTRUCTED objects hold and what
a connection's `ProtocolSet` answers for every main and fallback name; the driver prints the model's; compared exactly. -/
namespace Litep2pVerif.Props.C16.Wiring
open Litep2pVerif Litep2pVerif.Node

/-- Kademlia setter calls of the sample: a later call overrides an earlier one; zero bounds. -/
def sampleSets : List KadSet := [.maxRecords 5, .replication 3, .maxRecords 0, .maxProviderKeys 0, .validationMode false]

/-- A configuration with fallback names, zero store bounds and non-default transport settings (non-vacuity examples). -/
def sample : Config :=
  { keepAliveMs := some 600, listen := [1],
    notif := [{ name := "/n/new", max := 32, handshake := "01", fallback := ["/n/a"], mode := 'a', sync := some 7, async := none,
                dial := some false }],
    rr := [{ name := "/r/new", max := 256, timeoutMs := 800, fallback := ["/r/a", "/r/b"], maxInbound := some 3 }],
    user := [⟨"/u/a", .identity 8⟩],
    kad := [{ names := ["/k/2", "/k/1"], max := some 2048,
              sets := sampleSets }],
    ping := some 1, identify := true, bitswap := true, maxParallelDials := some 0,
    tcpSets := [.readAhead 3, .parallelDials 7, .writeBuffer 4] }

/-- Every configured Kademlia instance is constructed with the replication factor (handed to the query engine as well), the
record TTL and the routing-table-update / record-validation modes the user's builder calls leave; a value set last is the
value held. -/
theorem kademlia_config_reaches_protocol (c : Config) :
    (∀ k ∈ c.kad, Note.kad (kadBuild k.sets) ∈ notes (build c)) ∧
    ∀ (sets : List KadSet),
      (∀ n, (kadBuild (sets ++ [.replication n])).replication = n) ∧
      (∀ n, (kadBuild (sets ++ [.recordTtl n])).recordTtlMs = n) ∧
      (∀ b, (kadBuild (sets ++ [.updateMode b])).updateAuto = b) ∧
      (∀ b, (kadBuild (sets ++ [.validationMode b])).validationAuto = b) := by
  refine ⟨fun k hk => notes_kad_mem _ hk, fun sets => ⟨fun n => ?_, fun n => ?_, fun b => ?_, fun b => ?_⟩⟩ <;>
    simp only [kadBuild_append, KadSet.apply]

example : Note.kad (kadBuild sampleSets) ∈ notes (build sample) ∧ (kadBuild sampleSets).replication = 3 ∧
    (kadBuild sampleSets).validationAuto = false ∧ (kadBuild sampleSets).updateAuto = true := by decide

end Litep2pVerif.Props.C16.Wiring

#print axioms Litep2pVerif.Props.C16.Wiring.kademlia_config_reaches_protocol
