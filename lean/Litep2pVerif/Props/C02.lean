import Litep2pVerif.Proofs.Noise.Transport
import Litep2pVerif.Proofs.Noise.Align
import Litep2pVerif.Proofs.Noise.Teardown
import Litep2pVerif.Generated.Consts
import Litep2pVerif.Proofs.Node.Wiring
/-!
# C02 — Noise transport delivers the exact byte stream or fails

Property theorems only (model: `Model/Noise/Transport.lean`; cipher laws, writer and the reader's invariants:
`Proofs/Noise/Transport.lean`; the reader's loop, alignment invariant and liveness: `Proofs/Noise/Align.lean`; `poll_flush` / `poll_close` of the
writer: `Proofs/Noise/Teardown.lean`). `realParams F W` are the constants regenerated from
`src/crypto/noise/mod.rs` and snow's `constants.rs` on every run; the arithmetic side conditions on
them are discharged by `decide` (`real_params_ok`), so changing a constant re-checks them.

The cipher is a parameter `w : WireOps C` with laws `WireLaws` (hypotheses, never axioms);
`term_model_laws` / `tamper_instances` show that the free term model satisfies every cipher
hypothesis used below.
-/
namespace Litep2pVerif.Props.C02
open Litep2pVerif Litep2pVerif.Noise.Transport

/-- The free term model satisfies the cipher laws (`|enc n p| = |p| + TAGLEN`, ideal integrity
`dec n c = some p ↔ c = enc n p`, injectivity in nonce and plaintext, byte embedding). -/
theorem term_model_laws (F W : Nat) :
    WireLaws (realParams F W) (termWire (realParams F W).T) := by
  exact termLaws _ (show 1 ≤ Consts.SNOW_TAGLEN by decide)

/-- Side conditions on the extracted constants: `NOISE_EXTRA_ENCRYPT_SPACE` is snow's tag length
(and it is ≥ 1), `MAX_FRAME_LEN ≥ 1`, **`MAX_FRAME_LEN + TAGLEN ≤ snow MAXMSGLEN`** (false before the fix
of §8-a: 65520 + 16 > 65535), a `u16::MAX` frame fits behind the read-ahead area, and every
ciphertext length fits the `u16` prefix (`MAXMSGLEN < 65536`). -/
theorem real_params_ok (F W : Nat) :
    WConsts (realParams F W) ∧ (1 ≤ F → AConsts (realParams F W)) := by
  have h1 : Consts.SNOW_TAGLEN = Consts.NOISE_EXTRA_ENCRYPT_SPACE := by decide
  have h2 : 1 ≤ Consts.MAX_NOISE_MSG_LEN - Consts.NOISE_EXTRA_ENCRYPT_SPACE := by decide
  have h3 : Consts.MAX_NOISE_MSG_LEN - Consts.NOISE_EXTRA_ENCRYPT_SPACE + Consts.SNOW_TAGLEN
      ≤ Consts.SNOW_MAXMSGLEN := by decide
  have h4 : 65533 ≤ Consts.MAX_NOISE_MSG_LEN := by decide
  have h5 : 1 ≤ Consts.SNOW_TAGLEN := by decide
  have h6 : Consts.SNOW_MAXMSGLEN < 65536 := by decide
  exact ⟨⟨h1, h2, h3⟩, fun h => ⟨⟨h1, h, h4⟩, ⟨h1, h2, h3⟩, h5, h6⟩⟩

example : (realParams 5 2).MAXF + (realParams 5 2).T = (realParams 5 2).SNOWMAX := by decide

/-- On the constants before the fix (`MAX_NOISE_MSG_LEN = 65536`) snow refuses every full-size
chunk, whatever the output space: the side condition of `write_total` is necessary. -/
theorem write_total_old_constant_witness {C : Type} (w : WireOps C) (n pos space : Nat) :
    let P : Params := { M := 65536, TAG := 16, SNOWMAX := 65535, T := 16, F := 5, W := 2 }
    snowWrite P w n ⟨pos, P.MAXF⟩ space = none := by
  intro P
  unfold snowWrite
  exact if_pos (Or.inl (show 65536 - 16 + 16 > 65535 by decide))

/-- **write_total.** From every reachable writer state (`WSInv`, see `write_stream_eq` for
reachability), for every buffer length `n` and every behaviour of the carrier: `poll_write` never
panics and never fails with `InvalidData`; if the carrier never fails (`Ok(0)`/`Err`) it returns
`Ok(k)` with `k ≤ n` (`1 ≤ k` for a non-empty buffer) or `Pending`, for every `F`, `W`. -/
theorem write_total {C : Type} (w : WireOps C) (F W : Nat) (hl : WireLaws (realParams F W) w)
    (s : WriteSock C) (c : WCarrier C) (frames : List Chunk) (wpos n : Nat)
    (h : WSInv (realParams F W) w s c frames wpos) :
    let r := pollWrite (realParams F W) w s c wpos n
    (∀ m, r.2.2 ≠ .panic m) ∧ r.2.2 ≠ .err .invalidData ∧
    (NoFault c.script → (∀ e, r.2.2 ≠ .err e) ∧ NoFault r.2.1.script) ∧
    (∀ k, r.2.2 = .ok k → k ≤ n ∧ (0 < n → 1 ≤ k)) := by
  intro r
  have hs := pollWrite_spec (realParams F W) w hl (real_params_ok F W).1 s c frames wpos n h
  refine ⟨hs.1, hs.2.1, fun hf => ⟨(hs.2.2.1 hf).2, (hs.2.2.1 hf).1⟩, fun k hk => ?_⟩
  have h4 := hs.2.2.2
  rw [show (pollWrite (realParams F W) w s c wpos n).2.2 = .ok k from hk] at h4
  exact ⟨h4.1, h4.2.1⟩

example : WSInv (realParams 5 2) (termWire 16) (newWriteSock (realParams 5 2) (termWire 16)) ⟨#[], []⟩ [] 0 :=
  WSInv_init _ _

/-- **write_stream_eq.** The writer invariant holds initially and is preserved by `poll_write`
(`Ok`/`Pending`) and `poll_flush`: what the carrier accepted so far, followed by what waits in the
encrypt buffer, is exactly the wire image (2-byte big-endian length, ciphertext under nonces
0,1,2,…) of consecutive chunks of `1 … MAX_FRAME_LEN` bytes covering plaintext positions
`0 … wpos-1`, where `wpos` is the sum of the accepted counts; after `poll_flush = Ok` the carrier
has all of it. -/
theorem write_stream_eq {C : Type} (w : WireOps C) (F W : Nat) (hl : WireLaws (realParams F W) w) :
    WSInv (realParams F W) w (newWriteSock (realParams F W) w) ⟨#[], []⟩ [] 0 ∧
    (∀ s c frames wpos n, WSInv (realParams F W) w s c frames wpos →
      (∀ k, (pollWrite (realParams F W) w s c wpos n).2.2 = .ok k →
        ∃ fr, WSInv (realParams F W) w (pollWrite (realParams F W) w s c wpos n).1
          (pollWrite (realParams F W) w s c wpos n).2.1 (frames ++ fr) (wpos + k)) ∧
      ((pollWrite (realParams F W) w s c wpos n).2.2 = .pending →
        WSInv (realParams F W) w (pollWrite (realParams F W) w s c wpos n).1
          (pollWrite (realParams F W) w s c wpos n).2.1 frames wpos)) ∧
    (∀ s c frames wpos, WSInv (realParams F W) w s c frames wpos →
      (∀ m, (pollFlush s c).2.2 ≠ .panic m) ∧
      ((∀ e, (pollFlush s c).2.2 ≠ .err e) →
        WSInv (realParams F W) w (pollFlush s c).1 (pollFlush s c).2.1 frames wpos) ∧
      (∀ k, (pollFlush s c).2.2 = .ok k →
        (pollFlush s c).2.1.out.toList = wireOf w (realParams F W).T 0 frames)) := by
  refine ⟨WSInv_init _ _, fun s c frames wpos n h => ?_, fun s c frames wpos h => ?_⟩
  · have hs := (pollWrite_spec (realParams F W) w hl (real_params_ok F W).1 s c frames wpos n h).2.2.2
    constructor
    · intro k hk; rw [hk] at hs; exact hs.2.2
    · intro hp; rw [hp] at hs; exact hs.2
  · have hs := pollFlush_spec (realParams F W) w s c frames wpos h
    exact ⟨hs.1, hs.2.2.1, fun k hk => (hs.2.2.2.1 k hk).1⟩

example : FramesFrom (realParams 5 2).MAXF 0 [⟨0, 65519⟩, ⟨65519, 1⟩] :=
  ⟨rfl, by decide, by decide, rfl, by decide, by decide, trivial⟩

/-- **read_no_oob.** For every stream of bytes the carrier may deliver (honest or not — the only
assumption is ciphertext integrity `Authentic`), every chunking / `Pending` / EOF / error script,
every sequence of reader buffer lengths and every `F ≥ 1`: until the first error is returned, no
poll panics — no slice or index of the read path is out of bounds, `reset_read_state` is never
called with `remaining ≥ 2`, no `expect` fails — and the loop terminates (`diverged` never occurs). -/
theorem read_no_oob {C : Type} (w : WireOps C) (F W : Nat) (hF : 1 ≤ F) (hl : WireLaws (realParams F W) w)
    (B : Nat) (frames : List Chunk) (hfr : FramesFrom B 0 frames) (es : List (REvent C))
    (hauth : Authentic w frames (delivered es)) :
    NoPanic (runReader (realParams F W) w (newReadSock (realParams F W) w) ⟨#[], 0, [], false⟩ es) := by
  have hc := ((real_params_ok F W).2 hF).r
  exact (runReader_spec hl hc hfr es (RInv_init _ w hc ⟨#[], 0, [], false⟩ rfl) (LInv_init _ w frames _ rfl)
    (by simpa using hauth)).1

/-- **read_stream_eq.** `frames` are the writer's chunks (consecutive, `1 … MAX_FRAME_LEN` bytes,
see `write_stream_eq`), the carrier transports their wire image. For every `F ≥ 1` and every
environment `es` (deliveries in any chunking, scripts for the inner `poll_read`, `close`, polls with any
buffer lengths):

1. if what is delivered is a prefix of the wire, the bytes returned are a prefix of the plaintext
   (positions `0,1,2,…`: in order, no loss, no duplication) and nothing panics;
2. if all of the wire is delivered by a carrier that never fails (`GoodEnv`: script entries are
   `Pending` or chunk caps ≥ 1, `close` only after the last byte), then
   a. the only error the reader can ever see is `UnexpectedEof`, only after `close`, and only after
      **all** of the plaintext has been returned;
   b. if the reader goes on polling with non-empty buffers — `plen frames + scriptLen es` polls suffice,
      one per byte still to come plus one per possible `Pending` — **all** of the plaintext comes out:
      the output equals `0 … plen frames - 1`. -/
theorem read_stream_eq {C : Type} (w : WireOps C) (F W : Nat) (hF : 1 ≤ F)
    (hl : WireLaws (realParams F W) w) (frames : List Chunk) (hfr : FramesFrom (realParams F W).MAXF 0 frames)
    (hauth : Authentic w frames (wireOf w (realParams F W).T 0 frames)) (es : List (REvent C)) :
    (delivered es <+: wireOf w (realParams F W).T 0 frames →
      outBytes (freshRun (realParams F W) w es) <+: List.range (plen frames) ∧
      NoPanic (freshRun (realParams F W) w es)) ∧
    (delivered es = wireOf w (realParams F W).T 0 frames → GoodEnv es →
      (∀ e, ROut.err e ∈ freshRun (realParams F W) w es →
        e = .eof ∧ Closes es ∧ outBytes (freshRun (realParams F W) w es) = List.range (plen frames)) ∧
      (∀ ks : List Nat, (∀ k ∈ ks, 1 ≤ k) → plen frames + scriptLen es ≤ ks.length →
        outBytes (freshRun (realParams F W) w (es ++ ks.map .poll)) = List.range (plen frames))) := by
  have sc := Scene.honest hl ((real_params_ok F W).2 hF) hfr hauth
  have hS : startOf frames frames.length = plen frames := by simp [startOf]
  refine ⟨fun hd => ?_, fun hd hge => ⟨fun e he => ?_, fun ks hk hb => ?_⟩⟩
  · have := fresh_safe sc es hd
    rw [hS] at this; exact this
  · obtain ⟨i1, _, _⟩ := fresh_complete sc es hd hge [] (by simp)
    simp only [List.map_nil, List.append_nil] at i1
    obtain ⟨j1, j2⟩ := i1 e he
    rw [hS] at j1
    cases e with
    | eof => exact ⟨rfl, j2, j1⟩
    | invalidData => simp [Cause] at j2
    | permissionDenied => exact j2.elim
    | carrier => exact j2.elim
  · have := (fresh_complete sc es hd hge ks hk).2.1
    rw [hS] at this; exact this hb

/-- Non-vacuity: the honest wire of two frames is authentic in the term model, and an environment
with chunk caps, a `Pending`, a delivery in two pieces and a final `close` is good. -/
example : Authentic (termWire 16) [⟨0, 3⟩, ⟨3, 2⟩] (wireOf (termWire 16) 16 0 [⟨0, 3⟩, ⟨3, 2⟩]) :=
  Authentic_term_honest 16 (by decide) _
example : GoodEnv ([.script [.chunk 1, .pend], .deliver [.raw 0, .raw 19], .poll 7, .deliver [.ct 0 0 3 0],
    .close, .poll 1] : List (REvent TCell)) := by
  simp [GoodEnv, GoodScript, GoodR, delivered]

/-- **tamper_detected.** Whatever happens to the ciphertext in transit: write the delivered stream as
the wire image of the first `j` frames, intact, followed by `rest`, where `rest` does *not* begin with
the intact frame `j` (`BadAt`; `tamper_cases` shows that this is what modification, truncation,
replay, drop, reordering and insertion of a frame produce; `j = frames.length` covers bytes appended
after the last frame). Under the ideal-AEAD assumption `Authentic` (only the writer's frame `n`
decrypts under nonce `n`; `tamper_instances`), for every `F ≥ 1` and every environment:

1. whatever prefix of the stream is delivered, in any chunking and with any faults of the carrier,
   the reader's output is a prefix of the plaintext of the `j` intact frames — no byte of the tampered
   frame or of any later frame, nothing altered, skipped or repeated — and nothing panics;
2. if the carrier delivers the tampered stream to its end (`GoodEnv`) and either closes (`Closes`) or
   the frame announced by the first two bytes of `rest` is completely there (`CompleteAt`: the reader
   need not wait for more data to judge it — a cut stream on a carrier that stays open is
   indistinguishable from a slow one), and the reader goes on polling with non-empty buffers, the run
   is **exactly the plaintext of the `j` intact frames followed by an error** (`InvalidData`, or
   `UnexpectedEof` if the stream was cut): never silence, never later plaintext. -/
theorem tamper_detected {C : Type} (w : WireOps C) (F W : Nat) (hF : 1 ≤ F)
    (hl : WireLaws (realParams F W) w) (frames : List Chunk) (hfr : FramesFrom (realParams F W).MAXF 0 frames)
    (j : Nat) (hj : j ≤ frames.length) (rest : List C) (hbad : BadAt w frames j rest)
    (hauth : Authentic w frames (wireOf w (realParams F W).T 0 (frames.take j) ++ rest))
    (es : List (REvent C)) :
    (delivered es <+: wireOf w (realParams F W).T 0 (frames.take j) ++ rest →
      outBytes (freshRun (realParams F W) w es) <+: List.range (plen (frames.take j)) ∧
      NoPanic (freshRun (realParams F W) w es)) ∧
    (delivered es = wireOf w (realParams F W).T 0 (frames.take j) ++ rest → GoodEnv es →
      Closes es ∨ CompleteAt w rest →
      ∀ ks : List Nat, (∀ k ∈ ks, 1 ≤ k) → plen (frames.take j) + scriptLen es + 1 ≤ ks.length →
        ∃ pre e, freshRun (realParams F W) w (es ++ ks.map .poll) = pre ++ [.err e] ∧
          (e = .eof ∨ e = .invalidData) ∧ outBytes pre = List.range (plen (frames.take j))) := by
  have sc : Scene (realParams F W) w frames j rest (wireOf w (realParams F W).T 0 (frames.take j) ++ rest) :=
    { laws := hl, consts := (real_params_ok F W).2 hF, frs := hfr, hj := hj, full_eq := rfl, bad := hbad,
      auth := hauth }
  refine ⟨fun hd => fresh_safe sc es hd, fun hd hge hcl ks hk hb => ?_⟩
  obtain ⟨i1, _, i3⟩ := fresh_complete sc es hd hge ks hk
  obtain ⟨pre, e, hpe⟩ := i3 hcl hb
  obtain ⟨j1, j2⟩ := i1 e (by rw [hpe]; simp)
  refine ⟨pre, e, hpe, ?_, ?_⟩
  · cases e with
    | eof => exact Or.inl rfl
    | invalidData => exact Or.inr rfl
    | permissionDenied => exact j2.elim
    | carrier => exact j2.elim
  · rw [hpe, outBytes_append_err] at j1; exact j1

/-- **tamper_cases.** When does `rest` "not begin with the intact frame `j`"? Whenever the ciphertext
of the writer's `j`-th chunk under nonce `j` does not follow the two length bytes — because a byte of
it was modified, because it was cut short, or because another frame (an earlier one = replay, a later
one = drop / reordering, a foreign one = insertion) stands in its place; whenever fewer than two bytes
follow; and whenever there is no frame `j` at all (bytes appended after the last frame). -/
theorem tamper_cases {C : Type} (w : WireOps C) (frames : List Chunk) (j : Nat) (rest : List C) :
    ((∀ ch, frames[j]? = some ch → ¬ w.enc j ch <+: rest.drop 2) → BadAt w frames j rest) ∧
    (rest.length < 2 → BadAt w frames j rest) ∧
    (frames.length ≤ j → BadAt w frames j rest) :=
  ⟨BadAt_of_not_prefix w frames j rest, BadAt_short w frames j rest, BadAt_end w frames j rest⟩

/-- Non-vacuity in the term model, frames `[(0,1), (1,1)]`, tampering at `j = 1`: a flipped tag
byte; truncation by one byte followed by nothing; replay of frame 0; and at `j = 0`: frame 0 dropped
(frame 1 stands in its place) — each satisfies `BadAt`. -/
example : BadAt (termWire 16) [⟨0, 1⟩, ⟨1, 1⟩] 1
    ((frameBytes (termWire 16) 16 1 ⟨1, 1⟩).set 18 (.mod (.ct 1 1 1 16) 1)) :=
  BadAt_of_not_prefix _ _ _ _ (by intro ch h; cases h; decide)
example : BadAt (termWire 16) [⟨0, 1⟩, ⟨1, 1⟩] 1 ((frameBytes (termWire 16) 16 1 ⟨1, 1⟩).take 18) :=
  BadAt_of_not_prefix _ _ _ _ (by intro ch h; cases h; decide)
example : BadAt (termWire 16) [⟨0, 1⟩, ⟨1, 1⟩] 1 (frameBytes (termWire 16) 16 0 ⟨0, 1⟩) :=
  BadAt_of_not_prefix _ _ _ _ (by intro ch h; cases h; decide)
example : BadAt (termWire 16) [⟨0, 1⟩, ⟨1, 1⟩] 0 (frameBytes (termWire 16) 16 1 ⟨1, 1⟩) :=
  BadAt_of_not_prefix _ _ _ _ (by intro ch h; cases h; decide)
/-- ... and the replayed frame is completely there: the error comes without waiting for `close`. -/
example : CompleteAt (termWire 16) (frameBytes (termWire 16) 16 0 ⟨0, 1⟩) :=
  ⟨_, _, _, rfl, by decide, by decide⟩
example : Closes ([.deliver [.raw 0], .close, .poll 1] : List (REvent TCell)) := trivial

/-- **tamper_instances.** In the term model the integrity hypothesis `Authentic` holds for *every*
stream all of whose ciphertext cells stem from the writer's frames — i.e. for every result of
flipping, truncating, duplicating, dropping and swapping frames of the honest wire (cells are only
moved, removed, or replaced by other values) — and in particular for the honest wire itself. -/
theorem tamper_instances (T : Nat) (hT : 1 ≤ T) (frames : List Chunk) :
    (∀ str : List TCell, (∀ n s l i, TCell.ct n s l i ∈ str → frames[n]? = some ⟨s, l⟩) →
      Authentic (termWire T) frames str) ∧
    Authentic (termWire T) frames (wireOf (termWire T) T 0 frames) :=
  ⟨Authentic_term T hT frames, Authentic_term_honest T hT frames⟩

/-- Non-vacuity: a replayed frame followed by a flipped byte is covered. -/
example : Authentic (termWire 16) [⟨0, 1⟩]
    (frameBytes (termWire 16) 16 0 ⟨0, 1⟩ ++ frameBytes (termWire 16) 16 0 ⟨0, 1⟩ ++ [.mod (.ct 0 0 1 3) 1]) := by
  apply Authentic_term 16 (by decide)
  intro n s l i h
  simp [frameBytes, termWire, termEnc] at h
  obtain ⟨j, hj, h1, h2, h3, h4⟩ := h
  subst h1 h2 h3; rfl

/-- **write_read_roundtrip.** Writer ∘ FIFO carrier ∘ reader, from any reachable writer state
(`WSInv`: `wpos` bytes accepted by `poll_write` so far, see `write_stream_eq`):

1. if what the carrier delivers to the reader (any chunking, any `Pending`s, any faults) is a prefix
   of what the writer handed to the carrier, the reader's output is a prefix of the `wpos` accepted
   bytes and the reader never panics;
2. after the writer's `poll_flush` returned `Ok`, if the carrier never fails and delivers everything it
   got, the reader sees no error except `UnexpectedEof` after `close` and after all `wpos` bytes, and
   by polling with non-empty buffers it obtains **exactly the `wpos` bytes accepted by `poll_write`**. -/
theorem write_read_roundtrip {C : Type} (w : WireOps C) (F W : Nat) (hF : 1 ≤ F)
    (hl : WireLaws (realParams F W) w) (s : WriteSock C) (c : WCarrier C) (frames : List Chunk) (wpos : Nat)
    (hw : WSInv (realParams F W) w s c frames wpos)
    (hauth : Authentic w frames (wireOf w (realParams F W).T 0 frames))
    (es : List (REvent C)) :
    (delivered es <+: c.out.toList →
      outBytes (freshRun (realParams F W) w es) <+: List.range wpos ∧ NoPanic (freshRun (realParams F W) w es)) ∧
    ((∃ k, (pollFlush s c).2.2 = .ok k) → delivered es = (pollFlush s c).2.1.out.toList → GoodEnv es →
      (∀ e, ROut.err e ∈ freshRun (realParams F W) w es →
        e = .eof ∧ Closes es ∧ outBytes (freshRun (realParams F W) w es) = List.range wpos) ∧
      (∀ ks : List Nat, (∀ k ∈ ks, 1 ≤ k) → wpos + scriptLen es ≤ ks.length →
        outBytes (freshRun (realParams F W) w (es ++ ks.map .poll)) = List.range wpos)) := by
  have hr := read_stream_eq w F W hF hl frames hw.frs hauth es
  rw [hw.total] at hr
  refine ⟨fun hd => hr.1 ?_, fun ⟨k, hk⟩ hd => hr.2 ?_⟩
  · obtain ⟨t, ht⟩ := hd
    exact ⟨t ++ wtail s, by rw [← List.append_assoc, ht, hw.stream]⟩
  · rw [hd]
    exact ((pollFlush_spec (realParams F W) w s c frames wpos hw).2.2.2.1 k hk).1

/-- Non-vacuity: in the initial state a flush succeeds at once (nothing to write). -/
example : ∃ k, (pollFlush (newWriteSock (realParams 5 2) (termWire 16)) ⟨#[], []⟩).2.2 = .ok k := ⟨0, rfl⟩

/-- **flush_delivers_everything_accepted.** `poll_flush` = drain the encrypt buffer, then the carrier's own
`poll_flush` (`pollFlushE`). From every reachable writer state (`WSInv`: `wpos` bytes accepted by `poll_write` so far,
in `frames`; see `write_stream_eq`) and for **every schedule of carrier answers** — `e.wc.script` for the inner
`poll_write`s (partial writes, `Pending`, `Ok(0)`, errors), `e.fscript` for the inner `poll_flush` (`Pending`, error):

1. a poll never panics and keeps the invariant unless it reports an error;
2. a `Pending` is the `Pending` of an inner `poll_write` or of the inner `poll_flush` (the call that registered the
   waker) — never an invention of the socket;
3. however many times the caller polls (`flushRun n` = poll while `Pending`, at most `n` times): when `Ready(Ok)`
   comes back, the carrier has accepted **the complete wire image of all `wpos` bytes `poll_write` ever accepted**,
   nothing is left in the encrypt buffer, and the carrier's own flush completed after its last write;
4. if the carrier never fails, `Ready(Ok)` comes after at most one poll per scripted answer plus one, i.e. as soon as
   the carrier accepts the bytes. -/
theorem flush_delivers_everything_accepted {C : Type} (w : WireOps C) (F W : Nat)
    (s : WriteSock C) (e : WEnv C) (frames : List Chunk) (wpos : Nat)
    (h : WSInv (realParams F W) w s e.wc frames wpos) :
    (∀ m, (pollFlushE s e).2.2 ≠ .panic m) ∧
    ((∀ x, (pollFlushE s e).2.2 ≠ .err x) →
      WSInv (realParams F W) w (pollFlushE s e).1 (pollFlushE s e).2.1.wc frames wpos) ∧
    ((pollFlushE s e).2.2 = .pending →
      (drain (drainFuel s) s e.wc).2.2 = .blocked ∨ e.fscript.head? = some .pend) ∧
    (∀ n k, (flushRun n s e).2.2 = .ok k →
      (flushRun n s e).2.1.wc.out.toList = wireOf w (realParams F W).T 0 frames ∧ plen frames = wpos ∧
      (flushRun n s e).1.st = .idle ∧ (flushRun n s e).2.1.flushed = (flushRun n s e).2.1.wc.out.size) ∧
    (GoodWEnv e → ∃ k, (flushRun (e.todo + 1) s e).2.2 = .ok k) := by
  have fp := pollFlushE_spec (realParams F W) w s e frames wpos h
  refine ⟨fp.nopanic, fp.keep, fun hp => (fp.pend hp).1, fun n k hk => ?_, fun g => ?_⟩
  · have := (flushRun_spec (realParams F W) w frames wpos n s e h).1 k hk
    exact ⟨this.1, h.total, this.2⟩
  · exact (flushRun_spec (realParams F W) w frames wpos (e.todo + 1) s e h).2 g (Nat.lt_succ_self _)

/-- Non-vacuity: a fresh writer over a carrier that stalls, takes 3 bytes, stalls again, and whose own flush is
`Pending` once, is a reachable state with a carrier that never fails; and `flushRun` really polls: over a carrier whose own
flush is `Pending` once, the first poll of an (empty) flush is `Pending`, the second is `Ok`. -/
example : WSInv (realParams 5 2) (termWire 16) (newWriteSock (realParams 5 2) (termWire 16))
    (⟨⟨#[], [.pend, .acc 3, .pend]⟩, [.pend], [.pend], 0, false⟩ : WEnv TCell).wc [] 0 :=
  ⟨⟨by simp [newWriteSock], trivial⟩, trivial, rfl, rfl, by simp [wtail, newWriteSock, wireOf]⟩
example : GoodWEnv (⟨⟨#[], [.pend, .acc 3, .pend]⟩, [.pend], [.pend], 0, false⟩ : WEnv TCell) :=
  ⟨by simp [NoFault, GoodW], by simp [GoodF], by simp [GoodF]⟩
example : (flushRun 1 (⟨#[], .idle, 0⟩ : WriteSock TCell) ⟨⟨#[], []⟩, [.pend], [], 0, false⟩).2.2 = .pending ∧
    (flushRun 2 (⟨#[], .idle, 0⟩ : WriteSock TCell) ⟨⟨#[], []⟩, [.pend], [], 0, false⟩).2.2 = .ok 0 := by
  decide

/-- **close_delivers_everything_accepted.** `poll_close` = `ready!(poll_flush)?`, then the carrier's `poll_close`
(`pollCloseE`). From every reachable writer state whose carrier is still open, for every schedule of carrier answers
(`e.wc.script`, `e.fscript`, `e.cscript`):

1. a poll never panics and keeps the invariant unless it reports an error; a `Pending` is a `Pending` of the carrier;
2. the carrier's write half gets closed **only** by a poll that returns `Ready(Ok)` — never while the flush is
   `Pending` or failed (`closeRun n` = poll while `Pending`, at most `n` times);
3. when `Ready(Ok)` comes back the carrier has accepted the complete wire image of **all `wpos` bytes `poll_write` ever
   accepted**, nothing is left in the encrypt buffer, the carrier is closed — and a reader fed with exactly these bytes by
   a carrier that never fails (any chunking, any `Pending`s) obtains exactly the plaintext `0 … wpos-1`: in order, no
   loss, no duplication (via `read_stream_eq`);
4. if the carrier never fails, `Ready(Ok)` comes after at most one poll per scripted answer plus one. -/
theorem close_delivers_everything_accepted {C : Type} (w : WireOps C) (F W : Nat)
    (s : WriteSock C) (e : WEnv C) (frames : List Chunk) (wpos : Nat)
    (h : WSInv (realParams F W) w s e.wc frames wpos) (hopen : e.closed = false) :
    (∀ m, (pollCloseE s e).2.2 ≠ .panic m) ∧
    ((∀ x, (pollCloseE s e).2.2 ≠ .err x) →
      WSInv (realParams F W) w (pollCloseE s e).1 (pollCloseE s e).2.1.wc frames wpos) ∧
    ((pollCloseE s e).2.2 = .pending →
      (drain (drainFuel s) s e.wc).2.2 = .blocked ∨ e.fscript.head? = some .pend ∨ e.cscript.head? = some .pend) ∧
    (∀ n, (closeRun n s e).2.1.closed = true → ∃ k, (closeRun n s e).2.2 = .ok k) ∧
    (∀ n k, (closeRun n s e).2.2 = .ok k →
      (closeRun n s e).2.1.wc.out.toList = wireOf w (realParams F W).T 0 frames ∧ plen frames = wpos ∧
      (closeRun n s e).1.st = .idle ∧ (closeRun n s e).2.1.closed = true ∧
      (1 ≤ F → WireLaws (realParams F W) w → Authentic w frames (wireOf w (realParams F W).T 0 frames) →
        ∀ es : List (REvent C), delivered es = (closeRun n s e).2.1.wc.out.toList → GoodEnv es →
        ∀ ks : List Nat, (∀ k ∈ ks, 1 ≤ k) → wpos + scriptLen es ≤ ks.length →
          outBytes (freshRun (realParams F W) w (es ++ ks.map .poll)) = List.range wpos)) ∧
    (GoodWEnv e → ∃ k, (closeRun (e.todo + 1) s e).2.2 = .ok k) := by
  have cp := pollCloseE_spec (realParams F W) w s e frames wpos h
  refine ⟨cp.nopanic, cp.keep, fun hp => (cp.pend hp).1, fun n => ?_, fun n k hk => ?_, fun g => ?_⟩
  · exact (closeRun_spec (realParams F W) w frames wpos n s e h hopen).1
  · have := (closeRun_spec (realParams F W) w frames wpos n s e h hopen).2.1 k hk
    refine ⟨this.1, h.total, this.2.1, this.2.2, fun hF hl hauth es hd hge ks hks hlen => ?_⟩
    have hr := (read_stream_eq w F W hF hl frames h.frs hauth es).2 (by rw [hd, this.1]) hge
    rw [h.total] at hr
    exact hr.2 ks hks hlen
  · exact (closeRun_spec (realParams F W) w frames wpos (e.todo + 1) s e h hopen).2.2 g (Nat.lt_succ_self _)

/-- Non-vacuity: teardown under back-pressure in the small — something waits in the encrypt buffer (`Writing 0..2`), the
carrier answers `Pending` to the first inner write: the first `poll_close` is `Pending` and leaves the carrier open with
nothing written; the second one writes the two bytes, closes the carrier and returns `Ok`. -/
example :
    let s : WriteSock TCell := ⟨#[.raw 0, .raw 7], .writing 0 2, 0⟩
    let e : WEnv TCell := ⟨⟨#[], [.pend]⟩, [], [], 0, false⟩
    (closeRun 1 s e).2.2 = .pending ∧ (closeRun 1 s e).2.1.closed = false ∧ (closeRun 1 s e).2.1.wc.out = #[] ∧
    (closeRun 2 s e).2.2 = .ok 0 ∧ (closeRun 2 s e).2.1.closed = true ∧
    (closeRun 2 s e).2.1.wc.out = #[.raw 0, .raw 7] := by
  decide

/-- **write_pending_registered.** No lost wake-up on the write path: for every `W ≥ 1`, from every reachable writer
state and for every behaviour of the carrier, `poll_write` answers `Pending` only if, in this very call, the encrypt
buffer could not be drained because the inner `poll_write` answered `Pending` (the call that registered the caller's
waker) — the claim of the comment at `if total_plaintext == 0` in the code; a socket that returned `Pending` on its own
would never be polled again. (The same fact for `poll_flush` / `poll_close` is item 2 of the two theorems above.) -/
theorem write_pending_registered {C : Type} (w : WireOps C) (F W : Nat) (hW : 1 ≤ W)
    (s : WriteSock C) (c : WCarrier C) (frames : List Chunk) (wpos n : Nat)
    (h : WSInv (realParams F W) w s c frames wpos)
    (hp : (pollWrite (realParams F W) w s c wpos n).2.2 = .pending) :
    (drain (drainFuel s) s c).2.2 = .blocked :=
  pollWrite_pending_blocked (realParams F W) w (real_params_ok F W).1 hW s c wpos n h.inv hp

/-- Non-vacuity: with `W = 1`, a full frame waiting in the encrypt buffer and a carrier that answers `Pending`, a second
write is `Pending` (and the drain was `blocked`); hypotheses and conclusion on a small instance of the same shape. -/
example :
    let P : Params := { M := 20, TAG := 16, SNOWMAX := 20, T := 16, F := 1, W := 1 }
    let s : WriteSock TCell := ⟨Array.replicate 22 (.raw 0), .writing 0 22, 1⟩
    (pollWrite P (termWire 16) s ⟨#[], [.pend]⟩ 4 4).2.2 = .pending ∧
    (drain (drainFuel s) s ⟨#[], [.pend]⟩).2.2 = .blocked := by
  decide

#print axioms term_model_laws
#print axioms real_params_ok
#print axioms write_total_old_constant_witness
#print axioms write_total
#print axioms write_stream_eq
#print axioms read_no_oob
#print axioms read_stream_eq
#print axioms tamper_detected
#print axioms tamper_cases
#print axioms tamper_instances
#print axioms write_read_roundtrip
#print axioms flush_delivers_everything_accepted
#print axioms close_delivers_everything_accepted
#print axioms write_pending_registered

end Litep2pVerif.Props.C02

/-! ## Wiring — the Noise buffer sizes of the TCP transport configuration

Over the wiring model `Model/Node/Wiring.lean` (`Node.new c` = `Litep2p::new(ConfigBuilder…build())`, `notes` / `tcpHeld` =
what the constructed protocol objects / the TCP transport hold, `protocolCodec` = `ProtocolSet::protocol_codec`), tied to
the real code by the `node` area: real nodes built through the public API print what the CONSTRUCTED objects hold and what
a connection's `ProtocolSet` answers for every main and fallback name; the driver prints the model's; compared exactly. -/
namespace Litep2pVerif.Props.C02.Wiring
open Litep2pVerif Litep2pVerif.Node

/-- Kademlia setter calls of the sample: a later call overrides an earlier one; zero bounds. -/
def sampleSets : List KadSet := [.maxRecords 5, .replication 3, .maxRecords 0, .maxProviderKeys 0, .validationMode false]

/-- A configuration with fallback names, zero store bounds and non-default transport settings (non-vacuity examples). -/
def sample : Config :=
  { keepAliveMs := some 600, listen := [1],
    notif := [{ name := "/n/new", max := 32, handshake := "01", fallback := ["/n/a"], mode := 'a', sync := some 7, async := none,
                dial := some false }],
    rr := [{ name := "/r/new", max := 256, timeoutMs := 800, fallback := ["/r/a", "/r/b"], maxInbound := some 3 }],
    user := [⟨"/u/a", .identity 8⟩],
    kad := [{ names := ["/k/2", "/k/1"], max := some 2048,
              sets := sampleSets }],
    ping := some 1, identify := true, bitswap := true, maxParallelDials := some 0,
    tcpSets := [.readAhead 3, .parallelDials 7, .writeBuffer 4] }

/-- The TCP transport is constructed with the Noise read-ahead frame count and write buffer size of the user's
`tcp::config::Config` (a value set last is the value held; the crate defaults when nothing was set): the sizes every
connection's `NoiseSocket` is built with. -/
theorem noise_config_reaches_transport (c : Config) :
    (∀ sets n, c.tcpSets = sets ++ [.readAhead n] → (tcpHeld (build c)).readAhead = n) ∧
    (∀ sets n, c.tcpSets = sets ++ [.writeBuffer n] → (tcpHeld (build c)).writeBuffer = n) ∧
    (c.tcpSets = [] → (tcpHeld (build c)).readAhead = Consts.NODE_NOISE_READ_AHEAD ∧
      (tcpHeld (build c)).writeBuffer = Consts.NODE_NOISE_WRITE_BUFFER) := by
  refine ⟨fun sets n h => ?_, fun sets n h => ?_, fun h => ?_⟩
  · rw [tcpHeld_append (build c) sets _ h]; rfl
  · rw [tcpHeld_append (build c) sets _ h]; rfl
  · simp [tcpHeld, build, h]

example : (tcpHeld (build sample)).readAhead = 3 ∧ (tcpHeld (build sample)).writeBuffer = 4 := by decide

end Litep2pVerif.Props.C02.Wiring

#print axioms Litep2pVerif.Props.C02.Wiring.noise_config_reaches_transport
