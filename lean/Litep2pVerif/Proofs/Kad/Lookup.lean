import Litep2pVerif.Proofs.Kad.Query
/-!
# The frontier of an iterative lookup, generically (C15)

`FindNodeContext`, `GetRecordContext` and `GetProvidersContext` share (textually) the way they move
peers between `candidates`, `pending` and `queried`. `View` is that part of the state, `VStep` the
three moves (nothing / schedule the closest candidate / accept an answer or a failure of a pending
peer). Everything that "no self", "no re-query", the termination measure and "everything learned is
known" need is proved once for `VStep` and once for runs of any system whose steps are `VStep`s
(`runG_spec`; `lookup_run` is its instance at a freshly started lookup). No clock is involved.
-/
namespace Litep2pVerif.Kad.Query

structure View where
  l : Nat
  cands : DMap
  pend : List Nat
  queried : List Nat

def candPeers (m : DMap) : List Nat := m.map (·.2.peer)

def View.Fr (d : Nat → Nat) (U : List Nat) (v : View) : Prop :=
  Frontier d U v.l v.cands v.pend v.queried

def View.visited (v : View) (q : Nat) : Prop := q ∈ v.pend ∨ q ∈ v.queried

def View.knows (v : View) (p : Nat) : Prop := p ∈ candPeers v.cands ∨ p ∈ v.pend ∨ p ∈ v.queried

def View.mu (U : List Nat) (v : View) : Nat := measure U v.pend v.queried

/-- Three times the number of peers never contacted plus twice the number of outstanding requests: the measure for
lookups that also hand out partial results. An answer takes 2 off it (`if o.isSome then 1 else 2` in `VStep.spec`): one
for the move, one for the record the answer may queue, which pays for the `next_action` that hands that record out
(`GetRecord.step_w3`). -/
def View.w3 (U : List Nat) (v : View) : Nat :=
  3 * (U.filter (fun u => u ∉ v.pend ∧ u ∉ v.queried)).length + 2 * v.pend.length

def InjOn (d : Nat → Nat) (U : List Nat) : Prop := ∀ a ∈ U, ∀ b ∈ U, d a = d b → a = b

/-- One move of the frontier: the view before and after, the peer a request is sent to, the peers
learned, and whether the move is productive. -/
inductive VStep (d : Nat → Nat) (U : List Nat) : View → View → Option Nat → List Nat → Bool → Prop
  | stay (v : View) : VStep d U v v none [] false
  | send (v : View) (k : Nat) (c : KPeer) (rest : DMap) (h : v.cands = (k, c) :: rest) :
      VStep d U v { v with cands := rest, pend := c.peer :: v.pend.filter (· ≠ c.peer) }
        (some c.peer) [] true
  | answer (v : View) (p : Nat) (peers : List KPeer) (hp : p ∈ v.pend)
      (hpeers : ∀ kp ∈ peers, kp.dist = d kp.peer ∧ kp.peer ∈ U) :
      VStep d U v
        { v with cands := addCandidates v.l (sinsert p v.queried) (v.pend.filter (· ≠ p)) v.cands peers
                 pend := v.pend.filter (· ≠ p)
                 queried := sinsert p v.queried }
        none (peers.map (·.peer)) true

theorem VStep.stay' {d U} {v v' : View} (h : v' = v) : VStep d U v v' none [] false := by
  subst h; exact VStep.stay _

theorem candPeers_dinsert {d : Nat → Nat} {U : List Nat} (inj : InjOn d U) {k : Nat} {v : KPeer}
    {m : DMap} (hm : ∀ x ∈ m, x.1 = d x.2.peer ∧ x.2.peer ∈ U) (hk : k = d v.peer) (hv : v.peer ∈ U) :
    (∀ p ∈ candPeers m, p ∈ candPeers (dinsert k v m)) ∧ v.peer ∈ candPeers (dinsert k v m) ∧
      (∀ x ∈ dinsert k v m, x.1 = d x.2.peer ∧ x.2.peer ∈ U) := by
  have hself : v.peer ∈ candPeers (dinsert k v m) :=
    List.mem_map.2 ⟨(k, v), mem_dinsert_self k v m, rfl⟩
  refine ⟨?_, hself, ?_⟩
  · intro p hp
    obtain ⟨x, hx, rfl⟩ := List.mem_map.1 hp
    by_cases hxk : x.1 = k
    · have h1 := hm x hx
      have : x.2.peer = v.peer := inj _ h1.2 _ hv (by rw [← h1.1, hxk, hk])
      rw [this]; exact hself
    · exact List.mem_map.2 ⟨x, mem_dinsert_of_ne hx hxk, rfl⟩
  · intro x hx
    rcases mem_dinsert_sub hx with hx | hx
    · subst hx; exact ⟨hk, hv⟩
    · exact hm x hx

theorem foldl_inserts_known {d : Nat → Nat} {U : List Nat} (inj : InjOn d U) {K f} (hf : InsertsIf K f)
    {peers : List KPeer} (hpeers : ∀ kp ∈ peers, kp.dist = d kp.peer ∧ kp.peer ∈ U) : ∀ {c : DMap},
    (∀ x ∈ c, x.1 = d x.2.peer ∧ x.2.peer ∈ U) →
    (∀ p ∈ candPeers c, p ∈ candPeers (peers.foldl f c)) ∧
    (∀ kp ∈ peers, K kp → kp.peer ∈ candPeers (peers.foldl f c)) := by
  induction peers with
  | nil => intro c _; exact ⟨fun p hp => hp, by simp⟩
  | cons kp ps ih =>
    intro c hc
    have hps := fun x hx => hpeers x (List.mem_cons_of_mem _ hx)
    have hkp := hpeers kp (List.mem_cons_self ..)
    simp only [List.foldl_cons]
    rcases hf c kp with ⟨_, e⟩ | ⟨hK, e⟩
    · obtain ⟨j1, j2, j3⟩ := candPeers_dinsert inj hc hkp.1 hkp.2
      rw [e]
      obtain ⟨i1, i2⟩ := ih hps j3
      refine ⟨fun p hp => i1 p (j1 p hp), fun x hx hKx => ?_⟩
      rcases List.mem_cons.1 hx with rfl | hx
      · exact i1 _ j2
      · exact i2 x hx hKx
    · rw [e]
      obtain ⟨i1, i2⟩ := ih hps hc
      refine ⟨i1, fun x hx hKx => ?_⟩
      rcases List.mem_cons.1 hx with rfl | hx
      · exact absurd hKx hK
      · exact i2 x hx hKx

theorem addCandidates_known {d : Nat → Nat} {U : List Nat} (inj : InjOn d U) {l : Nat}
    {qd pd : List Nat} {peers : List KPeer}
    (hpeers : ∀ kp ∈ peers, kp.dist = d kp.peer ∧ kp.peer ∈ U) {c : DMap}
    (hc : ∀ x ∈ c, x.1 = d x.2.peer ∧ x.2.peer ∈ U) :
    (∀ p ∈ candPeers c, p ∈ candPeers (addCandidates l qd pd c peers)) ∧
    (∀ kp ∈ peers, kp.peer ∉ qd ∧ kp.peer ∉ pd ∧ l ≠ kp.peer →
      kp.peer ∈ candPeers (addCandidates l qd pd c peers)) :=
  foldl_inserts_known inj (addCandidates_inserts l qd pd) hpeers hc

theorem initCandidates_known {d : Nat → Nat} {U : List Nat} (inj : InjOn d U) {inPeers : List KPeer}
    (h : ∀ kp ∈ inPeers, kp.dist = d kp.peer ∧ kp.peer ∈ U) :
    ∀ kp ∈ inPeers, kp.peer ∈ candPeers (initCandidates inPeers) :=
  fun kp hkp => (foldl_inserts_known inj initCandidates_inserts h (c := []) (by simp)).2 kp hkp trivial

theorem VStep.spec {d U} {v v' : View} {o : Option Nat} {L : List Nat} {b : Bool}
    (hs : VStep d U v v' o L b) (h : v.Fr d U) :
    v'.Fr d U ∧ v'.l = v.l ∧ (∀ q, v.visited q → v'.visited q) ∧
    v'.mu U + (if b then 1 else 0) ≤ v.mu U ∧
    v'.w3 U + (if b then (if o.isSome then 1 else 2) else 0) ≤ v.w3 U ∧
    (∀ c, o = some c → c ≠ v.l ∧ ¬ v.visited c ∧ v'.visited c ∧ c ∈ v'.pend) ∧
    (o = none → v'.pend.length ≤ v.pend.length) ∧
    (v'.pend.length ≤ v.pend.length + 1) ∧
    (InjOn d U → ∀ p, (v.knows p ∨ p ∈ L) → p ≠ v.l → v'.knows p) := by
  cases hs with
  | stay =>
    exact ⟨h, rfl, fun q hq => hq, by simp, by simp, by simp, fun _ => Nat.le_refl _, by omega,
      fun _ p hp _ => by simpa using hp⟩
  | send k c rest hc =>
    unfold View.Fr at h
    rw [hc] at h
    obtain ⟨hfr', h1, h2, h3, h4⟩ := h.send
    have he : v.pend.filter (· ≠ c.peer) = v.pend := filter_ne_of_not_mem h2
    have hms := measure_send h4 h2 h3
    refine ⟨?_, rfl, ?_, ?_, ?_, ?_, by simp, ?_, ?_⟩
    · unfold View.Fr; simp only [he]; exact hfr'
    · intro q hq
      unfold View.visited at hq ⊢
      simp only [he, List.mem_cons]
      rcases hq with hq | hq
      · exact Or.inl (Or.inr hq)
      · exact Or.inr hq
    · unfold View.mu; simp only [he, if_true]; exact hms
    · unfold View.w3 measure at *
      simp only [he, if_true, Option.isSome_some, List.length_cons] at hms ⊢
      omega
    · intro c' hc'
      simp only [Option.some.injEq] at hc'
      subst hc'
      refine ⟨h1, ?_, ?_, ?_⟩
      · unfold View.visited; simp only [not_or]; exact ⟨h2, h3⟩
      · unfold View.visited; simp
      · simp
    · simp only [he, List.length_cons]; omega
    · intro _ p hp _
      unfold View.knows at hp ⊢
      simp only [he, List.mem_cons]
      rcases hp with (hp | hp | hp) | hp
      · rw [hc] at hp
        simp only [candPeers, List.map_cons, List.mem_cons] at hp
        rcases hp with hp | hp
        · exact Or.inr (Or.inl (Or.inl hp))
        · exact Or.inl hp
      · exact Or.inr (Or.inl (Or.inr hp))
      · exact Or.inr (Or.inr hp)
      · simp at hp
  | answer p peers hp hpeers =>
    have hfr := Frontier.answer p peers h hp hpeers
    have hma := measure_answer (U := U) (queried := v.queried) hp h.pendNodup
    have hlen := filter_ne_length hp h.pendNodup
    refine ⟨hfr, rfl, ?_, ?_, ?_, by simp, ?_, ?_, ?_⟩
    · intro q hq
      unfold View.visited at hq ⊢
      simp only [mem_sinsert, List.mem_filter]
      by_cases hqp : q = p
      · exact Or.inr (Or.inl hqp)
      · rcases hq with hq | hq
        · exact Or.inl ⟨hq, by simpa using hqp⟩
        · exact Or.inr (Or.inr hq)
    · unfold View.mu; simp only [if_true]; omega
    · unfold View.w3 measure at *
      simp only [if_true, Option.isSome_none] at hma ⊢
      simp only [Bool.false_eq_true, if_false]
      omega
    · intro _; simp only; omega
    · simp only; omega
    · intro inj q hq hql
      have hc : ∀ x ∈ v.cands, x.1 = d x.2.peer ∧ x.2.peer ∈ U := by
        intro x hx
        have := h.key x hx
        exact ⟨this.1.trans this.2, (h.fresh x hx).2.2.2⟩
      obtain ⟨a1, a2⟩ := addCandidates_known inj (l := v.l) (qd := sinsert p v.queried)
        (pd := v.pend.filter (· ≠ p)) hpeers hc
      unfold View.knows at hq ⊢
      rcases hq with (hq | hq | hq) | hq
      · exact Or.inl (a1 q hq)
      · by_cases hqp : q = p
        · exact Or.inr (Or.inr (mem_sinsert.2 (Or.inl hqp)))
        · exact Or.inr (Or.inl (List.mem_filter.2 ⟨hq, by simpa using hqp⟩))
      · exact Or.inr (Or.inr (mem_sinsert.2 (Or.inr hq)))
      · obtain ⟨kp, hkp, rfl⟩ := List.mem_map.1 hq
        by_cases h1 : kp.peer ∈ sinsert p v.queried
        · exact Or.inr (Or.inr h1)
        · by_cases h2 : kp.peer ∈ v.pend.filter (· ≠ p)
          · exact Or.inr (Or.inl h2)
          · exact Or.inl (a2 kp hkp ⟨h1, h2, fun e => hql e.symm⟩)

/-- The run function of the three contexts (`FindNode.run`, `GetRecord.run`, `GetProviders.run` are
instances). -/
def runG {σ ε : Type} (step : σ → ε → σ × Option QAction) (s : σ) : List ε → σ × List QAction
  | [] => (s, [])
  | e :: es =>
    match (step s e).2 with
    | some a => ((runG step (step s e).1 es).1, a :: (runG step (step s e).1 es).2)
    | none => runG step (step s e).1 es

def learnedG {σ ε : Type} (step : σ → ε → σ × Option QAction) (learn : σ → ε → List Nat) (s : σ) :
    List ε → List Nat
  | [] => []
  | e :: es => learn s e ++ learnedG step learn (step s e).1 es

def prodCountG {σ ε : Type} (step : σ → ε → σ × Option QAction) (prod : σ → ε → Bool) (s : σ) :
    List ε → Nat
  | [] => 0
  | e :: es => (if prod s e then 1 else 0) + prodCountG step prod (step s e).1 es

def sendOf : Option QAction → Option Nat
  | some (.send _ p) => some p
  | _ => none

theorem sentPeers_cons (a : QAction) (as : List QAction) :
    sentPeers (a :: as) = (sendOf (some a)).toList ++ sentPeers as := by
  cases a <;> simp [sentPeers, sendOf]

theorem nodup_toList_append {o : Option Nat} {l : List Nat} (hl : l.Nodup) (ho : ∀ c, o = some c → c ∉ l) :
    (o.toList ++ l).Nodup := by
  cases o with
  | none => exact hl
  | some c => exact List.nodup_cons.2 ⟨ho c rfl, hl⟩

theorem runG_fst {σ ε : Type} (step : σ → ε → σ × Option QAction) (s : σ) (e : ε) (es : List ε) :
    (runG step s (e :: es)).1 = (runG step (step s e).1 es).1 := by
  simp only [runG]; split <;> rfl

theorem runG_sent {σ ε : Type} (step : σ → ε → σ × Option QAction) (s : σ) (e : ε) (es : List ε) :
    sentPeers (runG step s (e :: es)).2 =
      (sendOf (step s e).2).toList ++ sentPeers (runG step (step s e).1 es).2 := by
  simp only [runG]
  split
  · rename_i a ha; rw [ha, sentPeers_cons]
  · rename_i ha; rw [ha]; simp [sendOf]

theorem runG_unique {σ ε : Type} {step : σ → ε → σ × Option QAction} {run : σ → List ε → σ × List QAction}
    (h0 : ∀ s, run s [] = (s, []))
    (h1 : ∀ s e es, run s (e :: es) = match (step s e).2 with
      | some a => ((run (step s e).1 es).1, a :: (run (step s e).1 es).2)
      | none => run (step s e).1 es) (evs : List ε) : ∀ s, run s evs = runG step s evs := by
  induction evs with
  | nil => exact h0
  | cons e es ih =>
    intro s
    rw [h1, runG]
    simp only [ih]

theorem learnedG_unique {σ ε : Type} {step : σ → ε → σ × Option QAction} {learn : σ → ε → List Nat}
    {learned : σ → List ε → List Nat} (h0 : ∀ s, learned s [] = [])
    (h1 : ∀ s e es, learned s (e :: es) = learn s e ++ learned (step s e).1 es) (evs : List ε) :
    ∀ s, learned s evs = learnedG step learn s evs := by
  induction evs with
  | nil => exact h0
  | cons e es ih => intro s; rw [h1, learnedG, ih]

def Simulates (d : Nat → Nat) (U : List Nat) {σ ε : Type} (step : σ → ε → σ × Option QAction)
    (view : σ → View) (ok : ε → Prop) (learn : σ → ε → List Nat) (prod : σ → ε → Bool) : Prop :=
  ∀ s e, ok e → VStep d U (view s) (view (step s e).1) (sendOf (step s e).2) (learn s e) (prod s e)

theorem runG_spec {d U} {σ ε : Type} {step : σ → ε → σ × Option QAction} {view : σ → View}
    {ok : ε → Prop} {learn : σ → ε → List Nat} {prod : σ → ε → Bool}
    (sim : Simulates d U step view ok learn prod) (evs : List ε) : ∀ (s : σ), (view s).Fr d U →
    (∀ e ∈ evs, ok e) →
    (view (runG step s evs).1).Fr d U ∧ (view (runG step s evs).1).l = (view s).l ∧
    (∀ q, (view s).visited q → (view (runG step s evs).1).visited q) ∧
    (view (runG step s evs).1).mu U + prodCountG step prod s evs ≤ (view s).mu U ∧
    (sentPeers (runG step s evs).2).Nodup ∧
    (∀ c ∈ sentPeers (runG step s evs).2,
      c ≠ (view s).l ∧ ¬ (view s).visited c ∧ (view (runG step s evs).1).visited c) ∧
    (InjOn d U → ∀ p, ((view s).knows p ∨ p ∈ learnedG step learn s evs) → p ≠ (view s).l →
      (view (runG step s evs).1).knows p) := by
  induction evs with
  | nil =>
    intro s h _
    exact ⟨h, rfl, fun q hq => hq, by simp [runG, prodCountG], by simp [runG, sentPeers],
      by simp [runG, sentPeers], fun _ p hp _ => by simpa [learnedG, runG] using hp⟩
  | cons e es ih =>
    intro s h hok
    obtain ⟨s1, s2, s3, s4, _, s6, _, _, s9⟩ := (sim s e (hok e (List.mem_cons_self ..))).spec h
    obtain ⟨r1, r2, r3, r4, r5, r6, r7⟩ := ih (step s e).1 s1 (fun x hx => hok x (List.mem_cons_of_mem _ hx))
    rw [runG_fst, runG_sent]
    refine ⟨r1, r2.trans s2, fun q hq => r3 q (s3 q hq), ?_, ?_, ?_, ?_⟩
    · simp only [prodCountG]; omega
    · exact nodup_toList_append r5 fun c ho hm => (r6 c hm).2.1 (s6 c ho).2.2.1
    · intro c hc
      rcases List.mem_append.1 hc with hc | hc
      · obtain ⟨y1, y2, y3, _⟩ := s6 c (Option.mem_toList.1 hc)
        exact ⟨y1, y2, r3 c y3⟩
      · obtain ⟨x1, x2, x3⟩ := r6 c hc
        exact ⟨s2 ▸ x1, fun hv => x2 (s3 c hv), x3⟩
    · intro inj p hp hpl
      apply r7 inj p _ (s2 ▸ hpl)
      simp only [learnedG, List.mem_append] at hp
      rcases hp with hp | hp | hp
      · exact Or.inl (s9 inj p (Or.inl hp) hpl)
      · exact Or.inl (s9 inj p (Or.inr hp) hpl)
      · exact Or.inr hp

theorem runG_inv {σ ε : Type} {step : σ → ε → σ × Option QAction} {P : σ → Prop}
    (hstep : ∀ s e, P s → P (step s e).1) (evs : List ε) : ∀ s, P s → P (runG step s evs).1 := by
  induction evs with
  | nil => exact fun _ h => h
  | cons e es ih => exact fun s h => runG_fst step s e es ▸ ih _ (hstep s e h)

theorem lookup_run {d U} {σ ε : Type} {step : σ → ε → σ × Option QAction} {view : σ → View}
    {ok : ε → Prop} {learn : σ → ε → List Nat} {prod : σ → ε → Bool}
    (sim : Simulates d U step view ok learn prod) (s0 : σ) (l : Nat) (inPeers : List KPeer)
    (hv : view s0 = ⟨l, initCandidates inPeers, [], []⟩)
    (hc : ∀ kp ∈ inPeers, kp.dist = d kp.peer ∧ kp.peer ∈ U ∧ kp.peer ≠ l)
    (evs : List ε) (hok : ∀ e ∈ evs, ok e) :
    (sentPeers (runG step s0 evs).2).Nodup ∧ l ∉ sentPeers (runG step s0 evs).2 ∧
    (view (runG step s0 evs).1).Fr d U ∧ (view (runG step s0 evs).1).l = l ∧
    (view (runG step s0 evs).1).mu U + prodCountG step prod s0 evs ≤ 2 * U.length ∧
    (InjOn d U → ∀ p ∈ inPeers.map (·.peer) ++ learnedG step learn s0 evs, p ≠ l →
      (view (runG step s0 evs).1).knows p) := by
  have hfr : (view s0).Fr d U := by rw [hv]; exact Frontier.init inPeers hc
  obtain ⟨r1, r2, _, r4, r5, r6, r7⟩ := runG_spec sim evs s0 hfr hok
  have hl : (view s0).l = l := by rw [hv]
  have hmu : (view s0).mu U ≤ 2 * U.length := by rw [hv]; exact measure_le _ _ _ rfl
  refine ⟨r5, fun hm => (r6 l hm).1 hl.symm, r1, r2.trans hl, by omega, ?_⟩
  intro inj p hp hpl
  apply r7 inj p _ (hl ▸ hpl)
  rcases List.mem_append.1 hp with hp | hp
  · obtain ⟨kp, hkp, rfl⟩ := List.mem_map.1 hp
    left; left
    rw [hv]
    exact initCandidates_known inj (fun x hx => ⟨(hc x hx).1, (hc x hx).2.1⟩) kp hkp
  · exact Or.inr hp

theorem View.knows_contacted {d U} {v : View} (hfr : v.Fr d U) {p bound : Nat} (hk : v.knows p)
    (hb : ∀ c ∈ v.cands, bound ≤ c.2.dist) (hlt : d p < bound) : p ∈ v.pend ∨ p ∈ v.queried := by
  rcases hk with hk | hk | hk
  · obtain ⟨x, hx, rfl⟩ := List.mem_map.1 hk
    have := hb x hx
    have hkey := (hfr.key x hx).2
    omega
  · exact Or.inl hk
  · exact Or.inr hk

theorem runG_fixed {σ ε : Type} {step : σ → ε → σ × Option QAction} {s : σ}
    (h : ∀ e, step s e = (s, none)) (evs : List ε) : runG step s evs = (s, []) := by
  induction evs with
  | nil => rfl
  | cons e es ih => simp only [runG, h e, ih]

theorem View.w3_le (U : List Nat) (v : View) (h : v.pend = []) : v.w3 U ≤ 3 * U.length := by
  have := List.length_filter_le (fun u => decide (u ∉ v.pend ∧ u ∉ v.queried)) U
  simp only [View.w3, h, List.length_nil] at *
  omega

theorem View.knows_queried {v : View} {p : Nat} (hk : v.knows p) (hc : v.cands = []) (hp : v.pend = []) :
    p ∈ v.queried := by
  simpa [View.knows, candPeers, hc, hp] using hk

end Litep2pVerif.Kad.Query
