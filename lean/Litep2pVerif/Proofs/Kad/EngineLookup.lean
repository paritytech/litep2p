import Litep2pVerif.Proofs.Kad.Engine
/-!
# The engine, one query id at a time (C15)

The engine routes every event to the context stored under the event's query id. For a fixed id `q`
every operation of the engine (that does not start `q` again) leaves `q` inactive if it was, and otherwise does to
the context of `q` one of a few things (`CtxStep`) or removes the query (`QMove`, established once in `step_id`) —
whatever the other queries do, in whatever order `next_action` visits them, also for events about ids that are not
active. Each `CtxStep` is a move of the frontier or nothing (`CtxStep.view`); that it also preserves the parallelism
invariant is `CtxStep.par` in `Proofs/Kad/EnginePar.lean`.
-/
namespace Litep2pVerif.Kad.Query

/-- The frontier of a query (`L` is the local peer; contexts without a frontier have the empty one). -/
def QueryType.view (L : Nat) : QueryType → View
  | .findNode c => c.view
  | .putRecord _ _ c => c.view
  | .addProvider _ _ _ c => c.view
  | .getRecord c => c.view
  | .getProviders c => c.view
  | _ => ⟨L, [], [], []⟩

theorem VStep.none_eq {d U} {v v' : View} {Lr : List Nat} (h : VStep d U v v' none Lr false) : v' = v := by
  cases h
  rfl

theorem typeNext_sim (d : Nat → Nat) (U : List Nat) (L now : Nat) (t : QueryType) :
    VStep d U (t.view L) ((Engine.typeNext now t).1.view L) (sendOf (Engine.typeNext now t).2) []
      (isSend (Engine.typeNext now t).2) := by
  cases t with
  | findNode c | putRecord _ _ c | addProvider _ _ _ c => exact FindNode.next_sim d U c now
  | getRecord c => exact GetRecord.next_sim d U c
  | getProviders c => exact GetProviders.next_sim d U c
  | putRecordToPeers r qu c => exact VStep.stay _
  | putRecordToFoundNodes c | addProviderToFoundNodes c =>
    simp only [Engine.typeNext, QueryType.view]
    unfold PutTarget.nextAction
    split
    · split <;> exact VStep.stay _
    · exact VStep.stay _

theorem failType_sim (d : Nat → Nat) (U : List Nat) (L p : Nat) (t : QueryType) :
    ∃ Lr b, VStep d U (t.view L) ((Engine.failType p t).view L) none Lr b := by
  cases t with
  | findNode c | putRecord _ _ c | addProvider _ _ _ c => exact ⟨_, _, FindNode.sim d U c (.fail p) trivial⟩
  | getRecord c => exact ⟨_, _, GetRecord.sim d U c (.fail p) trivial⟩
  | getProviders c => exact ⟨_, _, GetProviders.sim d U c (.fail p) trivial⟩
  | _ => exact ⟨_, _, VStep.stay _⟩

theorem respType_sim (d : Nat → Nat) (U : List Nat) (L p : Nat) (m : Msg) (t : QueryType) (hm : m.ok d U) :
    ∃ Lr b, VStep d U (t.view L) ((Engine.respType p m t).view L) none Lr b := by
  cases t with
  | findNode c | putRecord _ _ c | addProvider _ _ _ c =>
    cases m with
    | findNode peers => exact ⟨_, _, FindNode.sim d U c (.resp p peers) hm⟩
    | _ => exact ⟨_, _, FindNode.sim d U c (.fail p) trivial⟩
  | getRecord c =>
    cases m with
    | getRecord r peers => exact ⟨_, _, GetRecord.sim d U c (.resp p r peers) hm⟩
    | _ => exact ⟨_, _, GetRecord.sim d U c (.fail p) trivial⟩
  | getProviders c =>
    cases m with
    | getProviders pr peers => exact ⟨_, _, GetProviders.sim d U c (.resp p pr peers) hm⟩
    | _ => exact ⟨_, _, GetProviders.sim d U c (.fail p) trivial⟩
  | _ => exact ⟨_, _, VStep.stay _⟩

theorem sendFailType_view (L p : Nat) (t : QueryType) : (Engine.sendFailType p t).view L = t.view L := by
  cases t <;> rfl

theorem sendOkType_view (L p : Nat) (t : QueryType) : (Engine.sendOkType p t).view L = t.view L := by
  cases t <;> rfl

theorem successAction_not_send (q q' : Nat) (t : QueryType) : sentNow q (.act (Engine.successAction q' t)) = none := by
  cases t <;> rfl

/-- `quiet` / `act`: `next_action` advances the context any number of times without an action (`order` may name `q`
repeatedly), at most once with a request or a partial result. The last index is the peer the outcome tells `q` to contact. -/
inductive CtxStep (q : Nat) : EOp → QueryType → QueryType → Option Nat → Prop
  | stay (op : EOp) (t : QueryType) : CtxStep q op t t none
  | quiet {now : Nat} {order : List Nat} {t t' : QueryType} {o : Option Nat}
      (h : (Engine.typeNext now t).2 = none) (hs : CtxStep q (.next now order) (Engine.typeNext now t).1 t' o) :
      CtxStep q (.next now order) t t' o
  | act (now : Nat) (order : List Nat) (t : QueryType) :
      CtxStep q (.next now order) t (Engine.typeNext now t).1 (sendOf (Engine.typeNext now t).2)
  | resp (p : Nat) (m : Msg) (t : QueryType) : CtxStep q (.response q p m) t (Engine.respType p m t) none
  | fail (p : Nat) (t : QueryType) : CtxStep q (.responseFailure q p) t (Engine.failType p t) none
  | sendOk (p : Nat) (t : QueryType) : CtxStep q (.sendSuccess q p) t (Engine.sendOkType p t) none
  | sendFail (p : Nat) (t : QueryType) : CtxStep q (.sendFailure q p) t (Engine.sendFailType p t) none
  | peerFail (p : Nat) (t : QueryType) :
      CtxStep q (.peerFailure q p) t (Engine.failType p (Engine.sendFailType p t)) none

theorem CtxStep.view (d : Nat → Nat) (U : List Nat) (L : Nat) {q : Nat} {op : EOp} {t t' : QueryType}
    {o : Option Nat} (h : CtxStep q op t t' o) (hok : op.okFor d U q) :
    ∃ Lr b, VStep d U (t.view L) (t'.view L) o Lr b := by
  induction h with
  | stay => exact ⟨_, _, VStep.stay _⟩
  | @quiet now _ t _ _ ha _ ih =>
    have hsim := typeNext_sim d U L now t
    rw [ha] at hsim
    exact VStep.none_eq hsim ▸ ih hok
  | act now _ t => exact ⟨_, _, typeNext_sim d U L now t⟩
  | resp p m t => exact respType_sim d U L p m t (hok rfl)
  | fail p t => exact failType_sim d U L p t
  | sendOk p t => exact ⟨_, _, VStep.stay' (sendOkType_view L p t)⟩
  | sendFail p t => exact ⟨_, _, VStep.stay' (sendFailType_view L p t)⟩
  | peerFail p t =>
    rw [← sendFailType_view L p t]
    exact failType_sim d U L p _

/-- What one engine operation that does not start `q` does to the query stored under `q`: `c` is its context before,
`e'` and `o` are engine and outcome after. -/
def QMove (q : Nat) (op : EOp) (c : Option QueryType) (e' : Engine) (o : Outcome) : Prop :=
  match c with
  | none => qLookup q e'.queries = none ∧ ∀ a, o = .act a → a.query ≠ q
  | some t =>
    (∃ t', qLookup q e'.queries = some t' ∧ CtxStep q op t t' (sentNow q o) ∧
      ∀ a, o = .act a → a.query = q → a.terminal = false) ∨
    (qLookup q e'.queries = none ∧ sentNow q o = none)

theorem sentNow_other {q : Nat} {o : Outcome} (h : ∀ a, o = .act a → a.query ≠ q) : sentNow q o = none := by
  unfold sentNow
  split
  · exact if_neg (h _ rfl)
  · rfl

theorem QMove.other {q : Nat} {op : EOp} {c : Option QueryType} {e' : Engine} {o : Outcome}
    (hc : qLookup q e'.queries = c) (h : ∀ a, o = .act a → a.query ≠ q) : QMove q op c e' o := by
  cases c with
  | none => exact ⟨hc, h⟩
  | some t => exact .inl ⟨t, hc, sentNow_other h ▸ .stay op t, fun a ha hq => absurd hq (h a ha)⟩

theorem QMove.terminal_gone {q : Nat} {op : EOp} {c : Option QueryType} {e' : Engine} {o : Outcome} {a : EAction}
    (h : QMove q op c e' o) (ho : o = .act a) (hq : a.query = q) (ht : a.terminal = true) :
    qLookup q e'.queries = none := by
  cases c with
  | none => exact h.1
  | some t =>
    rcases h with ⟨_, _, _, hnt⟩ | h
    · exact absurd ht (by simp [hnt a ho hq])
    · exact h.1

/-- The induction consumes `order`, the queries still to visit; the label keeps the order `order0` of the whole call,
which `CtxStep` does not look at. -/
theorem nextAction_id (now : Nat) (order0 order : List Nat) : ∀ (e : Engine), KeyOk e →
    KeyOk (e.nextAction now order).1 ∧ (e.nextAction now order).2 ≠ .bug ∧
    ∀ q, QMove q (.next now order0) (qLookup q e.queries) (e.nextAction now order).1 (e.nextAction now order).2 := by
  induction order with
  | nil => exact fun e hk => ⟨hk, nofun, fun q => QMove.other (o := .none) rfl nofun⟩
  | cons q2 rest ih =>
    intro e hk
    cases hl : qLookup q2 e.queries with
    | none => simp only [Engine.nextAction, hl]; exact ih e hk
    | some t =>
      have hkey : (Engine.typeNext now t).1.query = q2 := (typeNext_query now t).1.trans (hk _ (qLookup_some hl))
      have hset : KeyOk { e with queries := qSet q2 (Engine.typeNext now t).1 e.queries } := hk.set q2 _ hkey
      have hl1 := qLookup_qSet_same (t := (Engine.typeNext now t).1) hl
      have hne1 : ∀ q, q2 ≠ q → qLookup q (qSet q2 (Engine.typeNext now t).1 e.queries) = qLookup q e.queries :=
        fun q hq => by rw [qLookup_qSet, if_neg (Ne.symm hq)]
      have hne2 : ∀ q, q2 ≠ q →
          qLookup q (qErase q2 (qSet q2 (Engine.typeNext now t).1 e.queries)) = qLookup q e.queries :=
        fun q hq => by rw [qLookup_qErase, if_neg (Ne.symm hq), hne1 q hq]
      have hact := CtxStep.act (q := q2) now order0 t
      -- a visit that ends the call is a move of `q2` alone
      have visit : ∀ (e' : Engine) (a : EAction), a.query = q2 →
          (∀ q, q2 ≠ q → qLookup q e'.queries = qLookup q e.queries) → QMove q2 (.next now order0) (some t) e' (.act a) →
          ∀ q, QMove q (.next now order0) (qLookup q e.queries) e' (.act a) := by
        intro e' a ha hne h2 q
        by_cases hq : q2 = q
        · subst hq
          rw [hl]
          exact h2
        · exact .other (hne q hq) fun a' h => by cases h; exact ha ▸ hq
      rw [nextAction_visit hk now q2 rest hl]
      split
      · rename_i ha
        obtain ⟨i1, i2, i3⟩ := ih _ hset
        refine ⟨i1, i2, fun q => ?_⟩
        by_cases hq : q2 = q
        · subst hq
          have := i3 q2
          rw [hl]
          simp only [hl1] at this
          rcases this with ⟨t', h1, hs, hnt⟩ | h
          · exact .inl ⟨t', h1, .quiet ha hs, hnt⟩
          · exact .inr h
        · exact hne1 q hq ▸ i3 q
      · rename_i p ha
        rw [ha] at hact
        exact ⟨hset, nofun, visit _ _ rfl hne1
          (.inl ⟨_, hl1, by simpa [sentNow, sendOf] using hact, fun a h _ => by cases h; rfl⟩)⟩
      · rename_i p v ha
        rw [ha] at hact
        exact ⟨hset, nofun, visit _ _ rfl hne1 (.inl ⟨_, hl1, hact, fun a h _ => by cases h; rfl⟩)⟩
      · exact ⟨hset.erase _, nofun, visit _ _ (successAction_query hkey) hne2
          (.inr ⟨qLookup_qErase_same _ _, successAction_not_send _ _ _⟩)⟩
      · exact ⟨hset.erase _, nofun, visit _ _ rfl hne2 (.inr ⟨qLookup_qErase_same _ _, rfl⟩)⟩

theorem update_id (op : EOp) (q' : Nat) (f : QueryType → QueryType) (hf : ∀ t, (f t).query = t.query)
    (hc : ∀ t, CtxStep q' op t (f t) none) (e : Engine) (hk : KeyOk e) :
    KeyOk (e.update q' f) ∧ ∀ q, QMove q op (qLookup q e.queries) (e.update q' f) .none := by
  refine ⟨?_, fun q => ?_⟩
  · unfold Engine.update
    split
    · exact hk
    · rename_i t hl
      exact hk.set q' _ ((hf t).trans (hk _ (qLookup_some hl)))
  · by_cases hq : q' = q
    · subst hq
      cases hl : qLookup q' e.queries with
      | none => exact ⟨by simp [qLookup_update, hl], nofun⟩
      | some t => exact .inl ⟨f t, by simp [qLookup_update, hl], hc t, nofun⟩
    · exact .other (by rw [qLookup_update, if_neg hq]) nofun

/-- `≠ .bug`: no operation hits `expect("query to exist")`. `Engine.step` and `Engine.nextAction` are taken apart here and
in `nextAction_id`, `update_id` only; the id an operation starts has `step_start`. -/
theorem step_id (e : Engine) (op : EOp) (hk : KeyOk e) :
    KeyOk (e.step op).1 ∧ (e.step op).2 ≠ .bug ∧
    ∀ q, op.starts ≠ some q → QMove q op (qLookup q e.queries) (e.step op).1 (e.step op).2 := by
  cases hs : op.starts with
  | some q' =>
    obtain ⟨t, ht, he⟩ := step_start (e := e) hs
    rw [he]
    exact ⟨hk.insert q' t ht, nofun, fun q hq =>
      .other (qLookup_qInsert_ne fun h => hq (h ▸ rfl)) nofun⟩
  | none =>
    -- `none ≠ some q` is what `cases hs` has made of `op.starts ≠ some q`
    have upd : ∀ q' f, (∀ t, (f t).query = t.query) → (∀ t, CtxStep q' op t (f t) none) →
        KeyOk (e.update q' f) ∧ Outcome.none ≠ .bug ∧
        ∀ q, none ≠ some q → QMove q op (qLookup q e.queries) (e.update q' f) .none :=
      fun q' f hf hc => ⟨(update_id op q' f hf hc e hk).1, nofun, fun q _ => (update_id op q' f hf hc e hk).2 q⟩
    cases op with
    | next now order => exact (nextAction_id now order order e hk).imp_right (.imp_right fun h q _ => h q)
    | response q' p m => exact upd q' _ (respType_query p m) (.resp p m)
    | responseFailure q' p => exact upd q' _ (failType_query p) (.fail p)
    | sendSuccess q' p => exact upd q' _ (sendOkType_query p) (.sendOk p)
    | sendFailure q' p => exact upd q' _ (sendFailType_query p) (.sendFail p)
    | peerFailure q' p =>
      have := upd q' (Engine.failType p ∘ Engine.sendFailType p)
        (fun t => (failType_query p _).trans (sendFailType_query p t)) (.peerFail p)
      rwa [← update_update] at this
    | _ => simp [EOp.starts] at hs

theorem run_absent (q : Nat) (ops : List EOp) : ∀ (e : Engine), KeyOk e → qLookup q e.queries = none →
    (∀ op ∈ ops, op.starts ≠ some q) →
    actionCount q (e.run ops).2 = 0 ∧ terminalCount q (e.run ops).2 = 0 ∧ sentTo q (e.run ops).2 = [] ∧
      qLookup q (e.run ops).1.queries = none := by
  induction ops with
  | nil => intro e _ hq _; exact ⟨rfl, rfl, rfl, hq⟩
  | cons op ops ih =>
    intro e hk hq hst
    obtain ⟨hst1, hst'⟩ := List.forall_mem_cons.1 hst
    obtain ⟨s1, _, s3⟩ := step_id e op hk
    have hid := s3 q hst1
    rw [hq] at hid
    obtain ⟨i1, i2, i3, i4⟩ := ih _ s1 hid.1 hst'
    simp only [Engine.run, sentTo, sentNow_other hid.2, i3]
    cases ho : (e.step op).2 with
    | none | bug => exact ⟨i1, i2, rfl, i4⟩
    | act a =>
      have hne := hid.2 a ho
      exact ⟨by simp [actionCount, hne, i1], by simp [terminalCount, hne, i2], rfl, i4⟩

theorem run_terminal_le (q : Nat) (ops : List EOp) : ∀ (e : Engine), KeyOk e →
    (∀ op ∈ ops, op.starts ≠ some q) → terminalCount q (e.run ops).2 ≤ 1 := by
  induction ops with
  | nil => intro e _ _; simp [Engine.run, terminalCount]
  | cons op ops ih =>
    intro e h hst
    obtain ⟨hst1, hrest⟩ := List.forall_mem_cons.1 hst
    obtain ⟨s1, _, s3⟩ := step_id e op h
    have hid := s3 q hst1
    simp only [Engine.run]
    cases ho : (e.step op).2 with
    | none | bug => exact ih _ s1 hrest
    | act a =>
      simp only [terminalCount]
      split
      · rename_i hc
        have := (run_absent q ops _ s1 (hid.terminal_gone ho hc.2 hc.1) hrest).2.1
        omega
      · have := ih _ s1 hrest
        omega

/-- The frontier of query `q` along every operation list that does not start `q` again: the peers
sent to are pairwise different, none of them is `L`, none was contacted before. -/
theorem run_view (d : Nat → Nat) (U : List Nat) (L q : Nat) (ops : List EOp) : ∀ (e : Engine), KeyOk e →
    (∀ op ∈ ops, op.starts ≠ some q) → (∀ op ∈ ops, op.okFor d U q) →
    (∀ t, qLookup q e.queries = some t → (t.view L).Fr d U ∧ (t.view L).l = L) →
    (sentTo q (e.run ops).2).Nodup ∧
    (∀ c ∈ sentTo q (e.run ops).2, c ≠ L ∧ ∃ t, qLookup q e.queries = some t ∧ ¬ (t.view L).visited c) ∧
    (∀ t, qLookup q (e.run ops).1.queries = some t → (t.view L).Fr d U ∧ (t.view L).l = L) := by
  induction ops with
  | nil => intro e _ _ _ hfr; exact ⟨by simp [Engine.run, sentTo], by simp [Engine.run, sentTo], hfr⟩
  | cons op ops ih =>
    intro e hk hst hok hfr
    obtain ⟨hk', _, s3⟩ := step_id e op hk
    obtain ⟨hst1, hst'⟩ := List.forall_mem_cons.1 hst
    obtain ⟨hok1, hok'⟩ := List.forall_mem_cons.1 hok
    cases ht : qLookup q e.queries with
    | none =>
      obtain ⟨_, _, g1, g2⟩ := run_absent q (op :: ops) e hk ht hst
      rw [g1, g2]
      exact ⟨List.nodup_nil, nofun, nofun⟩
    | some t =>
      obtain ⟨hfr0, hl0⟩ := hfr t ht
      have hid := s3 q hst1
      rw [ht] at hid
      simp only [Engine.run, sentTo]
      rcases hid with ⟨t', h1, hc, _⟩ | ⟨h1, h2⟩
      · obtain ⟨Lr, b, hv⟩ := hc.view d U L hok1
        obtain ⟨s1, s2, s3, _, _, s6, _⟩ := hv.spec hfr0
        obtain ⟨i1, i2, i3⟩ := ih _ hk' hst' hok'
          (fun t2 h => by rw [h1] at h; cases h; exact ⟨s1, s2.trans hl0⟩)
        refine ⟨?_, ?_, i3⟩
        · refine nodup_toList_append i1 fun c ho hm => ?_
          obtain ⟨_, t2, h, hnv⟩ := i2 c hm
          rw [h1] at h; cases h
          exact hnv (s6 c ho).2.2.1
        · intro c hc
          rcases List.mem_append.1 hc with hc | hc
          · obtain ⟨y1, y2, _⟩ := s6 c (Option.mem_toList.1 hc)
            exact ⟨hl0 ▸ y1, t, rfl, y2⟩
          · obtain ⟨x1, t2, h, hnv⟩ := i2 c hc
            rw [h1] at h; cases h
            exact ⟨x1, t, rfl, fun hv' => hnv (s3 c hv')⟩
      · obtain ⟨_, _, g1, g2⟩ := run_absent q ops _ hk' h1 hst'
        rw [h2, g1, g2]
        exact ⟨List.nodup_nil, nofun, nofun⟩

theorem start_view (e : Engine) (q : Nat) (inPeers : List KPeer) (op : EOp)
    (hop : op.startsLookup q inPeers) :
    ∃ t, qLookup q (e.step op).1.queries = some t ∧ t.view e.localPeer = ⟨e.localPeer, initCandidates inPeers, [], []⟩ := by
  cases op with
  | startFindNode q' c | startPutRecord q' _ c _ | startGetRecord q' c _ _ | startAddProvider q' _ _ c _
  | startGetProviders q' c _ =>
    obtain ⟨rfl, rfl⟩ := hop
    exact ⟨_, qLookup_qInsert_same _ _ _, rfl⟩
  | _ => exact absurd hop (by simp [EOp.startsLookup])

end Litep2pVerif.Kad.Query
