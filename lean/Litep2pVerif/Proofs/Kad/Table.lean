import Mathlib.Data.Nat.Bitwise
import Litep2pVerif.Model.Kad.Table
/-!
# The routing-table model (property C14)

Keys of a bucket visited earlier are strictly closer to the target (`closer_of_before`, at bit level `xor_lt_of_before`);
`visited_eq` / `visited_perm` say which buckets `closest` visits. Every operation is a step `BStep` on the bucket of its key
(`step_shape`); a step keeps the bucket invariant `BInv`, hence `TInv` along `run`, and never displaces a connected node
(`bstep_keep`). `closest` returns the `k` closest stored peers with addresses (`closest_spec`).
-/
namespace Litep2pVerif.Kad.Table
open Litep2pVerif.Kad.Key Litep2pVerif.Kad.Bucket

theorem bucketIndex_eq_some {a i : Nat} : bucketIndex a = some i ↔ a ≠ 0 ∧ a.log2 = i := by
  unfold bucketIndex
  split <;> simp [*]

theorem testBit_top {a i : Nat} (h : bucketIndex a = some i) : a.testBit i = true := by
  obtain ⟨ha, rfl⟩ := bucketIndex_eq_some.1 h
  exact Nat.testBit_log2 ha

theorem testBit_above {a i m : Nat} (h : bucketIndex a = some i) (hm : i < m) : a.testBit m = false := by
  obtain ⟨ha, rfl⟩ := bucketIndex_eq_some.1 h
  exact Nat.testBit_lt_two_pow ((Nat.log2_lt ha).1 hm)

/-- Visit order of bucket indices for distance `d`: the larger index decides, by its bit of `d`. -/
def Before (d i j : Nat) : Prop := (j < i ∧ d.testBit i = true) ∨ (i < j ∧ d.testBit j = false)

/-- `a` and `b` have their top bits at `i` and `j`. Above the larger of the two, `a ^^^ d` and `b ^^^ d` agree with
`d`; at it exactly one of them has the bit of `d` flipped, and `Before` says it is flipped the right way. -/
theorem xor_lt_of_before {d a b i j : Nat} (ha : bucketIndex a = some i) (hb : bucketIndex b = some j)
    (h : Before d i j) : a ^^^ d < b ^^^ d := by
  rcases h with ⟨hlt, hd⟩ | ⟨hlt, hd⟩
  · apply Nat.lt_of_testBit i
    · simp [Nat.testBit_xor, testBit_top ha, hd]
    · simp [Nat.testBit_xor, testBit_above hb hlt, hd]
    · intro m hm
      simp [Nat.testBit_xor, testBit_above ha hm, testBit_above hb (Nat.lt_trans hlt hm)]
  · apply Nat.lt_of_testBit j
    · simp [Nat.testBit_xor, testBit_above ha hlt, hd]
    · simp [Nat.testBit_xor, testBit_top hb, hd]
    · intro m hm
      simp [Nat.testBit_xor, testBit_above ha (Nat.lt_trans hlt hm), testBit_above hb hm]

def onesBelow (d i : Nat) : List Nat := (List.range i).reverse.filter fun j => d.testBit j

def zerosFrom (d j n : Nat) : List Nat := (List.range' j n).filter fun i => !d.testBit i

theorem onesBelow_succ (d i : Nat) :
    onesBelow d (i + 1) = if d.testBit i then i :: onesBelow d i else onesBelow d i := by
  simp [onesBelow, List.range_succ, List.filter_cons]

theorem zerosFrom_succ (d j n : Nat) :
    zerosFrom d j (n + 1) = if !d.testBit j then j :: zerosFrom d (j + 1) n else zerosFrom d (j + 1) n := by
  simp [zerosFrom, List.range'_succ, List.filter_cons]

theorem onesBelow_eq (d : Nat) : ∀ i, onesBelow d i =
    match nextIn d i with
    | some j => j :: onesBelow d j
    | none => []
  | 0 => rfl
  | i + 1 => by
    rw [onesBelow_succ, nextIn]
    split
    · rfl
    · exact onesBelow_eq d i

/-- The upward scan from `j` with `n = nb - j` indices left. -/
theorem zerosFrom_eq (nb d : Nat) : ∀ n j, n = nb - j → zerosFrom d j n =
    match nextOutFrom d j n with
    | some m => m :: zerosFrom d (m + 1) (nb - (m + 1))
    | none => []
  | 0, _, _ => rfl
  | n + 1, j, h => by
    rw [zerosFrom_succ, nextOutFrom]
    split
    · rw [show n = nb - (j + 1) by omega]
    · exact zerosFrom_eq nb d n (j + 1) (by omega)

/-- What the iterator has still to yield in each state. -/
def Iter.rest (nb : Nat) : Iter → List Nat
  | ⟨d, .start i⟩ => i :: onesBelow d i ++ 0 :: zerosFrom d 1 (nb - 1)
  | ⟨d, .zoomIn i⟩ => onesBelow d i ++ 0 :: zerosFrom d 1 (nb - 1)
  | ⟨d, .zoomOut i⟩ => zerosFrom d (i + 1) (nb - (i + 1))
  | ⟨_, .done⟩ => []

theorem rest_next (nb : Nat) (it : Iter) : it.rest nb =
    match it.next nb with
    | (some i, it') => i :: it'.rest nb
    | (none, _) => [] := by
  obtain ⟨d, i | i | i | _⟩ := it
  · rfl
  · simp only [Iter.rest, Iter.next]
    rw [onesBelow_eq d i]
    cases nextIn d i <;> rfl
  · simp only [Iter.rest, Iter.next, nextOut]
    rw [zerosFrom_eq nb d _ _ rfl]
    cases nextOutFrom d (i + 1) (nb - (i + 1)) <;> rfl
  · rfl

theorem drain_rest (nb : Nat) : ∀ fuel it, (Iter.rest nb it).length ≤ fuel → Iter.drain nb fuel it = it.rest nb
  | 0, it, h => (List.eq_nil_of_length_eq_zero (Nat.le_zero.1 h)).symm
  | fuel + 1, it, h => by
    rw [rest_next] at h ⊢
    rw [Iter.drain]
    generalize it.next nb = r at h ⊢
    obtain ⟨_ | i, it'⟩ := r
    · rfl
    · exact congrArg (i :: ·) (drain_rest nb fuel it' (Nat.le_of_succ_le_succ h))

/-- The index `ClosestBucketsIter::new` starts with. -/
def startIndex (d : Nat) : Nat := (bucketIndex d).getD 0

/-- The head part of the visit: the set bits of `d` in decreasing order (just `[0]` for `d = 0`). -/
def headPart (d : Nat) : List Nat := startIndex d :: onesBelow d (startIndex d)

theorem iterList_eq (nb d : Nat) : iterList nb d = headPart d ++ 0 :: zerosFrom d 1 (nb - 1) := by
  have hle : startIndex d ≤ d.log2 := by
    unfold startIndex bucketIndex; split <;> simp
  have hnew : Iter.new d = ⟨d, .start (startIndex d)⟩ := by
    unfold Iter.new startIndex
    cases bucketIndex d <;> rfl
  unfold iterList
  rw [hnew, drain_rest]
  · rfl
  · have h1 := List.length_filter_le (fun j => d.testBit j) (List.range (startIndex d)).reverse
    have h2 := List.length_filter_le (fun i => !d.testBit i) (List.range' 1 (nb - 1))
    simp only [Iter.rest, onesBelow, zerosFrom, List.length_cons, List.length_append, List.length_reverse,
      List.length_range, List.length_range'] at h1 h2 ⊢
    omega

theorem mem_onesBelow {d i a : Nat} : a ∈ onesBelow d i ↔ a < i ∧ d.testBit a = true := by
  simp [onesBelow]

theorem pairwise_onesBelow (d i : Nat) : (onesBelow d i).Pairwise (fun a b => b < a) :=
  (List.pairwise_reverse.2 List.pairwise_lt_range).filter _

theorem mem_zerosFrom {d j n a : Nat} : a ∈ zerosFrom d j n ↔ j ≤ a ∧ a < j + n ∧ d.testBit a = false := by
  simp only [zerosFrom, List.mem_filter, List.mem_range'_1, Bool.not_eq_true', and_assoc]

theorem pairwise_zerosFrom (d j n : Nat) : (zerosFrom d j n).Pairwise (fun a b => a < b) :=
  (List.pairwise_lt_range' (s := j) (n := n)).filter _

theorem skipRepeats_nodup : ∀ (l : List Nat) (prev : Option Nat), l.Nodup → (∀ x, prev = some x → x ∉ l) →
    skipRepeats prev l = l := by
  intro l
  induction l with
  | nil => intros; rfl
  | cons a l ih =>
    intro prev hn hp
    have hne : prev ≠ some a := fun h => hp a h (List.mem_cons_self ..)
    rw [List.nodup_cons] at hn
    simp only [skipRepeats, hne, if_false]
    rw [ih (some a) hn.2 (by intro x hx; cases hx; exact hn.1)]

theorem skipRepeats_dup (a : Nat) (r : List Nat) : ∀ (s : List Nat) (prev : Option Nat),
    skipRepeats prev (s ++ a :: a :: r) = skipRepeats prev (s ++ a :: r) := by
  intro s
  induction s with
  | nil => intro prev; simp [skipRepeats]
  | cons x s ih => intro prev; simp only [List.cons_append, skipRepeats, ih]

theorem before_irrefl (d i : Nat) : ¬ Before d i i := by
  simp [Before]

theorem startIndex_lt {nb d : Nat} (hnb : 0 < nb) (hd : d < 2 ^ nb) : startIndex d < nb := by
  unfold startIndex bucketIndex
  by_cases h : d = 0
  · simp [h, hnb]
  · simp only [h, if_false, Option.getD_some]
    exact (Nat.log2_lt h).2 hd

theorem mem_headPart {d a : Nat} : a ∈ headPart d ↔ (d = 0 ∧ a = 0) ∨ d.testBit a = true := by
  unfold headPart startIndex bucketIndex
  by_cases h : d = 0
  · subst h; simp [onesBelow]
  · simp only [h, if_false, Option.getD_some, List.mem_cons, mem_onesBelow, false_and, false_or]
    constructor
    · rintro (rfl | ⟨_, hb⟩)
      · exact Nat.testBit_log2 h
      · exact hb
    · intro hb
      have : a ≤ d.log2 := (Nat.le_log2 h).2 (Nat.ge_two_pow_of_testBit hb)
      rcases Nat.lt_or_eq_of_le this with h1 | h1
      · exact Or.inr ⟨h1, hb⟩
      · exact Or.inl h1

theorem pairwise_headPart (d : Nat) : (headPart d).Pairwise (fun a b => b < a) := by
  unfold headPart
  exact List.pairwise_cons.2 ⟨fun b hb => (mem_onesBelow.1 hb).1, pairwise_onesBelow _ _⟩

theorem zero_not_mem_zerosFrom {d n : Nat} : 0 ∉ zerosFrom d 1 n := fun h => by
  have := (mem_zerosFrom.1 h).1; omega

/-- `hj`: for `d = 0` the head part is `[0]`, so the scan must start above 0. -/
theorem pairwise_head_zeros (d j n : Nat) (hj : d = 0 → 0 < j) :
    (headPart d ++ zerosFrom d j n).Pairwise (Before d) := by
  refine List.pairwise_append.2 ⟨(pairwise_headPart d).imp_of_mem ?_, (pairwise_zerosFrom d j _).imp_of_mem ?_, ?_⟩
  · intro a b ha _ hlt
    rcases mem_headPart.1 ha with ⟨_, rfl⟩ | ha'
    · omega
    · exact Or.inl ⟨hlt, ha'⟩
  · intro a b _ hb hlt
    exact Or.inr ⟨hlt, (mem_zerosFrom.1 hb).2.2⟩
  · intro a ha z hz
    have hz' := mem_zerosFrom.1 hz
    rcases mem_headPart.1 ha with ⟨h0, rfl⟩ | ha'
    · have := hj h0
      exact Or.inr ⟨by omega, hz'.2.2⟩
    · have hne : a ≠ z := fun e => by rw [e, hz'.2.2] at ha'; cases ha'
      exact (Nat.lt_or_gt_of_ne hne).elim (fun h => Or.inr ⟨h, hz'.2.2⟩) fun h => Or.inl ⟨h, ha'⟩

theorem nodup_of_before {d : Nat} {l : List Nat} (h : l.Pairwise (Before d)) : l.Nodup :=
  h.imp fun {a b} h (e : a = b) => before_irrefl d a (by rw [← e] at h; exact h)

theorem iterList_nodup_iff (nb d : Nat) : (iterList nb d).Nodup ↔ 0 ∉ headPart d := by
  rw [iterList_eq, List.perm_middle.nodup_iff, List.nodup_cons, List.mem_append]
  exact ⟨fun h h0 => h.1 (Or.inl h0), fun h0 => ⟨fun h => h.elim h0 zero_not_mem_zerosFrom, nodup_of_before (pairwise_head_zeros d 1 (nb - 1) fun _ => Nat.one_pos)⟩⟩

theorem visited_eq (nb d : Nat) :
    visited nb d = if 0 ∈ headPart d then headPart d ++ zerosFrom d 1 (nb - 1)
      else headPart d ++ 0 :: zerosFrom d 1 (nb - 1) := by
  unfold visited
  have hi := iterList_nodup_iff nb d
  rw [iterList_eq] at hi ⊢
  split
  · next h0 =>
    -- `headPart d` is decreasing, so its 0 is its last element and is followed at once by the second 0
    obtain ⟨s, t, hst⟩ := List.append_of_mem h0
    have ht : t = [] := List.eq_nil_iff_forall_not_mem.2 fun x hx => by
      have hp := pairwise_headPart d
      rw [hst] at hp
      exact Nat.not_lt_zero _ ((List.pairwise_cons.1 (List.pairwise_append.1 hp).2.1).1 x hx)
    subst ht
    have hn := nodup_of_before (pairwise_head_zeros d 1 (nb - 1) fun _ => Nat.one_pos)
    simp only [hst, List.append_assoc, List.singleton_append] at hn ⊢
    exact (skipRepeats_dup 0 _ s none).trans (skipRepeats_nodup _ none hn (by simp))
  · next h0 => exact skipRepeats_nodup _ none (hi.2 h0) (by simp)

theorem mem_visited {nb d a : Nat} :
    a ∈ visited nb d ↔ a ∈ headPart d ∨ a = 0 ∨ a ∈ zerosFrom d 1 (nb - 1) := by
  rw [visited_eq]
  split
  · next h0 =>
    rw [List.mem_append]
    exact ⟨fun h => h.elim Or.inl (Or.inr ∘ Or.inr), fun h => h.elim Or.inl fun h => h.elim (· ▸ Or.inl h0) Or.inr⟩
  · simp only [List.mem_append, List.mem_cons]

theorem visited_pairwise (nb d : Nat) : (visited nb d).Pairwise (Before d) := by
  rw [visited_eq]
  split
  · exact pairwise_head_zeros d 1 _ fun _ => Nat.one_pos
  · next h0 =>
    -- bucket 0 is not in the head part: `d ≠ 0` and bit 0 is clear, so 0 is where the upward scan from 0 starts
    have hb0 : d.testBit 0 = false := Bool.eq_false_iff.2 fun hb => h0 (mem_headPart.2 (Or.inr hb))
    have := pairwise_head_zeros d 0 (nb - 1 + 1) fun hd => absurd (mem_headPart.2 (Or.inl ⟨hd, rfl⟩)) h0
    rwa [zerosFrom_succ, hb0] at this

theorem visited_perm {nb d : Nat} (hnb : 0 < nb) (hd : d < 2 ^ nb) :
    (visited nb d).Perm (List.range nb) := by
  refine (List.perm_ext_iff_of_nodup (nodup_of_before (visited_pairwise nb d)) List.nodup_range).2 fun a => ?_
  rw [mem_visited, List.mem_range]
  constructor
  · rintro (h | rfl | h)
    · rcases mem_headPart.1 h with ⟨_, rfl⟩ | hb
      · exact hnb
      · exact (Nat.pow_lt_pow_iff_right (by decide)).1 (Nat.lt_of_le_of_lt (Nat.ge_two_pow_of_testBit hb) hd)
    · exact hnb
    · have := mem_zerosFrom.1 h; omega
  · intro ha
    cases hb : d.testBit a with
    | true => exact Or.inl (mem_headPart.2 (Or.inr hb))
    | false =>
      rcases Nat.eq_zero_or_pos a with rfl | hpos
      · exact Or.inr (Or.inl rfl)
      · exact Or.inr (Or.inr (mem_zerosFrom.2 ⟨hpos, by omega, hb⟩))

theorem entry_cases (K : Nat) (b : Bucket) (key rnd : Nat) :
    (∃ i p, entry K b key rnd = (b, .occupied i) ∧ b[i]? = some (.real p) ∧ p.key = key) ∨
    ((∀ p, Slot.real p ∈ b → p.key ≠ key) ∧
      ((b.length < K ∧ entry K b key rnd = (b ++ [.junk rnd], .vacant b.length)) ∨
       (∃ i s, entry K b key rnd = (b, .vacant i) ∧ b[i]? = some s ∧ s.replaceable = true) ∨
       entry K b key rnd = (b, .noSlot))) := by
  unfold entry
  cases h : b.findIdx? (Slot.matchesKey key) with
  | some i =>
    left
    obtain ⟨hi, hm, _⟩ := List.findIdx?_eq_some_iff_getElem.1 h
    cases hs : b[i] with
    | junk k => simp [hs, Slot.matchesKey] at hm
    | real p => exact ⟨i, p, rfl, by rw [List.getElem?_eq_getElem hi, hs], by simpa [hs, Slot.matchesKey] using hm⟩
  | none =>
    right
    refine ⟨fun p hp => by simpa [Slot.matchesKey] using List.findIdx?_eq_none_iff.1 h _ hp, ?_⟩
    by_cases hlen : b.length < K
    · left; simp [hlen]
    · right
      simp only [hlen, if_false]
      cases h2 : b.findIdx? Slot.replaceable with
      | some i =>
        left
        obtain ⟨hi, hm, _⟩ := List.findIdx?_eq_some_iff_getElem.1 h2
        exact ⟨i, b[i], rfl, List.getElem?_eq_getElem hi, hm⟩
      | none => right; rfl

/-- The four bucket operations are each `entry` followed by an update `f` of the occupied node or, on a vacant slot, the
insertion of a newcomer `new` (only `add_known_peer` brings one), so that they are a `BStep` by one proof, `bstep_onEntry`. -/
def onEntry (K : Nat) (b : Bucket) (key rnd : Nat) (f : Peer → Peer) (new : Option Peer) : Bucket :=
  match entry K b key rnd, new with
  | (b', .occupied i), _ => b'.modify i (updateReal f)
  | (b', .vacant i), some q => b'.set i (.real q)
  | (b', _), _ => b'

theorem addKnownPeer_eq (K : Nat) (b : Bucket) (peer key naddrs : Nat) (conn : Conn) (rnd : Nat) :
    addKnownPeer K b peer key naddrs conn rnd =
      onEntry K b key rnd (fun p => { p with addrs := p.addrs + naddrs, conn := conn })
        (some ⟨peer, key, naddrs, conn⟩) := by
  unfold addKnownPeer onEntry
  rcases entry K b key rnd with ⟨b', _ | i | i | _⟩ <;> rfl

theorem onConnectionEstablished_eq (K : Nat) (b : Bucket) (key : Nat) (dialer : Bool) (rnd : Nat) :
    onConnectionEstablished K b key dialer rnd =
      onEntry K b key rnd
        (fun p => { p with conn := .connected, addrs := if dialer then p.addrs + 1 else p.addrs }) none := by
  unfold onConnectionEstablished onEntry
  rcases entry K b key rnd with ⟨b', _ | i | i | _⟩ <;> rfl

theorem onDialFailure_eq (K : Nat) (b : Bucket) (key naddrs rnd : Nat) :
    onDialFailure K b key naddrs rnd = onEntry K b key rnd (fun p => { p with addrs := p.addrs + naddrs }) none := by
  unfold onDialFailure onEntry
  rcases entry K b key rnd with ⟨b', _ | i | i | _⟩ <;> rfl

theorem onDisconnected_eq (K : Nat) (b : Bucket) (key rnd : Nat) :
    onDisconnected K b key rnd = onEntry K b key rnd (fun p => { p with conn := .notConnected }) none := by
  unfold onDisconnected onEntry
  rcases entry K b key rnd with ⟨b', _ | i | i | _⟩ <;> rfl

/-- `dg`: the operation may take the `Connected` flag from the node it updates. -/
inductive BStep (K key : Nat) (dg : Bool) : Bucket → Bucket → Prop
  | refl (b) : BStep K key dg b b
  | push (b s) : b.length < K → (∀ q, s = .real q → q.key = key ∧ ∀ p, Slot.real p ∈ b → p.key ≠ key) →
      BStep K key dg b (b ++ [s])
  | update (b i p q) : b[i]? = some (.real p) → p.key = key → q.key = p.key → q.peer = p.peer →
      (dg = false → p.conn = .connected → q.conn = .connected) → BStep K key dg b (b.set i (.real q))
  | replace (b i s q) : b[i]? = some s → s.replaceable = true → (∀ p, Slot.real p ∈ b → p.key ≠ key) →
      q.key = key → BStep K key dg b (b.set i (.real q))

theorem bstep_onEntry {K key : Nat} {dg : Bool} {f : Peer → Peer} {new : Option Peer} (b : Bucket) (rnd : Nat)
    (hk : ∀ p, (f p).key = p.key) (hp : ∀ p, (f p).peer = p.peer)
    (hc : dg = false → ∀ p, p.conn = .connected → (f p).conn = .connected)
    (hnew : ∀ q, new = some q → q.key = key) :
    BStep K key dg b (onEntry K b key rnd f new) := by
  unfold onEntry
  rcases entry_cases K b key rnd with ⟨i, p, he, hb, hkey⟩ | ⟨hno, ⟨hlen, he⟩ | ⟨i, s, he, hs, hr⟩ | he⟩ <;> rw [he]
  · show BStep K key dg b (b.modify i (updateReal f))
    have : Inhabited Slot := ⟨.junk 0⟩
    rw [List.modify_eq_set, hb]
    exact .update b i p (f p) hb hkey (hk p) (hp p) (fun hd => hc hd p)
  · cases new with
    | none => exact .push b _ hlen (fun q hq => by cases hq)
    | some q =>
      show BStep K key dg b ((b ++ [Slot.junk rnd]).set b.length (.real q))
      rw [List.set_append_right _ _ (Nat.le_refl _), Nat.sub_self, List.set_cons_zero]
      exact .push b _ hlen (fun q' hq' => by cases hq'; exact ⟨hnew q rfl, hno⟩)
  · cases new with
    | none => exact .refl b
    | some q => exact .replace b i s q hs hr hno (hnew q rfl)
  · cases new <;> exact .refl b

theorem bstep_entry (K key : Nat) (dg : Bool) (b : Bucket) (rnd : Nat) : BStep K key dg b (entry K b key rnd).1 := by
  rcases entry_cases K b key rnd with ⟨i, p, he, _⟩ | ⟨_, ⟨hlen, he⟩ | ⟨i, s, he, _⟩ | he⟩ <;> rw [he]
  · exact .refl b
  · exact .push b _ hlen (fun q hq => by cases hq)
  · exact .refl b
  · exact .refl b

theorem bstep_keep {K key : Nat} {dg : Bool} {b b' : Bucket} (hs : BStep K key dg b b') {j : Nat} {p : Peer}
    (hj : b[j]? = some (.real p)) (hc : p.conn = .connected ∨ p.conn = .canConnect) :
    ∃ p', b'[j]? = some (.real p') ∧ p'.peer = p.peer ∧ p'.key = p.key ∧
      (p.conn = .connected → (dg = true → p.key ≠ key) → p'.conn = .connected) := by
  have hjl : j < b.length := (List.getElem?_eq_some_iff.1 hj).1
  have same {b' : Bucket} (h : b'[j]? = b[j]?) : ∃ p', b'[j]? = some (.real p') ∧ p'.peer = p.peer ∧
      p'.key = p.key ∧ (p.conn = .connected → (dg = true → p.key ≠ key) → p'.conn = .connected) :=
    ⟨p, h.trans hj, rfl, rfl, fun h _ => h⟩
  cases hs with
  | refl => exact same rfl
  | push s => exact same (List.getElem?_append_left hjl)
  | update i p0 q hi hkey hk hp hq =>
    by_cases hij : i = j
    · subst hij
      cases hj.symm.trans hi
      refine ⟨q, by rw [List.getElem?_set_self hjl], hp, hk, fun hcc hd => hq ?_ hcc⟩
      cases dg
      · rfl
      · exact absurd hkey (hd rfl)
    · exact same (List.getElem?_set_ne hij)
  | replace i s q hi hr =>
    by_cases hij : i = j
    · subst hij
      cases hj.symm.trans hi
      rcases hc with hc | hc <;> simp [Slot.replaceable, Slot.conn, hc] at hr
    · exact same (List.getElem?_set_ne hij)

def DistinctKeys (s t : Slot) : Prop := ∀ p q, s = .real p → t = .real q → p.key ≠ q.key

theorem distinctKeys_symm {s t : Slot} (h : DistinctKeys s t) : DistinctKeys t s :=
  fun p q hp hq e => h q p hq hp e.symm

structure BInv (K lk idx : Nat) (b : Bucket) : Prop where
  len : b.length ≤ K
  place : ∀ p, Slot.real p ∈ b → bucketIndex (distance lk p.key) = some idx
  keys : b.Pairwise DistinctKeys

theorem BInv.key_inj {K lk idx : Nat} {b : Bucket} (h : BInv K lk idx b) {i j : Nat} {p q : Peer}
    (hi : b[i]? = some (.real p)) (hj : b[j]? = some (.real q)) (hk : p.key = q.key) : i = j := by
  obtain ⟨hil, hi⟩ := List.getElem?_eq_some_iff.1 hi
  obtain ⟨hjl, hj⟩ := List.getElem?_eq_some_iff.1 hj
  have hp := List.pairwise_iff_getElem.1 h.keys
  rcases Nat.lt_trichotomy i j with hlt | heq | hgt
  · exact absurd hk (hp i j hil hjl hlt p q hi hj)
  · exact heq
  · exact absurd hk.symm (hp j i hjl hil hgt q p hj hi)

theorem BInv.set {K lk idx : Nat} {b : Bucket} (h : BInv K lk idx b) {i : Nat} {q : Peer}
    (hq : bucketIndex (distance lk q.key) = some idx)
    (hne : ∀ j p, j ≠ i → b[j]? = some (.real p) → p.key ≠ q.key) : BInv K lk idx (b.set i (.real q)) := by
  refine ⟨by rw [List.length_set]; exact h.len, fun x hx => ?_, ?_⟩
  · rcases List.mem_or_eq_of_mem_set hx with hx | hx
    · exact h.place x hx
    · cases hx; exact hq
  · rw [List.pairwise_iff_getElem]
    intro a c ha hc hac x y hx hy
    rw [List.length_set] at ha hc
    rw [List.getElem_set] at hx hy
    split at hx
    · cases hx
      rw [if_neg (by omega)] at hy
      exact (hne c y (by omega) (by rw [List.getElem?_eq_getElem hc, hy])).symm
    · split at hy
      · cases hy
        exact hne a x (by omega) (by rw [List.getElem?_eq_getElem ha, hx])
      · exact List.pairwise_iff_getElem.1 h.keys a c ha hc hac x y hx hy

theorem binv_step {K lk idx key : Nat} {dg : Bool} {b b' : Bucket} (hidx : bucketIndex (distance lk key) = some idx)
    (hs : BStep K key dg b b') (h : BInv K lk idx b) : BInv K lk idx b' := by
  cases hs with
  | refl => exact h
  | push s hlen hs =>
    refine ⟨by simp; omega, fun p hp => ?_, ?_⟩
    · rcases List.mem_append.1 hp with hp | hp
      · exact h.place p hp
      · rw [(hs p (List.mem_singleton.1 hp).symm).1]; exact hidx
    · refine List.pairwise_append.2 ⟨h.keys, List.pairwise_singleton _ _, fun t ht u hu p q hp hq => ?_⟩
      obtain ⟨hqk, hno⟩ := hs q ((List.mem_singleton.1 hu).symm.trans hq)
      rw [hqk]
      exact hno p (hp ▸ ht)
  | update i p q hi hkey hk =>
    refine h.set (by rw [hk, hkey]; exact hidx) (fun j p' hji hj e => hji (h.key_inj hj hi (e.trans hk)))
  | replace i s q hi hr hno hq =>
    exact h.set (by rw [hq]; exact hidx) (fun j p' _ hj => hq ▸ hno p' (List.mem_of_getElem? hj))

def TInv (K nb : Nat) (t : Table) : Prop :=
  t.buckets.length = nb ∧ ∀ i, BInv K t.localKey i (t.buckets.getD i [])

theorem tinv_new (K nb lk : Nat) : TInv K nb (Table.new nb lk) := by
  refine ⟨by simp [Table.new], fun i => ?_⟩
  have : (Table.new nb lk).buckets.getD i [] = [] := by
    simp only [Table.new, List.getD_eq_getElem?_getD, List.getElem?_replicate]
    split <;> rfl
  rw [this]
  exact ⟨Nat.zero_le _, fun _ h => by simp at h, .nil⟩

/-- `naddrs != 0`: `add_known_peer` without addresses returns at once. -/
def Op.downgrades : Op → Bool
  | .add _ _ naddrs conn _ => naddrs != 0 && conn != .connected
  | .disconnected _ _ => true
  | _ => false

theorem step_spec (K : Nat) (t : Table) (op : Op) :
    step K t op = t ∨
      ∃ f, (∀ b, BStep K op.key op.downgrades b (f b)) ∧ step K t op = t.atBucket op.key f := by
  cases op with
  | add peer key naddrs conn rnd =>
    simp only [step, Table.addKnownPeer, Op.key]
    split
    · exact Or.inl rfl
    · next hn =>
      refine Or.inr ⟨_, fun b => ?_, rfl⟩
      rw [addKnownPeer_eq]
      refine bstep_onEntry b rnd (fun _ => rfl) (fun _ => rfl) (fun hd _ _ => ?_) (fun q hq => by cases hq; rfl)
      simpa [Op.downgrades, hn] using hd
  | connected key dialer rnd =>
    refine Or.inr ⟨_, fun b => ?_, rfl⟩
    rw [onConnectionEstablished_eq]
    exact bstep_onEntry b rnd (fun _ => rfl) (fun _ => rfl) (fun _ _ _ => rfl) (fun q hq => by cases hq)
  | dialFailure key naddrs rnd =>
    refine Or.inr ⟨_, fun b => ?_, rfl⟩
    rw [onDialFailure_eq]
    exact bstep_onEntry b rnd (fun _ => rfl) (fun _ => rfl) (fun _ _ h => h) (fun q hq => by cases hq)
  | disconnected key rnd =>
    refine Or.inr ⟨_, fun b => ?_, rfl⟩
    rw [onDisconnected_eq]
    exact bstep_onEntry b rnd (fun _ => rfl) (fun _ => rfl) (fun hd => by cases hd) (fun q hq => by cases hq)
  | entry key rnd =>
    simp only [step, Table.entry, Op.key]
    split
    · exact Or.inl rfl
    · exact Or.inr ⟨_, fun b => bstep_entry K key _ b rnd, rfl⟩

theorem getD_modify (l : List Bucket) (i j : Nat) (f : Bucket → Bucket) :
    (l.modify i f).getD j [] = if i = j ∧ j < l.length then f (l.getD j []) else l.getD j [] := by
  simp only [List.getD_eq_getElem?_getD, List.getElem?_modify]
  by_cases hj : j < l.length
  · rw [List.getElem?_eq_getElem hj]
    by_cases hij : i = j <;> simp [hij, hj]
  · rw [List.getElem?_eq_none (by omega)]
    simp [hj]

theorem step_shape (K : Nat) (t : Table) (op : Op) :
    (step K t op).localKey = t.localKey ∧ (step K t op).buckets.length = t.buckets.length ∧
    ∀ j, (step K t op).buckets.getD j [] = t.buckets.getD j [] ∨
      (bucketIndex (distance t.localKey op.key) = some j ∧
        BStep K op.key op.downgrades (t.buckets.getD j []) ((step K t op).buckets.getD j [])) := by
  rcases step_spec K t op with he | ⟨f, hf, he⟩
  · rw [he]; exact ⟨rfl, rfl, fun _ => Or.inl rfl⟩
  · rw [he]
    unfold Table.atBucket
    split
    · exact ⟨rfl, rfl, fun _ => Or.inl rfl⟩
    · next i hi =>
      refine ⟨rfl, List.length_modify .., fun j => ?_⟩
      show (t.buckets.modify i f).getD j [] = _ ∨ _ ∧ BStep _ _ _ _ ((t.buckets.modify i f).getD j [])
      rw [getD_modify]
      split
      · next hij => exact Or.inr ⟨hij.1 ▸ hi, hf _⟩
      · exact Or.inl rfl

theorem tinv_step {K nb : Nat} {t : Table} (op : Op) (h : TInv K nb t) : TInv K nb (step K t op) := by
  obtain ⟨hlk, hlen, hb⟩ := step_shape K t op
  refine ⟨hlen.trans h.1, fun j => ?_⟩
  rw [hlk]
  rcases hb j with he | ⟨hj, hs⟩
  · rw [he]; exact h.2 j
  · exact binv_step hj hs (h.2 j)

theorem run_tinv (K nb lk : Nat) (ops : List Op) : TInv K nb (run K nb lk ops) :=
  List.foldlRecOn ops _ (tinv_new K nb lk) fun _ ht op _ => tinv_step op ht

theorem run_localKey (K nb lk : Nat) (ops : List Op) : (run K nb lk ops).localKey = lk :=
  List.foldlRecOn (motive := fun t : Table => t.localKey = lk) ops _ rfl fun _ ht _ _ => (step_shape ..).1.trans ht

theorem step_keep (K : Nat) (t : Table) (op : Op) {bi si : Nat} {p : Peer}
    (h : (t.buckets.getD bi [])[si]? = some (.real p)) (hc : p.conn = .connected ∨ p.conn = .canConnect) :
    ∃ p', ((step K t op).buckets.getD bi [])[si]? = some (.real p') ∧ p'.peer = p.peer ∧ p'.key = p.key ∧
      (p.conn = .connected → (op.downgrades = true → p.key ≠ op.key) → p'.conn = .connected) := by
  rcases (step_shape K t op).2.2 bi with he | ⟨_, hs⟩
  · rw [he]; exact ⟨p, h, rfl, rfl, fun h _ => h⟩
  · exact bstep_keep hs h hc

def HoldsConnected (t : Table) (bi si peer key : Nat) : Prop :=
  ∃ p, (t.buckets.getD bi [])[si]? = some (.real p) ∧ p.peer = peer ∧ p.key = key ∧ p.conn = .connected

theorem step_keeps_connected (K : Nat) (t : Table) (op : Op) {bi si peer key : Nat}
    (h : HoldsConnected t bi si peer key) (hd : op.downgrades = true → key ≠ op.key) :
    HoldsConnected (step K t op) bi si peer key := by
  obtain ⟨p, h, rfl, rfl, hc⟩ := h
  obtain ⟨p', h', hp, hk, hc'⟩ := step_keep K t op h (Or.inl hc)
  exact ⟨p', h', hp, hk, hc' hc hd⟩

theorem foldl_keeps_connected (K : Nat) {bi si peer key : Nat} (ops : List Op) (t : Table)
    (h : HoldsConnected t bi si peer key) (hd : ∀ op ∈ ops, op.downgrades = true → key ≠ op.key) :
    HoldsConnected (ops.foldl (step K) t) bi si peer key :=
  List.foldlRecOn (motive := (HoldsConnected · bi si peer key)) ops _ h
    fun t' ht op hop => step_keeps_connected K t' op ht (hd op hop)

theorem closer_of_before {lk target pk qk i j : Nat} (hp : bucketIndex (distance lk pk) = some i)
    (hq : bucketIndex (distance lk qk) = some j) (h : Before (distance lk target) i j) :
    distance target pk < distance target qk := by
  have swap (k : Nat) : (lk ^^^ k) ^^^ (lk ^^^ target) = target ^^^ k := by
    rw [Nat.xor_comm lk k, Nat.xor_assoc, Nat.xor_xor_cancel_left, Nat.xor_comm]
  have := xor_lt_of_before hp hq h
  unfold distance at this ⊢
  rwa [swap, swap] at this

def Closer (target : Nat) (a b : Slot) : Prop := distance target a.key < distance target b.key

theorem real_of_hasAddr {s : Slot} (h : s.hasAddr = true) : ∃ p, s = .real p := by
  cases s with
  | junk k => simp [Slot.hasAddr] at h
  | real p => exact ⟨p, rfl⟩

theorem closestIter_perm (target : Nat) (b : Bucket) :
    (closestIter target b).Perm (b.filter Slot.hasAddr) :=
  (List.mergeSort_perm b _).filter _

theorem mem_closestIter {target : Nat} {b : Bucket} {s : Slot} :
    s ∈ closestIter target b ↔ s ∈ b ∧ s.hasAddr = true :=
  (closestIter_perm target b).mem_iff.trans List.mem_filter

theorem closestIter_sorted (target : Nat) {b : Bucket} (hk : b.Pairwise DistinctKeys) :
    (closestIter target b).Pairwise (Closer target) := by
  unfold closestIter
  have h1 := List.pairwise_mergeSort
    (le := fun x y : Slot => decide (distance target x.key ≤ distance target y.key))
    (by intro a b c; simp only [decide_eq_true_eq]; exact Nat.le_trans)
    (by intro a b; simp only [Bool.or_eq_true, decide_eq_true_eq]; exact Nat.le_total _ _) b
  have h2 := (List.Perm.pairwise_iff (fun {x y} => @distinctKeys_symm x y) (List.mergeSort_perm b
    (fun x y : Slot => decide (distance target x.key ≤ distance target y.key)))).2 hk
  refine ((h1.and h2).filter Slot.hasAddr).imp_of_mem ?_
  intro s t hs ht ⟨hle, hd⟩
  obtain ⟨p, rfl⟩ := real_of_hasAddr (List.mem_filter.1 hs).2
  obtain ⟨q, rfl⟩ := real_of_hasAddr (List.mem_filter.1 ht).2
  simp only [decide_eq_true_eq] at hle
  have hne : distance target p.key ≠ distance target q.key := by
    intro e
    exact hd p q rfl rfl (Nat.xor_right_injective e)
  exact Nat.lt_of_le_of_ne hle hne

theorem perm_flatMap_of {α β} (l : List α) (f g : α → List β) (h : ∀ a ∈ l, (f a).Perm (g a)) :
    (l.flatMap f).Perm (l.flatMap g) := by
  induction l with
  | nil => exact List.Perm.refl _
  | cons a l ih =>
    simp only [List.flatMap_cons]
    exact (h a (List.mem_cons_self ..)).append (ih fun x hx => h x (List.mem_cons_of_mem _ hx))

theorem flatMap_range_getD (l : List Bucket) (g : Bucket → List Slot) :
    (List.range l.length).flatMap (fun i => g (l.getD i [])) = l.flatMap g := by
  have : (List.range l.length).map (fun i => l.getD i []) = l := by
    apply List.ext_getElem
    · simp
    · intro i h1 h2
      simp [List.getD_eq_getElem?_getD, List.getElem?_eq_getElem h2]
  rw [← List.flatMap_map, this]

def addressed (t : Table) : List Slot := t.buckets.flatMap (fun b => b.filter Slot.hasAddr)

/-- Everything `closest` would return without a limit. -/
def closestAll (nb : Nat) (t : Table) (target : Nat) : List Slot :=
  (visited nb (distance t.localKey target)).flatMap (fun i => closestIter target (t.buckets.getD i []))

theorem closestAll_sorted {K nb : Nat} {t : Table} (h : TInv K nb t) (target : Nat) :
    (closestAll nb t target).Pairwise (Closer target) := by
  unfold closestAll
  rw [List.pairwise_flatMap]
  refine ⟨fun i _ => closestIter_sorted target (h.2 i).keys, ?_⟩
  refine (visited_pairwise nb _).imp ?_
  intro i j hij x hx y hy
  obtain ⟨hxm, hxa⟩ := mem_closestIter.1 hx
  obtain ⟨hym, hya⟩ := mem_closestIter.1 hy
  obtain ⟨p, rfl⟩ := real_of_hasAddr hxa
  obtain ⟨q, rfl⟩ := real_of_hasAddr hya
  exact closer_of_before ((h.2 i).place p hxm) ((h.2 j).place q hym) hij

theorem closestAll_perm {K nb : Nat} {t : Table} (h : TInv K nb t) (hnb : 0 < nb) {target : Nat}
    (hd : distance t.localKey target < 2 ^ nb) : (closestAll nb t target).Perm (addressed t) := by
  unfold closestAll addressed
  refine ((visited_perm hnb hd).flatMap_right _).trans ?_
  refine (perm_flatMap_of _ _ (fun i => (t.buckets.getD i []).filter Slot.hasAddr)
    (fun i _ => closestIter_perm target _)).trans ?_
  rw [← h.1, flatMap_range_getD t.buckets (fun b => b.filter Slot.hasAddr)]

theorem closest_eq_take (nb : Nat) (t : Table) (target limit : Nat) :
    t.closest nb target limit = (closestAll nb t target).take limit := rfl

/-- `closest` = the `limit` closest addressed nodes, strictly sorted. -/
theorem closest_spec {K nb : Nat} {t : Table} (h : TInv K nb t) (hnb : 0 < nb) {target : Nat}
    (hd : distance t.localKey target < 2 ^ nb) (limit : Nat) :
    (t.closest nb target limit).Pairwise (Closer target) ∧
    (∀ s ∈ t.closest nb target limit, s ∈ addressed t) ∧
    (t.closest nb target limit).length = min limit (addressed t).length ∧
    (∀ s ∈ addressed t, s ∉ t.closest nb target limit →
      ∀ r ∈ t.closest nb target limit, Closer target r s) := by
  have hs := closestAll_sorted h target
  have hp := closestAll_perm h hnb hd
  rw [closest_eq_take]
  refine ⟨hs.sublist (List.take_sublist _ _), ?_, ?_, ?_⟩
  · intro s hs'
    exact hp.mem_iff.1 (List.mem_of_mem_take hs')
  · rw [List.length_take, hp.length_eq]
  · intro s hsa hnot r hr
    have hsl : s ∈ (closestAll nb t target).take limit ++ (closestAll nb t target).drop limit := by
      rw [List.take_append_drop]; exact hp.mem_iff.2 hsa
    exact hs.rel_of_mem_take_of_mem_drop hr ((List.mem_append.1 hsl).resolve_left hnot)

end Litep2pVerif.Kad.Table
