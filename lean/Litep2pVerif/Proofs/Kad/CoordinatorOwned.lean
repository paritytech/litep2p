import Litep2pVerif.Proofs.Kad.Coordinator
import Litep2pVerif.Proofs.Common.List
/-!
What the ownership invariant of the Kademlia coordinator model (C16) needs, handler by handler; the induction over
the transition system is `Inv.reachable` in `CoordinatorQuorum.lean` (`waitingOwned_reachable`).

* `Owned s q lk p` — Prop form of `ownedB`: an outstanding obligation of the environment (dial,
  tracked substream open, executor future) carries an action of query `q` for peer `p` that belongs to
  the phase `lk` (lookup / send phase) of the query.
* `Aux` — what the proof needs besides: `ctx ⊆ connected` (so that the `Entry::Occupied` branch of
  `on_connection_established` is unreachable) and uniqueness/bound of the substream ids in
  `pending_substreams`, in the environment's `opening` and in the pending actions.
* `WO.preserve` — the rule every handler is checked against: every new waited-for peer is owned, and every owner
  that disappears has told its query (`Transfers`); `WO.preserve_sub` for handlers that only shrink the engine (`Sub T`).
-/
namespace Litep2pVerif.Kad.Coordinator

theorem filter_key_length {α} (l : List α) (key : α → Nat) (h : (l.map key).Nodup) (id : Nat) :
    (l.filter (fun d => key d == id)).length = if id ∈ l.map key then 1 else 0 := by
  rw [← h.count, List.count_eq_countP, List.countP_map, List.countP_eq_length_filter]
  rfl

theorem find?_of_nodup_key {α β} (key : α → β) {l : List α} (hn : (l.map key).Nodup) (pred : α → Bool) {x : α}
    (hx : x ∈ l) (hp : pred x = true) (hk : ∀ y, pred y = true → key y = key x) : l.find? pred = some x := by
  cases h : l.find? pred with
  | none => exact absurd hp (by simpa using List.find?_eq_none.mp h x hx)
  | some y => rw [eq_of_nodup_map key l hn y (List.mem_of_find?_eq_some h) x hx (hk y (List.find?_some h))]

def mA (lk : Bool) : AKind → Bool
  | .findNode => lk
  | _ => !lk

def mF (lk : Bool) : FKind → Bool
  | .reqResp => lk
  | _ => !lk

theorem matchA_eq (st : QState) (k : AKind) : matchA st k = mA st.isLookup k := by
  cases st <;> cases k <;> rfl

theorem matchF_eq (st : QState) (k : FKind) : matchF st k = mF st.isLookup k := by
  cases st <;> cases k <;> rfl

def Owned (s : State) (q : Qid) (lk : Bool) (p : Peer) : Prop :=
  (∃ a, (p, a) ∈ s.dials ∧ a.q = q ∧ mA lk a.kind = true ∧ p ∈ s.dialing) ∨
  (∃ sid a, (p, sid, a) ∈ s.actions ∧ a.q = q ∧ mA lk a.kind = true ∧
      (sid, p) ∈ s.opening ∧ (sid, p) ∈ s.pendingSubs ∧ p ∈ s.ctx) ∨
  (∃ k, (⟨p, q, k⟩ : Fut) ∈ s.futs ∧ mF lk k = true)

theorem exists_fut {P : Fut → Prop} : (∃ f, P f) ↔ ∃ p q k, P ⟨p, q, k⟩ :=
  ⟨fun ⟨⟨p, q, k⟩, h⟩ => ⟨p, q, k, h⟩, fun ⟨_, _, _, h⟩ => ⟨_, h⟩⟩

theorem ownedB_iff (s : State) (x : Query) (p : Peer) :
    ownedB s x p = true ↔ Owned s x.id x.st.isLookup p := by
  unfold ownedB Owned
  simp only [Bool.or_eq_true, List.any_eq_true, Bool.and_eq_true, beq_iff_eq, List.contains_iff_mem,
    matchA_eq, matchF_eq, Prod.exists, exists_fut, or_assoc, and_assoc]
  -- what is left: the record's peer is `p` (and a future's query `x.id`)
  exact or_congr ⟨fun ⟨_, a, h, rfl, r⟩ => ⟨a, h, r⟩, fun ⟨a, h, r⟩ => ⟨p, a, h, rfl, r⟩⟩
    (or_congr ⟨fun ⟨_, sid, a, h, rfl, r⟩ => ⟨sid, a, h, r⟩, fun ⟨sid, a, h, r⟩ => ⟨p, sid, a, h, rfl, r⟩⟩
      ⟨fun ⟨_, _, k, h, rfl, rfl, r⟩ => ⟨k, h, r⟩, fun ⟨k, h, r⟩ => ⟨p, x.id, k, h, rfl, rfl, r⟩⟩)

/-- The obligations of `s` are obligations of `s'`. -/
structure OwnersLe (s s' : State) : Prop where
  dials : ∀ x ∈ s.dials, x ∈ s'.dials
  dialing : ∀ x ∈ s.dialing, x ∈ s'.dialing
  actions : ∀ x ∈ s.actions, x ∈ s'.actions
  opening : ∀ x ∈ s.opening, x ∈ s'.opening
  pendingSubs : ∀ x ∈ s.pendingSubs, x ∈ s'.pendingSubs
  ctx : ∀ x ∈ s.ctx, x ∈ s'.ctx
  futs : ∀ x ∈ s.futs, x ∈ s'.futs

theorem OwnersLe.rfl' (s : State) : OwnersLe s s :=
  ⟨fun _ h => h, fun _ h => h, fun _ h => h, fun _ h => h, fun _ h => h, fun _ h => h, fun _ h => h⟩

theorem OwnersLe.trans {a b c : State} (h1 : OwnersLe a b) (h2 : OwnersLe b c) : OwnersLe a c :=
  ⟨fun x h => h2.dials x (h1.dials x h), fun x h => h2.dialing x (h1.dialing x h),
   fun x h => h2.actions x (h1.actions x h), fun x h => h2.opening x (h1.opening x h),
   fun x h => h2.pendingSubs x (h1.pendingSubs x h), fun x h => h2.ctx x (h1.ctx x h),
   fun x h => h2.futs x (h1.futs x h)⟩

theorem Owned.mono {s s' : State} (h : OwnersLe s s') {q lk p} (ho : Owned s q lk p) : Owned s' q lk p := by
  rcases ho with ⟨a, hd, h2, h3, h4⟩ | ⟨sid, a, ha, h2, h3, h4, h5, h6⟩ | ⟨k, hf, h3⟩
  · exact .inl ⟨a, h.dials _ hd, h2, h3, h.dialing _ h4⟩
  · exact .inr (.inl ⟨sid, a, h.actions _ ha, h2, h3, h.opening _ h4, h.pendingSubs _ h5, h.ctx _ h6⟩)
  · exact .inr (.inr ⟨k, h.futs _ hf, h3⟩)

/-- The engine `e'` after some handler ran on `e`: every query is one of `e` with its id and phase and waits for no more
peers. `T`: the pairs (query, peer) that may have been dropped from a lookup's pending set; whatever else a lookup of `e`
waited for it still waits for (read by `LInv.preserve_env` only; the ownership proofs take any `T`). -/
def Sub (T : Qid → Peer → Prop) (e e' : Engine) : Prop :=
  ∀ x' ∈ e', ∃ x ∈ e, x.id = x'.id ∧ x.st.isLookup = x'.st.isLookup ∧ (∀ p ∈ x'.st.pending, p ∈ x.st.pending) ∧
    (x.st.isLookup = true → ∀ p ∈ x.st.pending, p ∈ x'.st.pending ∨ T x.id p)

theorem Sub.refl {T} (e : Engine) : Sub T e e := fun x hx => ⟨x, hx, rfl, rfl, fun _ h => h, fun _ _ h => .inl h⟩

theorem Sub.trans {T} {a b c : Engine} (h1 : Sub T a b) (h2 : Sub T b c) : Sub T a c := by
  intro x'' hx''
  obtain ⟨x', hx', hi', hl', hp', hq'⟩ := h2 x'' hx''
  obtain ⟨x, hx, hi, hl, hp, hq⟩ := h1 x' hx'
  exact ⟨x, hx, hi.trans hi', hl.trans hl', fun p h => hp p (hp' p h), fun hlk p h =>
    (hq hlk p h).elim (fun h => (hq' (hl ▸ hlk) p h).imp_right (hi ▸ ·)) .inr⟩

/-- `f` keeps the phase of a query and only drops pending peers, from a lookup only peers with `T`: what `updQ e q f`
needs for `Sub` (`sub_updQ`). -/
def Drops (T : Peer → Prop) (f : QState → QState) : Prop :=
  ∀ st, (f st).isLookup = st.isLookup ∧ (∀ p ∈ (f st).pending, p ∈ st.pending) ∧
    (st.isLookup = true → ∀ p ∈ st.pending, p ∈ (f st).pending ∨ T p)

theorem sub_updQ {T} (e : Engine) (q : Qid) (f : QState → QState) (hf : Drops (T q) f) : Sub T e (updQ e q f) := by
  intro x' hx'
  obtain ⟨x, hx, hid, hst⟩ := mem_updQ hx'
  refine ⟨x, hx, hid.symm, ?_⟩
  rcases hst with ⟨_, hst⟩ | ⟨hq, hst⟩ <;> rw [hst]
  · exact ⟨rfl, fun _ h => h, fun _ _ h => .inl h⟩
  · exact ⟨(hf x.st).1.symm, (hf x.st).2.1, hq ▸ (hf x.st).2.2⟩

theorem respDone_shrinks {T : Peer → Prop} {p : Peer} (ht : T p) : Drops T (QState.respDone p) := by
  intro st
  cases st with
  | lookup k qu ps =>
    refine ⟨rfl, fun p' h => (List.mem_filter.mp h).1, fun _ p' h => ?_⟩
    by_cases hp : p' = p
    · exact .inr (hp ▸ ht)
    · exact .inl (List.mem_filter.mpr ⟨h, by simpa using hp⟩)
  | tracker b t => exact ⟨rfl, fun _ h => h, fun h => nomatch h⟩

theorem sendFail_shrinks {T : Peer → Prop} (p : Peer) : Drops T (QState.sendFail p) := by
  intro st
  cases st with
  | lookup k qu ps => exact ⟨rfl, fun _ h => h, fun _ _ h => .inl h⟩
  | tracker b t =>
    refine ⟨rfl, ?_, fun h => nomatch h⟩
    simp only [QState.sendFail, Tracker.sendFailure, QState.pending]
    split
    · exact fun p' h => (List.mem_filter.mp h).1
    · exact fun _ h => h

theorem sendOk_pending (p : Peer) (st : QState) :
    (st.sendOk p).isLookup = (st.sendFail p).isLookup ∧ (st.sendOk p).pending = (st.sendFail p).pending := by
  cases st with
  | lookup k qu ps => exact ⟨rfl, rfl⟩
  | tracker b t =>
    simp only [QState.sendOk, QState.sendFail, Tracker.sendSuccess, Tracker.sendFailure]
    split <;> exact ⟨rfl, rfl⟩

theorem sendOk_shrinks {T : Peer → Prop} (p : Peer) : Drops T (QState.sendOk p) := by
  intro st
  rw [(sendOk_pending p st).1, (sendOk_pending p st).2]
  exact sendFail_shrinks p st

theorem ShrT.sub {T} {e e' : Engine} (h : ShrT T e e') : Sub T e e' := by
  induction h with
  | refl => exact Sub.refl _
  | respDone q p ht _ ih => exact ih.trans (sub_updQ _ q _ (respDone_shrinks ht))
  | sendFail q p _ ih => exact ih.trans (sub_updQ _ q _ (sendFail_shrinks p))
  | sendOk q p _ ih => exact ih.trans (sub_updQ _ q _ (sendOk_shrinks p))

theorem Shr.sub {T} {e e' : Engine} (h : Shr T e e') : Sub T e e' := h.shrT.sub

theorem sub_removeQ {T} (e : Engine) (q : Qid) : Sub T e (removeQ e q) :=
  fun x hx => ⟨x, (List.mem_filter.mp hx).1, rfl, rfl, fun _ h => h, fun _ _ h => .inl h⟩

/-- No query `q` in phase `lk` waits for `p`. -/
def Gone (e : Engine) (q : Qid) (lk : Bool) (p : Peer) : Prop :=
  ∀ x ∈ e, x.id = q → x.st.isLookup = lk → p ∉ x.st.pending

theorem Gone.sub {T} {e e' : Engine} (hs : Sub T e e') {q lk p} (h : Gone e q lk p) : Gone e' q lk p := by
  intro x' hx' hid hlk hp
  obtain ⟨x, hx, hi, hl, hpp, -⟩ := hs x' hx'
  exact h x hx (hi.trans hid) (hl.trans hlk) (hpp p hp)

theorem gone_updQ (e : Engine) (q : Qid) (f : QState → QState) (lk : Bool) (p : Peer)
    (hf : ∀ st, (f st).isLookup = lk → p ∉ (f st).pending) : Gone (updQ e q f) q lk p := by
  intro x' hx' hid hlk
  obtain ⟨x, _, hid', hst⟩ := mem_updQ hx'
  rcases hst with ⟨hne, _⟩ | ⟨_, hst⟩
  · exact absurd (hid'.symm.trans hid) hne
  · rw [hst] at hlk ⊢
    exact hf _ hlk

theorem gone_regRespDone (e q p) : Gone (regRespDone e q p) q true p := by
  apply gone_updQ
  intro st hlk
  cases st with
  | lookup k qu ps => simp [QState.respDone, QState.pending]
  | tracker b t => simp [QState.respDone, QState.isLookup] at hlk

theorem sendFail_not_pending (p : Peer) (st : QState) (hlk : (st.sendFail p).isLookup = false) :
    p ∉ (st.sendFail p).pending := by
  cases st with
  | lookup k qu ps => cases hlk
  | tracker b t =>
    simp only [QState.sendFail, Tracker.sendFailure, QState.pending]
    split
    · simp
    · assumption

theorem gone_regSendFail (e q p) : Gone (regSendFail e q p) q false p :=
  gone_updQ _ _ _ _ _ (sendFail_not_pending p)

theorem gone_regSendOk (e q p) : Gone (regSendOk e q p) q false p :=
  gone_updQ _ _ _ _ _ fun st hlk => by
    rw [(sendOk_pending p st).2]
    exact sendFail_not_pending p st ((sendOk_pending p st).1 ▸ hlk)

theorem gone_respDone {e : Engine} {q p} (h : Gone e q false p) (lk : Bool) : Gone (regRespDone e q p) q lk p := by
  cases lk with
  | true => exact gone_regRespDone _ _ _
  | false => exact h.sub (sub_updQ (T := fun _ _ => True) _ q _ (respDone_shrinks trivial))

/-- `regPeerFail e q p` is this by definition. -/
theorem gone_bothFail (e q p) (lk : Bool) : Gone (regRespDone (regSendFail e q p) q p) q lk p :=
  gone_respDone (gone_regSendFail e q p) lk

/-- Every peer a live query waits for is owned (Prop form of `WaitingOwned`). -/
def WO (s : State) : Prop := ∀ x ∈ s.engine, ∀ p ∈ x.st.pending, Owned s x.id x.st.isLookup p

theorem WO_iff (s : State) : WaitingOwned s ↔ WO s := by
  unfold WaitingOwned waitingOwnedB WO
  simp only [List.all_eq_true, ownedB_iff]

/-- Every owner of `s` is still an owner in `s'`, or its query has been told. -/
def Transfers (s s' : State) : Prop :=
  ∀ q lk p, Owned s q lk p → Owned s' q lk p ∨ Gone s'.engine q lk p

theorem WO.preserve {s s' : State} (h : WO s)
    (hnew : ∀ x' ∈ s'.engine, ∀ p ∈ x'.st.pending,
      (∃ x ∈ s.engine, x.id = x'.id ∧ x.st.isLookup = x'.st.isLookup ∧ p ∈ x.st.pending) ∨
      Owned s' x'.id x'.st.isLookup p)
    (ht : Transfers s s') : WO s' := by
  intro x' hx' p hp
  rcases hnew x' hx' p hp with ⟨x, hx, hid, hlk, hpx⟩ | ho
  · rcases ht _ _ _ (h x hx p hpx) with ho | hg
    · rw [hid, hlk] at ho; exact ho
    · exact absurd hp (hg x' hx' hid.symm hlk.symm)
  · exact ho

theorem WO.preserve_sub {T} {s s' : State} (h : WO s) (hs : Sub T s.engine s'.engine) (ht : Transfers s s') : WO s' :=
  h.preserve (fun x' hx' p hp =>
    let ⟨x, hx, hid, hlk, hpp, _⟩ := hs x' hx'
    .inl ⟨x, hx, hid, hlk, hpp p hp⟩) ht

theorem Transfers.of_le {s s' : State} (h : OwnersLe s s') : Transfers s s' :=
  fun _ _ _ ho => .inl (ho.mono h)

structure Aux (s : State) : Prop where
  ctxConn : ∀ p ∈ s.ctx, p ∈ s.connected
  subsLt : ∀ x ∈ s.pendingSubs, x.1 < s.nextSid
  subsNodup : (s.pendingSubs.map (·.1)).Nodup
  openLt : ∀ x ∈ s.opening, x.1 < s.nextSid
  openNodup : (s.opening.map (·.1)).Nodup
  actLt : ∀ a ∈ s.actions, a.2.1 < s.nextSid
  actNodup : (s.actions.map (·.2.1)).Nodup

theorem Aux.init : Aux {} := by
  constructor <;> simp

theorem Aux.of_sublist {s s' : State} (h : Aux s) (hc : ∀ p ∈ s'.ctx, p ∈ s'.connected)
    (h1 : s'.pendingSubs.Sublist s.pendingSubs := by exact .refl _)
    (h2 : s'.opening.Sublist s.opening := by exact .refl _)
    (h3 : s'.actions.Sublist s.actions := by exact .refl _) (hn : s'.nextSid = s.nextSid := by rfl) : Aux s' :=
  ⟨hc, fun x hx => hn ▸ h.subsLt x (h1.subset hx), h.subsNodup.sublist (h1.map _),
   fun x hx => hn ▸ h.openLt x (h2.subset hx), h.openNodup.sublist (h2.map _),
   fun x hx => hn ▸ h.actLt x (h3.subset hx), h.actNodup.sublist (h3.map _)⟩

theorem nodup_append_range' {l : List Nat} {n : Nat} (hl : ∀ y ∈ l, y < n) (hn : l.Nodup) (k : Nat) :
    (∀ y ∈ l ++ List.range' n k, y < n + k) ∧ (l ++ List.range' n k).Nodup := by
  refine ⟨fun y hy => ?_, List.nodup_append.mpr ⟨hn, List.nodup_range', fun a ha b hb hab => ?_⟩⟩
  · rcases List.mem_append.mp hy with hy | hy
    · exact Nat.lt_of_lt_of_le (hl y hy) (Nat.le_add_right _ _)
    · exact (List.mem_range'_1.mp hy).2
  · have := hl a ha
    have := (List.mem_range'_1.mp hb).1
    omega

theorem Aux.addSubs {s s' : State} (h : Aux s) (p : Peer) (new : List (Sid × PAction))
    (hnew : new.map (·.1) = List.range' s.nextSid new.length) (hc : ∀ p ∈ s'.ctx, p ∈ s'.connected)
    (h1 : s'.pendingSubs = s.pendingSubs ++ new.map fun x => (x.1, p) := by rfl)
    (h2 : s'.opening = s.opening ++ new.map fun x => (x.1, p) := by rfl)
    (h3 : s'.actions = s.actions ++ new.map fun x => (p, x.1, x.2) := by rfl)
    (hn : s'.nextSid = s.nextSid + new.length := by rfl) : Aux s' := by
  have key : ∀ {α} (f : α → Nat) {l l' L : List α}, (∀ y ∈ l, f y < s.nextSid) → (l.map f).Nodup → L = l ++ l' →
      l'.map f = new.map (·.1) → (∀ y ∈ L, f y < s'.nextSid) ∧ (L.map f).Nodup := by
    intro α f l l' L hl hnd hL hl'
    have := nodup_append_range' (List.forall_mem_map.mpr hl) hnd new.length
    rw [← hnew, ← hl', ← List.map_append, ← hn, ← hL] at this
    exact ⟨List.forall_mem_map.mp this.1, this.2⟩
  have k1 := key (·.1) h.subsLt h.subsNodup h1 (by rw [List.map_map]; rfl)
  have k2 := key (·.1) h.openLt h.openNodup h2 (by rw [List.map_map]; rfl)
  have k3 := key (·.2.1) h.actLt h.actNodup h3 (by rw [List.map_map]; rfl)
  exact ⟨hc, k1.1, k1.2, k2.1, k2.2, k3.1, k3.2⟩

/-- How a peer gets its context (`peers.entry(p).or_default()`) and is noted as being dialed. -/
theorem mem_push_unless {l : List Peer} {p x : Peer} : x ∈ (if p ∈ l then l else l ++ [p]) ↔ x ∈ l ∨ x = p := by
  split
  · exact ⟨.inl, fun h => h.elim id fun e => e ▸ ‹p ∈ l›⟩
  · simp

/-- Fields identical, filtered or appended to. -/
macro "owners_le" : tactic =>
  `(tactic| (constructor <;> intro x hx <;>
      first
        | exact hx
        | exact (List.mem_filter.mp hx).1
        | exact List.mem_append_left _ hx
        | exact List.mem_append_left _ (List.mem_filter.mp hx).1))

theorem peerFail_step_shrinks (p : Peer) (query : Option Qid) (e : Engine) (a : PAction) :
    Shr (fun _ _ => True) e (if some a.q ≠ query then regPeerFail e a.q p else e) := by
  split
  · exact .bothFail _ _ _ trivial
  · exact .refl _

/-- Shrinking steps folded over `l`: what the step for `a ∈ l` makes a query forget stays forgotten. -/
theorem gone_foldl {α} (g : Engine → α → Engine) (hg : ∀ e a, Shr (fun _ _ => True) e (g e a)) {l : List α} {a : α} (ha : a ∈ l)
    (e0 : Engine) {q lk p} (h : ∀ e, Sub (fun _ _ => True) e0 e → Gone (g e a) q lk p) : Gone (l.foldl g e0) q lk p := by
  obtain ⟨l1, l2, rfl⟩ := List.append_of_mem ha
  rw [List.foldl_append, List.foldl_cons]
  exact (h _ (Shr.foldl g l1 (fun a _ e => hg e a) e0).sub).sub (Shr.foldl g l2 (fun a _ e => hg e a) _).sub

theorem disconnectPeer_gone_query (s : State) (p : Peer) (q : Qid) (lk : Bool) :
    Gone (disconnectPeer s p (some q)).engine q lk p :=
  (gone_bothFail _ _ _ _).sub (Shr.foldl _ _ (fun a _ e => peerFail_step_shrinks p (some q) e a) _).sub

/-- `op`, `conn`: the caller may have closed the connection of `p` first. -/
theorem disconnectPeer_transfers (s : State) (p : Peer) (query : Option Qid) (op : List (Sid × Peer)) (conn : List Peer)
    (hop : ∀ x ∈ s.opening, x.2 ≠ p → x ∈ op) :
    Transfers s (disconnectPeer { s with opening := op, connected := conn } p query) := by
  rintro q lk p' (d | ⟨sid, a, ha, rfl, h3, h4, h5, h6⟩ | f)
  · exact .inl (.inl d)
  · by_cases hp : p' = p
    · subst hp
      refine .inr (gone_foldl _ (peerFail_step_shrinks p' query) (mem_actionsOf.mpr ⟨sid, ha⟩) _ fun e he => ?_)
      split
      · exact gone_bothFail _ _ _ _
      · rename_i hq
        obtain rfl := Classical.not_not.mp hq
        exact (gone_bothFail _ _ _ _).sub he
    · exact .inl (.inr (.inl ⟨sid, a, by simp [disconnectPeer, ha, hp], rfl, h3, hop _ h4 hp, h5,
        by simp [disconnectPeer, h6, hp]⟩))
  · exact .inl (.inr (.inr f))

theorem Aux.disconnectPeer {s : State} (h : Aux s) (p : Peer) (query : Option Qid) :
    Aux (disconnectPeer s p query) :=
  h.of_sublist (fun p' hp' => h.ctxConn p' (List.mem_filter.mp hp').1) (h3 := List.filter_sublist)

theorem owned_erase (s : State) (f : Fut) {q lk p} (ho : Owned s q lk p) :
    Owned { s with futs := s.futs.erase f } q lk p ∨ (f.peer = p ∧ f.q = q ∧ mF lk f.kind = true) := by
  rcases ho with d | a | ⟨k, hf, h3⟩
  · exact .inl (.inl d)
  · exact .inl (.inr (.inl a))
  · by_cases hff : (⟨p, q, k⟩ : Fut) = f
    · subst hff; exact .inr ⟨rfl, rfl, h3⟩
    · exact .inl (.inr (.inr ⟨k, (List.mem_erase_of_ne hff).mpr hf, h3⟩))

theorem execResult_transfers (s : State) (f : Fut) (r : Res) : Transfers s (execResult s f r) := by
  intro q lk p ho
  unfold execResult
  split
  · rename_i hg
    rcases owned_erase s f ho with h1 | ⟨rfl, rfl, hm⟩
    · cases r with
      | sendOk | assumeOk | readOk => exact .inl h1
      | sendFail | readFail => exact disconnectPeer_transfers _ _ _ _ _ (fun _ h _ => h) _ _ _ h1
    · cases r
      case sendFail | readFail => exact .inr (disconnectPeer_gone_query _ _ _ _)
      case readOk => exact .inr (gone_respDone (gone_regSendOk _ _ _) _)
      -- `SendSuccess` / `AssumeSendSuccess` are results of PUT_VALUE / ADD_PROVIDER futures only
      all_goals
        cases lk
        · exact .inr (gone_regSendOk _ _ _)
        · cases hk : f.kind <;> simp_all [Res.allowed, mF]
  · exact .inl ho

theorem Aux.execResult {s : State} (h : Aux s) (f : Fut) (r : Res) : Aux (execResult s f r) := by
  unfold Coordinator.execResult
  split
  · simp only []
    have h1 : Aux { s with futs := s.futs.erase f } := h.of_sublist h.ctxConn
    cases r with
    | sendOk | assumeOk | readOk => exact h.of_sublist h.ctxConn
    | sendFail | readFail => exact h1.disconnectPeer _ _
  · exact h

/-- The second disjunct of `Owned`: the pending action of the substream, as `on_outbound_substream` / `on_substream_open_failure`
find it. -/
theorem owned_split_sid {s : State} (hA : Aux s) (sid : Sid) (p : Peer) {q lk p'} (ho : Owned s q lk p') :
    Owned (minusSid s sid p) q lk p' ∨
    ((sid, p') ∈ s.opening ∧ (sid, p') ∈ s.pendingSubs ∧ p' ∈ s.ctx ∧
      ∃ a, actionAt s p' sid = some a ∧ a.q = q ∧ mA lk a.kind = true) := by
  rcases ho with d | ⟨sid', a, ha, h2, h3, h4, h5, h6⟩ | f
  · exact .inl (.inl d)
  · by_cases hs : sid' = sid
    · subst hs
      have : s.actions.find? (fun x => x.1 == p' && x.2.1 == sid') = some (p', sid', a) :=
        find?_of_nodup_key (·.2.1) hA.actNodup _ ha (by simp) fun y hp => by simpa using ((Bool.and_eq_true _ _).mp hp).2
      exact .inr ⟨h4, h5, h6, a, by rw [actionAt, this]; rfl, h2, h3⟩
    · exact .inl (.inr (.inl ⟨sid', a, by simp [minusSid, ha, hs], h2, h3, by simp [minusSid, h4, hs],
        by simp [minusSid, h5, hs], h6⟩))
  · exact .inl (.inr (.inr f))

theorem subs_find (s : State) (hA : Aux s) (sid : Sid) (p : Peer) (h : (sid, p) ∈ s.pendingSubs) :
    s.pendingSubs.find? (fun o => o.1 == sid) = some (sid, p) :=
  find?_of_nodup_key (·.1) hA.subsNodup _ h (by simp) fun y hp => by simpa using hp

theorem findQ_of_mem {e : Engine} (hN : (ids e).Nodup) {x : Query} (hx : x ∈ e) : findQ e x.id = some x :=
  find?_of_nodup_key (fun x : Query => x.id) hN _ hx (by simp) fun y hp => by simpa using hp

theorem nextPeerAction_of_mem {e : Engine} (hN : (ids e).Nodup) {x : Query} (hx : x ∈ e) (p : Peer) :
    nextPeerAction e x.id p = (x.st.isLookup && decide (p ∈ x.st.pending)) := by
  unfold nextPeerAction
  rw [findQ_of_mem hN hx]
  obtain ⟨_, _, _ | _⟩ := x <;> rfl

theorem gone_of_not_nextPeerAction {e : Engine} (hN : (ids e).Nodup) {q : Qid} {p : Peer}
    (h : nextPeerAction e q p = false) : Gone e q true p := by
  intro x hx hid hlk hp
  rw [← hid, nextPeerAction_of_mem hN hx, hlk, decide_eq_true hp] at h
  cases h

theorem subOpened_transfers {s s' : State} {sid : Sid} (hA : Aux s) (hN : (ids s.engine).Nodup)
    (hs : SubOpened s sid s') : Transfers s s' := by
  intro q lk p' ho
  -- an owner tracked under `sid` is the pending action of the open being answered
  have peer : ∀ {p}, (sid, p) ∈ s.opening → (sid, p') ∈ s.opening → p' = p := fun hmem h4 =>
    congrArg Prod.snd (eq_of_nodup_map (·.1) _ hA.openNodup _ h4 _ hmem rfl)
  cases hs with
  | unknown => exact .inl ho
  | @noAction p hmem hno =>
    rcases owned_split_sid hA sid p ho with h1 | ⟨h4, -, h6, a, ha, -⟩
    · exact .inl (h1.mono (by unfold minusSid; owners_le))
    · obtain rfl := peer hmem h4
      exact hno.elim (absurd h6) fun hno => absurd (ha.symm.trans hno) (by simp)
  | @stale p a hmem hact hk hn =>
    rcases owned_split_sid hA sid p ho with h1 | ⟨h4, -, -, a', ha, rfl, h3⟩
    · exact .inl h1
    · obtain rfl := peer hmem h4
      obtain rfl : a' = a := Option.some.inj (ha.symm.trans hact)
      rw [hk] at h3
      obtain rfl : lk = true := h3
      exact .inr (gone_of_not_nextPeerAction hN hn)
  | @started p a k hmem hact hk =>
    rcases owned_split_sid hA sid p ho with h1 | ⟨h4, -, -, a', ha, rfl, h3⟩
    · exact .inl (h1.mono (by owners_le))
    · obtain rfl := peer hmem h4
      obtain rfl : a' = a := Option.some.inj (ha.symm.trans hact)
      refine .inl (.inr (.inr ⟨k, List.mem_append_right _ (List.mem_singleton.mpr rfl), ?_⟩))
      rcases hk with ⟨hk, rfl, _⟩ | ⟨hk, rfl⟩ | ⟨hk, rfl⟩ <;> rw [hk] at h3 <;> exact h3

theorem Aux.subOpened {s s' : State} {sid : Sid} (h : Aux s) (hs : SubOpened s sid s') : Aux s' := by
  cases hs with
  | unknown => exact h
  | noAction => exact h.of_sublist h.ctxConn (h1 := List.filter_sublist) (h2 := List.filter_sublist)
  | stale | started => exact h.of_sublist h.ctxConn List.filter_sublist List.filter_sublist List.filter_sublist

theorem subOpenFailure_transfers (s : State) (sid : Sid) (hA : Aux s) : Transfers s (subOpenFailure s sid) := by
  intro q lk p' ho
  unfold subOpenFailure subPeer
  split
  · exact .inl ho
  simp only []
  cases hsub : s.pendingSubs.find? (fun x => x.1 == sid) with
  | none =>
    -- no peer is recorded for `sid` and only `opening` is filtered: the state keeps at least what `minusSid s sid p`
    -- keeps for any `p`, so an arbitrary peer (`0`) serves
    rcases owned_split_sid hA sid 0 ho with h1 | ⟨-, h5, -⟩
    · exact .inl (h1.mono (by unfold minusSid; owners_le))
    · rw [subs_find s hA sid p' h5] at hsub
      cases hsub
  | some sp =>
    obtain ⟨sid0, p⟩ := sp
    simp only [Option.map_some]
    rcases owned_split_sid hA sid p ho with h1 | ⟨-, h5, h6, a, ha, rfl, -⟩
    · split
      · exact disconnectPeer_transfers _ _ _ _ _ (fun _ h _ => h) _ _ _ h1
      · exact .inl (h1.mono (by unfold minusSid; owners_le))
    · obtain rfl : p' = p := congrArg Prod.snd (Option.some.inj ((subs_find s hA sid p' h5).symm.trans hsub))
      simp only [actionAt] at ha ⊢
      rw [if_pos h6, ha]
      exact .inr (disconnectPeer_gone_query _ _ _ _)

theorem Aux.subOpenFailure {s : State} (h : Aux s) (sid : Sid) : Aux (subOpenFailure s sid) := by
  unfold Coordinator.subOpenFailure
  split
  · exact h
  · simp only []
    split
    · exact h.of_sublist h.ctxConn (h2 := List.filter_sublist)
    · split
      · refine Aux.disconnectPeer ?_ _ _
        exact h.of_sublist h.ctxConn List.filter_sublist List.filter_sublist List.filter_sublist
      · exact h.of_sublist h.ctxConn (h1 := List.filter_sublist) (h2 := List.filter_sublist)

theorem closed_transfers (s : State) (p : Peer) : Transfers s (closed s p) := by
  unfold closed
  split
  · exact disconnectPeer_transfers s p none _ _ fun x hx hp => List.mem_filter.mpr ⟨hx, by simpa using hp⟩
  · exact fun _ _ _ ho => .inl ho

theorem Aux.closed {s : State} (h : Aux s) (p : Peer) : Aux (closed s p) := by
  unfold Coordinator.closed
  split
  · exact h.of_sublist (fun p' hp' =>
      List.mem_filter.mpr ⟨h.ctxConn p' (List.mem_filter.mp hp').1, (List.mem_filter.mp hp').2⟩)
      (h2 := List.filter_sublist) (h3 := List.filter_sublist)
  · exact h

theorem foldl_bothFail_gone (p : Peer) (l : List PAction) (e0 : Engine) (a : PAction) (ha : a ∈ l) (lk : Bool) :
    Gone (l.foldl (fun e a => regRespDone (regSendFail e a.q p) a.q p) e0) a.q lk p :=
  gone_foldl _ (fun e (a : PAction) => .bothFail e a.q p trivial) ha e0 fun _ _ => gone_bothFail _ _ _ _

theorem owned_split_dial (s : State) (p : Peer) {q lk p'} (ho : Owned s q lk p') :
    (p' = p ∧ ∃ a, (p, a) ∈ s.dials ∧ a.q = q ∧ mA lk a.kind = true) ∨
    Owned { s with dials := s.dials.filter (fun d => d.1 != p), dialing := s.dialing.filter (· != p) } q lk p' := by
  rcases ho with ⟨a, hd, h2, h3, h4⟩ | a | f
  · by_cases hp : p' = p
    · exact .inl ⟨hp, a, hp ▸ hd, h2, h3⟩
    · exact .inr (.inl ⟨a, by simp [hd, hp], h2, h3, by simp [h4, hp]⟩)
  · exact .inr (.inr (.inl a))
  · exact .inr (.inr (.inr f))

theorem dialFailure_transfers (s : State) (p : Peer) : Transfers s (dialFailure s p) := by
  intro q lk p' ho
  rcases owned_split_dial s p ho with ⟨rfl, a, hd, rfl, -⟩ | h
  · exact .inr (foldl_bothFail_gone _ _ _ _ (mem_dialActions.mpr hd) _)
  · exact .inl (h.mono (by unfold dialFailure; owners_le))

theorem drainDials_le (p : Peer) (s : State) (acts : List PAction) (outs : List Bool) :
    OwnersLe s (drainDials p s acts outs) := by
  rw [drainDials_eq]
  owners_le

theorem drainDials_ctx (p : Peer) (s : State) (acts : List PAction) (outs : List Bool) :
    (drainDials p s acts outs).ctx = s.ctx ∧ (drainDials p s acts outs).connected = s.connected := by
  rw [drainDials_eq]
  exact ⟨rfl, rfl⟩

theorem drainDials_owned (p : Peer) (s : State) (acts : List PAction) (outs : List Bool) (hctx : p ∈ s.ctx)
    (a : PAction) (ha : a ∈ acts) (lk : Bool) (hm : mA lk a.kind = true) :
    Owned (drainDials p s acts outs) a.q lk p ∨ Gone (drainDials p s acts outs).engine a.q lk p := by
  rw [drainDials_eq]
  rcases List.mem_append.mp ((drain_perm s.nextSid acts outs).mem_iff.mpr ha) with ho | hf
  · obtain ⟨x, hx, rfl⟩ := List.mem_map.mp ho
    exact .inl (.inr (.inl ⟨x.1, x.2, List.mem_append_right _ (List.mem_map.mpr ⟨x, hx, rfl⟩), rfl, hm,
      List.mem_append_right _ (List.mem_map.mpr ⟨x, hx, rfl⟩),
      List.mem_append_right _ (List.mem_map.mpr ⟨x, hx, rfl⟩), hctx⟩))
  · exact .inr (foldl_bothFail_gone p _ _ a hf lk)

theorem Aux.drainDials {s : State} (h : Aux s) (p : Peer) (acts : List PAction) (outs : List Bool) :
    Aux (drainDials p s acts outs) := by
  rw [drainDials_eq]
  exact h.addSubs p _ (drainOpened_sids ..) h.ctxConn

theorem established_transfers (s : State) (p : Peer) (outs : List Bool) (hA : Aux s) :
    Transfers s (established s p outs) := by
  intro q lk p' ho
  unfold established
  split
  · exact .inl ho
  · rename_i hconn
    unfold onConnectionEstablished
    rw [if_neg fun hc => hconn (hA.ctxConn p hc)]
    -- a pending dial action of `p` is drained; any other owner is untouched
    rcases owned_split_dial s p ho with ⟨rfl, a, hd, rfl, hm⟩ | h
    · have hmem : a ∈ dialActions { s with connected := s.connected ++ [p'], dialing := s.dialing.filter (· != p') } p' :=
        mem_dialActions.mpr hd
      split
      · rename_i hnil
        rw [hnil] at hmem
        exact absurd hmem List.not_mem_nil
      · exact drainDials_owned p' _ _ outs (by simp) a hmem lk hm
    · split
      · exact .inl (h.mono (by owners_le))
      · exact .inl (h.mono (.trans (by owners_le) (drainDials_le ..)))

theorem Aux.established {s : State} (h : Aux s) (p : Peer) (outs : List Bool) : Aux (established s p outs) := by
  unfold Coordinator.established
  split
  · exact h
  · have hc : ∀ x ∈ s.ctx, x ∈ s.connected ++ [p] := fun x hx => List.mem_append_left _ (h.ctxConn x hx)
    unfold onConnectionEstablished
    split
    · exact h.of_sublist hc
    · simp only []
      split
      · exact h.of_sublist hc
      · refine Aux.drainDials (h.of_sublist fun x hx => ?_) ..
        rcases List.mem_append.mp hx with hx | hx
        · exact hc x hx
        · exact List.mem_append_right _ hx

theorem openSub_le (s : State) (p : Peer) (a : PAction) : OwnersLe s (openSub s p a) := by
  unfold openSub
  constructor <;> intro x hx <;>
    first | exact hx | exact List.mem_append_left _ hx | exact mem_push_unless.mpr (.inl hx)

theorem openSub_owned (s : State) (p : Peer) (a : PAction) (lk : Bool) (hm : mA lk a.kind = true) :
    Owned (openSub s p a) a.q lk p :=
  .inr (.inl ⟨s.nextSid, a, by simp [openSub], rfl, hm, by simp [openSub], by simp [openSub],
    mem_push_unless.mpr (.inr rfl)⟩)

theorem Aux.openSub {s : State} (h : Aux s) (p : Peer) (a : PAction) (hp : p ∈ s.connected) : Aux (openSub s p a) := by
  refine h.addSubs p [(s.nextSid, a)] rfl fun x hx => ?_
  rcases mem_push_unless.mp hx with hx | rfl
  · exact h.ctxConn x hx
  · exact hp

theorem inbound_le (s : State) (p : Peer) : OwnersLe s (inbound s p) := by
  unfold inbound
  split
  · constructor <;> intro x hx <;> first | exact hx | exact mem_push_unless.mpr (.inl hx)
  · exact .rfl' s

theorem Aux.inbound {s : State} (h : Aux s) (p : Peer) : Aux (inbound s p) := by
  unfold Coordinator.inbound
  split
  · rename_i hp
    refine h.of_sublist fun x hx => ?_
    rcases mem_push_unless.mp hx with hx | rfl
    · exact h.ctxConn x hx
    · exact hp
  · exact h

theorem osd_le (s : State) (p : Peer) (a : PAction) (o : OsdIn) : OwnersLe s (osd s p a o).1 := by
  rcases osd_cases s p a o with ⟨-, h⟩ | h | h <;> rw [h]
  · exact openSub_le ..
  · constructor <;> intro x hx <;>
      first | exact hx | exact List.mem_append_left _ hx | exact mem_push_unless.mpr (.inl hx)
  · exact OwnersLe.rfl' _

theorem osd_owned (s : State) (p : Peer) (a : PAction) (o : OsdIn) (lk : Bool) (hm : mA lk a.kind = true)
    (hok : (osd s p a o).2 = true) : Owned (osd s p a o).1 a.q lk p := by
  rcases osd_cases s p a o with ⟨-, h⟩ | h | h <;> rw [h] at hok ⊢
  · exact openSub_owned _ _ _ _ hm
  · exact .inl ⟨a, by simp, rfl, hm, mem_push_unless.mpr (.inr rfl)⟩
  · cases hok

theorem Aux.osd {s : State} (h : Aux s) (p : Peer) (a : PAction) (o : OsdIn) : Aux (osd s p a o).1 := by
  rcases osd_cases s p a o with ⟨hp, e⟩ | e | e <;> rw [e]
  · exact h.openSub p a hp
  · exact h.of_sublist h.ctxConn
  · exact h

theorem fanOut_le (k : AKind) (q : Qid) (s : State) (ps : List Peer) (outs : List OsdIn) :
    OwnersLe s (fanOut k q s ps outs).1 := by
  induction ps generalizing s outs with
  | nil => exact OwnersLe.rfl' _
  | cons p ps ih => simp only [fanOut]; exact (osd_le ..).trans (ih _ _)

theorem fanOut_owned (k : AKind) (q : Qid) (s : State) (ps : List Peer) (outs : List OsdIn) (lk : Bool)
    (hm : mA lk k = true) (p : Peer) (hp : p ∈ ps) :
    p ∈ (fanOut k q s ps outs).2 ∨ Owned (fanOut k q s ps outs).1 q lk p := by
  induction ps generalizing s outs with
  | nil => exact absurd hp (by simp)
  | cons p0 ps ih =>
    simp only [fanOut]
    rcases List.mem_cons.mp hp with rfl | hp
    · split
      · rename_i hok
        exact .inr ((osd_owned s p ⟨k, q⟩ _ lk hm hok).mono (fanOut_le ..))
      · exact .inl List.mem_cons_self
    · refine (ih _ _ hp).imp_left fun h => ?_
      split
      · exact h
      · exact List.mem_cons_of_mem _ h

theorem Aux.fanOut {s : State} (h : Aux s) (k : AKind) (q : Qid) (ps : List Peer) (outs : List OsdIn) :
    Aux (fanOut k q s ps outs).1 := by
  induction ps generalizing s outs with
  | nil => exact h
  | cons p ps ih => simp only [Coordinator.fanOut]; exact ih (h.osd ..) _

theorem WO.command {s : State} (h : WO s) (c : Cmd) : WO (command s c) := by
  rcases command_eq s c with ⟨st, kind, key, quorum, e⟩ | e <;> rw [e]
  · refine h.preserve (fun x' hx' p hp => ?_) (Transfers.of_le (by unfold startLookup; owners_le))
    rcases List.mem_append.mp hx' with hx | hx
    · exact .inl ⟨x', hx, rfl, rfl, hp⟩
    · rw [List.mem_singleton.mp hx] at hp
      exact absurd hp List.not_mem_nil
  · exact h.preserve_sub (Sub.refl (T := fun _ _ => True) _) (Transfers.of_le (by owners_le))

theorem Aux.command {s : State} (h : Aux s) (c : Cmd) : Aux (command s c) := by
  rcases command_eq s c with ⟨st, kind, key, quorum, e⟩ | e <;> rw [e] <;> exact h.of_sublist h.ctxConn

theorem sendMessage_le (s : State) (q : Qid) (p : Peer) (o : OsdIn) : OwnersLe s (sendMessage s q p o) := by
  unfold sendMessage
  split
  · exact osd_le ..
  · exact (osd_le s p ⟨.findNode, q⟩ o).trans (by owners_le)

theorem Aux.sendMessage {s : State} (h : Aux s) (q : Qid) (p : Peer) (o : OsdIn) : Aux (sendMessage s q p o) := by
  unfold Coordinator.sendMessage
  split
  · exact h.osd ..
  · have := h.osd p ⟨.findNode, q⟩ o
    exact this.of_sublist this.ctxConn

theorem estep_inv {s s' : State} {outs : List OsdIn} (hA : Aux s) (h : WO s) (hs : EStep s outs s') :
    Aux s' ∧ WO s' := by
  cases hs with
  | @send q key kind quorum ps p hx hps =>
    refine ⟨?_, ?_⟩
    · refine Aux.sendMessage ?_ _ _ _
      exact hA.of_sublist hA.ctxConn
    refine h.preserve (fun x' hx' p' hp' => ?_) (Transfers.of_le (.trans (by owners_le) (sendMessage_le _ _ _ _)))
    obtain ⟨x1, hx1, hid1, hlk1, hpp1, -⟩ := (sendMessage_shr ..).2.sub x' hx'
    obtain ⟨x2, hx2, hid, hst⟩ := mem_updQ (show x1 ∈ updQ s.engine q fun _ => .lookup kind quorum (ps ++ [p]) from hx1)
    have hp1 := hpp1 p' hp'
    rcases hst with ⟨-, hst⟩ | ⟨hq, hst⟩
    · exact .inl ⟨x2, hx2, hid.symm.trans hid1, hst ▸ hlk1, hst ▸ hp1⟩
    have hidq : x'.id = q := hid1.symm.trans (hid.trans hq)
    have hlk : x'.st.isLookup = true := by rw [← hlk1, hst]; rfl
    rw [hst] at hp1
    rw [hidq, hlk]
    rcases List.mem_append.mp hp1 with hp1 | hp1
    · exact .inl ⟨_, hx, rfl, rfl, hp1⟩
    · -- the new peer: its record is there, or the failure has been registered
      obtain rfl : p' = p := by simpa using hp1
      unfold sendMessage at hx' ⊢
      split
      · rename_i hok
        exact .inr (osd_owned _ p' ⟨.findNode, q⟩ _ true rfl hok)
      · rename_i hok
        rw [if_neg hok] at hx'
        exact absurd hp' (gone_bothFail _ q p' true x' hx' hidq hlk)
  | finish ok log hx hlog =>
    exact ⟨hA.of_sublist hA.ctxConn, h.preserve_sub (sub_removeQ (T := fun _ _ => True) _ _) (Transfers.of_le (by unfold emit; owners_le))⟩
  | @fanOut q key kind quorum ps k isPut peers hx hps hk =>
    have hAf := Aux.fanOut (hA.of_sublist (s' := { s with engine := removeQ s.engine q }) hA.ctxConn) k q peers outs
    have hm : mA false k = true := by cases k <;> first | rfl | exact absurd rfl hk
    refine ⟨hAf.of_sublist hAf.ctxConn, ?_⟩
    refine h.preserve ?_ (Transfers.of_le (.trans (.trans (by owners_le)
      (fanOut_le k q { s with engine := removeQ s.engine q } peers outs)) (by unfold startTracking; owners_le)))
    intro x' hx' p' hp'
    obtain ⟨x, hx, hid, hlk, hpp, -⟩ := (startTracking_shr ..).2.sub x' hx'
    rcases List.mem_append.mp hx with hx | hx
    · rw [(fanOut_frame ..).engine] at hx
      exact .inl ⟨x, (List.mem_filter.mp hx).1, hid, hlk, hpp p' hp'⟩
    · simp only [List.mem_singleton] at hx
      subst hx
      rcases fanOut_owned k q { s with engine := removeQ s.engine q } peers outs false hm p'
        (List.mem_eraseDups.mp (hpp p' hp')) with hfail | hown
      · exact absurd hp' (gone_foldl _ (fun e p => .sendFail q p (.refl e)) hfail _ (fun _ _ => gone_regSendFail _ q p')
          x' hx' hid.symm hlk.symm)
      · rw [← hid, ← hlk]
        exact .inr (hown.mono (by unfold startTracking; owners_le))
  | idle => exact ⟨hA, h⟩

theorem reachable_run {s : State} (h : Reachable s) (ls : List Label) : Reachable (run s ls) := by
  induction ls generalizing s with
  | nil => exact h
  | cons l ls ih =>
    unfold run
    cases hs : step s l with
    | none => exact ih h
    | some s' => exact ih (.step l h hs)

end Litep2pVerif.Kad.Coordinator
