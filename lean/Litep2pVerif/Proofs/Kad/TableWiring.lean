import Litep2pVerif.Proofs.Kad.Table
import Litep2pVerif.Model.Kad.TableWiring
/-! The coordinator's event handlers on top of the table: which events keep a `Connected` entry connected. -/
namespace Litep2pVerif.Kad.Wiring
open Litep2pVerif.Kad.Key Litep2pVerif.Kad.Bucket Litep2pVerif.Kad.Table

theorem wrun_table_aux (K : Nat) (evs : List Ev) (w : W) :
    (evs.foldl (wstep K) w).table = (opsOf K w evs).foldl (step K) w.table := by
  induction evs generalizing w with
  | nil => rfl
  | cons e r ih =>
    rw [List.foldl_cons, ih]
    simp [opsOf, List.foldl_append, wstep]

theorem wrun_table (K nb lk : Nat) (evs : List Ev) :
    (wrun K nb lk evs).table = run K nb lk (opsOf K { table := Table.new nb lk } evs) :=
  wrun_table_aux K evs _

theorem wrun_append (K nb lk : Nat) (evs : List Ev) (e : Ev) :
    wrun K nb lk (evs ++ [e]) = wstep K (wrun K nb lk evs) e := by
  simp [wrun, List.foldl_append]

theorem wstep_keeps_connected (K : Nat) (w : W) (e : Ev) {bi si peer key : Nat}
    (h : HoldsConnected w.table bi si peer key) (hclose : ∀ q, e ≠ .closed q key)
    (hadd : ∀ q n, e = .addKnown q key n → q ∈ w.peers ∨ n = 0) :
    HoldsConnected (wstep K w e).table bi si peer key := by
  refine foldl_keeps_connected K (calls w e) w.table h fun op hop hdg hkey => ?_
  cases e with
  | addKnown q k n =>
    cases List.mem_singleton.1 hop
    rcases hadd q n (by rw [hkey]; rfl) with hq | hn
    · simp [Op.downgrades, hq] at hdg
    · simp [Op.downgrades, hn] at hdg
  | closed q k =>
    cases List.mem_singleton.1 hop
    exact hclose q (by rw [hkey]; rfl)
  | established | dialFailure =>
    cases List.mem_singleton.1 hop
    cases hdg
  | inbound q => cases hop

theorem foldl_wstep_keeps_connected (K : Nat) {bi si peer key : Nat} (more : List Ev) (w : W)
    (h : HoldsConnected w.table bi si peer key) (hm : ∀ e ∈ more, e.harmless key) :
    HoldsConnected (more.foldl (wstep K) w).table bi si peer key := by
  refine List.foldlRecOn (motive := fun w : W => HoldsConnected w.table bi si peer key) more _ h
    fun w' hw e he => wstep_keeps_connected K w' e hw ?_ ?_
  · rintro q rfl
    exact hm _ he rfl
  · rintro q n rfl
    exact (hm _ he).imp (absurd rfl) id

end Litep2pVerif.Kad.Wiring
