import Litep2pVerif.Model.Kad.QueryRun
import Litep2pVerif.Proofs.Common.List
/-!
# Lemmas about the query contexts (C15): the candidate frontier

The three iterative lookups share the frontier `(candidates, pending, queried)`; `Frontier` is the
invariant that makes "no self, no re-query" work, stated once and used by every context. `measure` is the termination
measure on `(pending, queried)`: a send and an answer each lower it (`measure_send`, `measure_answer`).
-/
namespace Litep2pVerif.Kad.Query

theorem filter_length_lt_of_imp {α : Type} (l : List α) (P Q : α → Bool) (h : ∀ x ∈ l, P x → Q x)
    (c : α) (hc : c ∈ l) (hQ : Q c) (hP : ¬ P c) : (l.filter P).length < (l.filter Q).length := by
  have : l.filter P = (l.filter Q).filter P := by
    rw [List.filter_filter]
    exact List.filter_congr fun x hx => by cases hp : P x <;> simp [h x hx, hp]
  rw [this]
  exact List.length_filter_lt_length_iff_exists.2 ⟨c, List.mem_filter.2 ⟨hc, hQ⟩, hP⟩

theorem mem_sinsert {p q : Nat} {s : List Nat} : q ∈ sinsert p s ↔ q = p ∨ q ∈ s :=
  mem_insert_unless p q s

theorem mem_dinsert_self (k : Nat) (v : KPeer) (m : DMap) : (k, v) ∈ dinsert k v m := by
  fun_induction dinsert k v m <;> simp [*]

theorem mem_dinsert_sub {k : Nat} {v : KPeer} {m : DMap} {x : Nat × KPeer}
    (h : x ∈ dinsert k v m) : x = (k, v) ∨ x ∈ m := by
  fun_induction dinsert k v m <;> simp_all <;> grind

theorem mem_dinsert_of_ne {k : Nat} {v : KPeer} {m : DMap} {x : Nat × KPeer}
    (h : x ∈ m) (hne : x.1 ≠ k) : x ∈ dinsert k v m := by
  fun_induction dinsert k v m <;> grind

abbrev Sorted (m : DMap) : Prop := m.Pairwise (fun a b => a.1 < b.1)

theorem dinsert_sorted {k : Nat} {v : KPeer} {m : DMap} (h : Sorted m) : Sorted (dinsert k v m) := by
  fun_induction dinsert k v m with
  | case1 => simp
  | case2 k' v' rest hlt =>
    refine List.pairwise_cons.2 ⟨fun b hb => ?_, h⟩
    rcases List.mem_cons.1 hb with rfl | hb
    · exact hlt
    · exact Nat.lt_trans hlt ((List.pairwise_cons.1 h).1 b hb)
  | case3 => exact List.pairwise_cons.2 (List.pairwise_cons.1 h)
  | case4 k' v' rest hlt hne ih =>
    have hc := List.pairwise_cons.1 h
    refine List.pairwise_cons.2 ⟨fun b hb => ?_, ih hc.2⟩
    rcases mem_dinsert_sub hb with rfl | hb
    · show k' < k; omega
    · exact hc.1 b hb

theorem dinsert_length_le (k : Nat) (v : KPeer) (m : DMap) : (dinsert k v m).length ≤ m.length + 1 := by
  fun_induction dinsert k v m <;> simp <;> omega

/-- The shape of the folds in `addCandidates` and `initCandidates`: `f` inserts the peers that
satisfy `K` under their distance and skips the others. -/
def InsertsIf (K : KPeer → Prop) (f : DMap → KPeer → DMap) : Prop :=
  ∀ acc p, (K p ∧ f acc p = dinsert p.dist p acc) ∨ (¬ K p ∧ f acc p = acc)

theorem mem_foldl_inserts {K f} (hf : InsertsIf K f) {peers : List KPeer} {c : DMap} {x : Nat × KPeer}
    (h : x ∈ peers.foldl f c) : x ∈ c ∨ ∃ kp ∈ peers, x = (kp.dist, kp) ∧ K kp := by
  induction peers generalizing c with
  | nil => exact Or.inl h
  | cons p ps ih =>
    rcases ih h with h | ⟨kp, hkp, hx⟩
    · rcases hf c p with ⟨hK, e⟩ | ⟨_, e⟩
      · rcases mem_dinsert_sub (e ▸ h) with h | h
        · exact Or.inr ⟨p, List.mem_cons_self .., h, hK⟩
        · exact Or.inl h
      · exact Or.inl (e ▸ h)
    · exact Or.inr ⟨kp, List.mem_cons_of_mem _ hkp, hx⟩

theorem foldl_inserts_sorted {K f} (hf : InsertsIf K f) {peers : List KPeer} {c : DMap} (h : Sorted c) :
    Sorted (peers.foldl f c) := by
  induction peers generalizing c with
  | nil => exact h
  | cons p ps ih =>
    refine ih ?_
    rcases hf c p with ⟨_, e⟩ | ⟨_, e⟩
    · rw [e]; exact dinsert_sorted h
    · rw [e]; exact h

theorem addCandidates_inserts (l : Nat) (qd pd : List Nat) :
    InsertsIf (fun p => p.peer ∉ qd ∧ p.peer ∉ pd ∧ l ≠ p.peer) (fun acc p =>
      if p.peer ∈ qd then acc else if p.peer ∈ pd then acc else if l = p.peer then acc
      else dinsert p.dist p acc) := by
  intro acc p
  by_cases h1 : p.peer ∈ qd <;> by_cases h2 : p.peer ∈ pd <;> by_cases h3 : l = p.peer <;> simp [*]

theorem initCandidates_inserts : InsertsIf (fun _ => True) (fun acc c => dinsert c.dist c acc) :=
  fun _ _ => Or.inl ⟨trivial, rfl⟩

theorem mem_addCandidates {l : Nat} {qd pd : List Nat} {c : DMap} {peers : List KPeer} {x : Nat × KPeer}
    (h : x ∈ addCandidates l qd pd c peers) :
    x ∈ c ∨ ∃ kp ∈ peers, x = (kp.dist, kp) ∧ kp.peer ∉ qd ∧ kp.peer ∉ pd ∧ l ≠ kp.peer :=
  mem_foldl_inserts (addCandidates_inserts l qd pd) h

theorem mem_initCandidates {inPeers : List KPeer} {x : Nat × KPeer} (h : x ∈ initCandidates inPeers) :
    ∃ kp ∈ inPeers, x = (kp.dist, kp) := by
  rcases mem_foldl_inserts initCandidates_inserts h with h | ⟨kp, hkp, hx, _⟩
  · simp at h
  · exact ⟨kp, hkp, hx⟩

theorem addCandidates_sorted {l : Nat} {qd pd : List Nat} {c : DMap} {peers : List KPeer}
    (h : Sorted c) : Sorted (addCandidates l qd pd c peers) :=
  foldl_inserts_sorted (addCandidates_inserts l qd pd) h

theorem initCandidates_sorted (inPeers : List KPeer) : Sorted (initCandidates inPeers) :=
  foldl_inserts_sorted initCandidates_inserts List.Pairwise.nil

/-- `candidates`, the peers of `pending`, and `queried` of a lookup whose peers live in the universe
`U` and whose distances are given by `d`. -/
structure Frontier (d : Nat → Nat) (U : List Nat) (l : Nat) (cands : DMap) (pend queried : List Nat) :
    Prop where
  sorted : Sorted cands
  key : ∀ x ∈ cands, x.1 = x.2.dist ∧ x.2.dist = d x.2.peer
  fresh : ∀ x ∈ cands, x.2.peer ≠ l ∧ x.2.peer ∉ pend ∧ x.2.peer ∉ queried ∧ x.2.peer ∈ U
  pendNodup : pend.Nodup
  pendQ : ∀ p ∈ pend, p ∉ queried ∧ p ≠ l

theorem Frontier.send {d U l k c rest pend queried}
    (h : Frontier d U l ((k, c) :: rest) pend queried) :
    Frontier d U l rest (c.peer :: pend) queried ∧
      c.peer ≠ l ∧ c.peer ∉ pend ∧ c.peer ∉ queried ∧ c.peer ∈ U := by
  have hc := h.fresh (k, c) (List.mem_cons_self ..)
  have hk := h.key (k, c) (List.mem_cons_self ..)
  have hs := List.pairwise_cons.1 h.sorted
  refine ⟨⟨hs.2, fun x hx => h.key x (List.mem_cons_of_mem _ hx), ?_, ?_, ?_⟩, hc⟩
  · intro x hx
    have hf := h.fresh x (List.mem_cons_of_mem _ hx)
    have hkx := h.key x (List.mem_cons_of_mem _ hx)
    refine ⟨hf.1, ?_, hf.2.2⟩
    intro hm
    rcases List.mem_cons.1 hm with hm | hm
    · -- a second candidate for the peer `c` would sit under the same key `d c.peer`
      have := hs.1 x hx
      simp only at this hk
      rw [hkx.1, hkx.2, hm, ← hk.2, ← hk.1] at this
      omega
    · exact hf.2.1 hm
  · exact List.nodup_cons.2 ⟨hc.2.1, h.pendNodup⟩
  · intro p hp
    rcases List.mem_cons.1 hp with hp | hp
    · subst hp; exact ⟨hc.2.2.1, hc.1⟩
    · exact h.pendQ p hp

theorem Frontier.answer {d U l cands pend queried} (p : Nat) (peers : List KPeer)
    (h : Frontier d U l cands pend queried) (hp : p ∈ pend)
    (hpeers : ∀ kp ∈ peers, kp.dist = d kp.peer ∧ kp.peer ∈ U) :
    Frontier d U l (addCandidates l (sinsert p queried) (pend.filter (· ≠ p)) cands peers)
      (pend.filter (· ≠ p)) (sinsert p queried) := by
  refine ⟨addCandidates_sorted h.sorted, ?_, ?_, h.pendNodup.filter _, ?_⟩
  · intro x hx
    rcases mem_addCandidates hx with hx | ⟨kp, hkp, rfl, _⟩
    · exact h.key x hx
    · exact ⟨rfl, (hpeers kp hkp).1⟩
  · intro x hx
    rcases mem_addCandidates hx with hx | ⟨kp, hkp, rfl, h1, h2, h3⟩
    · have hf := h.fresh x hx
      refine ⟨hf.1, fun hm => hf.2.1 (List.mem_filter.1 hm).1, fun hm => ?_, hf.2.2.2⟩
      rcases mem_sinsert.1 hm with hm | hm
      · exact hf.2.1 (hm ▸ hp)
      · exact hf.2.2.1 hm
    · exact ⟨fun e => h3 e.symm, h2, h1, (hpeers kp hkp).2⟩
  · intro q hq
    have hq' := List.mem_filter.1 hq
    have := h.pendQ q hq'.1
    refine ⟨fun hm => ?_, this.2⟩
    rcases mem_sinsert.1 hm with hm | hm
    · simp [hm] at hq'
    · exact this.1 hm

theorem Frontier.init {d U l} (inPeers : List KPeer)
    (h : ∀ kp ∈ inPeers, kp.dist = d kp.peer ∧ kp.peer ∈ U ∧ kp.peer ≠ l) :
    Frontier d U l (initCandidates inPeers) [] [] := by
  refine ⟨initCandidates_sorted _, ?_, ?_, List.nodup_nil, by simp⟩
  · intro x hx
    obtain ⟨kp, hkp, rfl⟩ := mem_initCandidates hx
    exact ⟨rfl, (h kp hkp).1⟩
  · intro x hx
    obtain ⟨kp, hkp, rfl⟩ := mem_initCandidates hx
    exact ⟨(h kp hkp).2.2, by simp, by simp, (h kp hkp).2.1⟩

def measure (U pend queried : List Nat) : Nat :=
  2 * (U.filter (fun u => u ∉ pend ∧ u ∉ queried)).length + pend.length

theorem measure_le (U pend queried : List Nat) (h : pend = []) : measure U pend queried ≤ 2 * U.length := by
  subst h
  have := List.length_filter_le (fun u => decide (u ∉ ([] : List Nat) ∧ u ∉ queried)) U
  simp only [measure, List.length_nil]
  omega

theorem untouched_send {U pend queried : List Nat} {c : Nat} (hU : c ∈ U) (hp : c ∉ pend)
    (hq : c ∉ queried) :
    (U.filter (fun u => u ∉ c :: pend ∧ u ∉ queried)).length <
      (U.filter (fun u => u ∉ pend ∧ u ∉ queried)).length :=
  filter_length_lt_of_imp U _ _ (by simp; intro x _ _ h2 h3; exact ⟨h2, h3⟩) c hU (by simp [hp, hq])
    (by simp)

theorem untouched_answer {U pend queried : List Nat} {p : Nat} (hp : p ∈ pend) :
    U.filter (fun u => u ∉ pend.filter (· ≠ p) ∧ u ∉ sinsert p queried) =
      U.filter (fun u => u ∉ pend ∧ u ∉ queried) := by
  refine List.filter_congr fun u _ => ?_
  simp only [decide_eq_decide, List.mem_filter, mem_sinsert, decide_eq_true_eq, not_and, not_or]
  by_cases hup : u = p
  · simp [hup, hp]
  · simp [hup]

theorem measure_send {U pend queried : List Nat} {c : Nat} (hU : c ∈ U) (hp : c ∉ pend)
    (hq : c ∉ queried) : measure U (c :: pend) queried + 1 ≤ measure U pend queried := by
  have := untouched_send hU hp hq
  simp only [measure, List.length_cons]
  omega

theorem measure_answer {U pend queried : List Nat} {p : Nat} (hp : p ∈ pend) (hn : pend.Nodup) :
    measure U (pend.filter (· ≠ p)) (sinsert p queried) + 1 = measure U pend queried := by
  have := filter_ne_length hp hn
  simp only [measure, untouched_answer hp]
  omega

end Litep2pVerif.Kad.Query
