import Litep2pVerif.Proofs.Kad.CoordinatorOwned
/-!
Why a send success counted by a PUT_VALUE / ADD_PROVIDER tracker can only come from a PUT_VALUE /
ADD_PROVIDER future (C16, `put_quorum_sound`).

The query id is the same in the lookup phase and in the send phase, and a `ReadSuccess` of a FIND_NODE
request is reported to the engine as a send success as well; if such a request to a fan-out target were
still in flight when the lookup ends, the tracker would count it. It cannot be:

* `LInv.one` — while a query is in its lookup phase, the coordinator holds at most one record (pending dial
  action, pending substream action, executor future) for the query and a peer, and none unless the lookup
  is waiting for that peer (the engine never queries a peer it is waiting for);
* the engine only hands out fan-out targets it is not waiting for, hence
* `LInv.noReq` — no request/response future of the query is in flight for a peer its tracker waits for.
-/
namespace Litep2pVerif.Kad.Coordinator

theorem countP_filter_key {α} (l : List α) (key : α → Peer) (P : α → Bool) (p p' : Peer)
    (hP : ∀ x, P x = true → key x = p') :
    (l.filter (fun x => key x != p)).countP P = if p' = p then 0 else l.countP P := by
  rw [List.countP_filter]
  split
  · rename_i h
    subst h
    rw [List.countP_eq_zero]
    intro a _ hc
    have := (Bool.and_eq_true _ _).mp hc
    have hk := hP a this.1
    simp [hk] at this
  · rename_i h
    apply List.countP_congr
    intro x _
    constructor
    · intro hc; exact ((Bool.and_eq_true _ _).mp hc).1
    · intro hc
      have hk := hP x hc
      simp [hc, hk, h]

theorem countP_filter_not_lt {α} (l : List α) (P R : α → Bool) (x : α) (hx : x ∈ l) (hP : P x = true)
    (hR : R x = true) : (l.filter (fun y => !R y)).countP P + 1 ≤ l.countP P := by
  have h := (List.filter_append_perm R l).countP_eq P
  have : 0 < (l.filter R).countP P := List.countP_pos_iff.mpr ⟨x, List.mem_filter.mpr ⟨hx, hR⟩, hP⟩
  rw [List.countP_append] at h
  omega

def dcnt (s : State) (q : Qid) (p : Peer) : Nat := s.dials.countP (fun d => d.2.q == q && d.1 == p)
def acnt (s : State) (q : Qid) (p : Peer) : Nat := s.actions.countP (fun a => a.2.2.q == q && a.1 == p)
def fcnt (s : State) (q : Qid) (p : Peer) : Nat := s.futs.countP (fun f => f.q == q && f.peer == p)

/-- Number of records (pending dial actions, pending substream actions, executor futures) of query `q`
for peer `p`. -/
def cnt (s : State) (q : Qid) (p : Peer) : Nat := dcnt s q p + acnt s q p + fcnt s q p

theorem acnt_pos {s : State} {q : Qid} {p : Peer} {sid : Sid} {a : PAction} (h : (p, sid, a) ∈ s.actions)
    (hq : a.q = q) : 0 < acnt s q p :=
  List.countP_pos_iff.mpr ⟨_, h, by simp [hq]⟩

theorem dcnt_pos {s : State} {q : Qid} {p : Peer} {a : PAction} (h : (p, a) ∈ s.dials) (hq : a.q = q) :
    0 < dcnt s q p :=
  List.countP_pos_iff.mpr ⟨_, h, by simp [hq]⟩

theorem not_mem_futs_of_cnt {s : State} {q : Qid} {p : Peer} (h : cnt s q p = 0) (k : FKind) :
    (⟨p, q, k⟩ : Fut) ∉ s.futs := by
  intro hf
  have : 0 < fcnt s q p := List.countP_pos_iff.mpr ⟨_, hf, by simp⟩
  unfold cnt at h
  omega

theorem lookup_sendFail {st : QState} (h : st.isLookup = true) (p : Peer) : st.sendFail p = st := by
  cases st with
  | lookup => rfl
  | tracker => simp [QState.isLookup] at h

theorem lookup_sendOk {st : QState} (h : st.isLookup = true) (p : Peer) : st.sendOk p = st := by
  cases st with
  | lookup => rfl
  | tracker => simp [QState.isLookup] at h

/-- What the queries in their lookup phase see of a shrinking `ShrT T`. -/
def LookSub (T : Qid → Peer → Prop) (e e' : Engine) : Prop :=
  ∀ x' ∈ e', x'.st.isLookup = true →
    ∃ x ∈ e, x.id = x'.id ∧ x.st.isLookup = true ∧ (∀ p ∈ x'.st.pending, p ∈ x.st.pending) ∧
      (∀ p ∈ x.st.pending, p ∈ x'.st.pending ∨ T x.id p)

theorem ShrT.lookups {T} {e e' : Engine} (h : ShrT T e e') : LookSub T e e' := fun x' hx' hl =>
  let ⟨x, hx, hi, hlk, h1, h2⟩ := h.sub x' hx'
  ⟨x, hx, hi, hlk.trans hl, h1, h2 (hlk.trans hl)⟩

structure LInv (s : State) : Prop where
  fresh : ∀ q p, s.nextQid ≤ q → cnt s q p = 0
  one : ∀ x ∈ s.engine, x.st.isLookup = true → ∀ p, cnt s x.id p ≤ if p ∈ x.st.pending then 1 else 0
  noReq : ∀ x ∈ s.engine, x.st.isLookup = false → ∀ p ∈ x.st.pending, (⟨p, x.id, .reqResp⟩ : Fut) ∉ s.futs

theorem LInv.init : LInv {} := by
  constructor
  · intro q p _; rfl
  · intro x hx; exact absurd hx (by simp)
  · intro x hx; exact absurd hx (by simp)

/-- `T q p`: a `register_response(_failure)` for `(q, p)`; it is paid for by a dropped record, or no record is left. The
second alternative serves only the failed `sendMessage` of an engine action, where the failure is registered for a peer
for which `open_substream_or_dial` made no record. -/
theorem LInv.preserve_env {s s' : State} (h : LInv s) (T : Qid → Peer → Prop)
    (hsh : ShrT T s.engine s'.engine) (hn : s'.nextQid = s.nextQid)
    (hle : ∀ q p, cnt s' q p ≤ cnt s q p) (hT : ∀ q p, T q p → cnt s' q p < cnt s q p ∨ cnt s' q p = 0)
    (hf : ∀ x' ∈ s'.engine, x'.st.isLookup = false → ∀ p, (⟨p, x'.id, .reqResp⟩ : Fut) ∈ s'.futs →
      (⟨p, x'.id, .reqResp⟩ : Fut) ∈ s.futs) : LInv s' := by
  refine ⟨?_, ?_, ?_⟩
  · intro q p hq
    have := h.fresh q p (hn ▸ hq)
    have := hle q p
    omega
  · intro x' hx' hlk p
    obtain ⟨x, hx, hid, hl, h1, h2⟩ := hsh.lookups x' hx' hlk
    have hone := h.one x hx hl p
    have hle' := hle x.id p
    rw [← hid]
    by_cases hp' : p ∈ x'.st.pending
    · rw [if_pos hp']
      rw [if_pos (h1 p hp')] at hone
      omega
    · rw [if_neg hp']
      by_cases hp : p ∈ x.st.pending
      · rw [if_pos hp] at hone
        rcases h2 p hp with hc | ht
        · exact absurd hc hp'
        · rcases hT _ _ ht with h | h <;> omega
      · rw [if_neg hp] at hone; omega
  · intro x' hx' hlk p hp hfut
    obtain ⟨x, hx, hid, hl, hpp, -⟩ := hsh.sub x' hx'
    have := hf x' hx' hlk p hfut
    rw [← hid] at this
    exact h.noReq x hx (hl.trans hlk) p (hpp p hp) this

/-- What a transport event or a failed executor result does to what `Ledger`, `QuorumInv` and `LInv` speak of: the
ledgers are untouched; the engine only shrinks, and a response (failure) is registered only for a query and peer of
which a record is dropped; no record is new, and no request/response future is new for a tracker. -/
structure Calm (s s' : State) : Prop where
  same : SameLedger s s'
  engine : Shr (fun q p => cnt s' q p < cnt s q p) s.engine s'.engine
  cntLe : ∀ q p, cnt s' q p ≤ cnt s q p
  futs : ∀ x' ∈ s'.engine, x'.st.isLookup = false → ∀ p, (⟨p, x'.id, .reqResp⟩ : Fut) ∈ s'.futs →
    (⟨p, x'.id, .reqResp⟩ : Fut) ∈ s.futs

theorem LInv.of_calm {s s' : State} (h : LInv s) (c : Calm s s') : LInv s' :=
  h.preserve_env _ c.engine.shrT c.same.nextQid c.cntLe (fun _ _ h => .inl h) c.futs

theorem cnt_drop {s s' : State} (hd : s'.dials = s.dials) (ha : s'.actions.Sublist s.actions)
    (hf : s'.futs.Sublist s.futs) (q : Qid) (p : Peer) : cnt s' q p ≤ cnt s q p := by
  unfold cnt dcnt acnt fcnt
  rw [hd]
  have := ha.countP_le (p := fun a => a.2.2.q == q && a.1 == p)
  have := hf.countP_le (p := fun f => f.q == q && f.peer == p)
  omega

theorem Calm.drop {s s' : State} (ha : s'.actions.Sublist s.actions := by exact .refl _)
    (hf : s'.futs.Sublist s.futs := by exact .refl _) (he : s'.engine = s.engine := by rfl)
    (hd : s'.dials = s.dials := by rfl) (hs : SameLedger s s' := by exact .of_eq) : Calm s s' :=
  ⟨hs, he ▸ .refl _, cnt_drop hd ha hf, fun _ _ _ _ hx => hf.subset hx⟩

theorem cnt_disconnectPeer (s : State) (p : Peer) (query : Option Qid) (q : Qid) (p' : Peer) :
    cnt (disconnectPeer s p query) q p' + (if p' = p then acnt s q p else 0) = cnt s q p' := by
  unfold cnt dcnt acnt fcnt disconnectPeer
  simp only []
  rw [countP_filter_key s.actions (·.1) _ p p' (by intro x hx; simpa using ((Bool.and_eq_true _ _).mp hx).2)]
  split
  · rename_i h
    subst h
    omega
  · omega

theorem cnt_filter_lt {s s' : State} (R : Peer × Sid × PAction → Bool) (x : Peer × Sid × PAction)
    (hx : x ∈ s.actions) (hR : R x = true) (hd : s'.dials = s.dials)
    (ha : s'.actions = s.actions.filter (fun y => !R y)) (hf : s'.futs = s.futs) :
    cnt s' x.2.2.q x.1 < cnt s x.2.2.q x.1 := by
  unfold cnt dcnt acnt fcnt
  rw [hd, ha, hf]
  have := countP_filter_not_lt s.actions (fun a => a.2.2.q == x.2.2.q && a.1 == x.1) R x hx (by simp) hR
  omega

theorem cnt_erase_lt (s : State) (f : Fut) (hf : f ∈ s.futs) :
    cnt { s with futs := s.futs.erase f } f.q f.peer < cnt s f.q f.peer := by
  have := countP_erase_add (fun g => g.q == f.q && g.peer == f.peer) s.futs f hf
  rw [if_pos (by simp)] at this
  unfold cnt dcnt acnt fcnt
  simp only []
  omega

theorem actionAt_some {s : State} {p : Peer} {sid : Sid} {a : PAction} (h : actionAt s p sid = some a) :
    (p, sid, a) ∈ s.actions := by
  unfold actionAt at h
  obtain ⟨x, hx, rfl⟩ := Option.map_eq_some_iff.mp h
  have := List.find?_some hx
  simp only [Bool.and_eq_true, beq_iff_eq] at this
  rw [← this.1, ← this.2]
  exact List.mem_of_find?_eq_some hx

theorem disconnectPeer_shr {T} (s : State) (p : Peer) (query : Option Qid) (hq : ∀ q, query = some q → T q p)
    (ha : ∀ q, 0 < acnt s q p → T q p) : Shr T s.engine (disconnectPeer s p query).engine := by
  unfold disconnectPeer
  refine Shr.trans ?_ (Shr.foldl _ _ (fun a ha' e => ?_) _)
  · cases query with
    | none => exact .refl _
    | some q => exact .bothFail _ q p (hq q rfl)
  · split
    · obtain ⟨sid, hm⟩ := mem_actionsOf.mp ha'
      exact .bothFail _ _ _ (ha _ (acnt_pos hm rfl))
    · exact .refl _

/-- `s1`: the state once the handler has dropped records; the failure registered for `query` is paid for by one of them. -/
theorem Calm.disconnectPeer {s s1 : State} {p : Peer} {query : Option Qid} (hle : ∀ q p', cnt s1 q p' ≤ cnt s q p')
    (hq : ∀ q, query = some q → cnt s1 q p < cnt s q p) (hf : ∀ f ∈ s1.futs, f ∈ s.futs)
    (he : s1.engine = s.engine := by rfl) (hs : SameLedger s s1 := by exact .of_eq) :
    Calm s (Coordinator.disconnectPeer s1 p query) := by
  have hc := cnt_disconnectPeer s1 p query
  refine ⟨hs.trans .of_eq, he ▸ disconnectPeer_shr s1 p query (fun q hq' => ?_) (fun q ha => ?_), fun q p' => ?_,
    fun _ _ _ _ hx => hf _ hx⟩
  · have := hc q p
    have := hq q hq'
    rw [if_pos rfl] at *
    omega
  · have := hc q p
    have := hle q p
    rw [if_pos rfl] at *
    omega
  · have := hle q p'
    have := hc q p'
    omega

theorem closed_calm (s : State) (p : Peer) : Calm s (closed s p) := by
  unfold closed
  split
  · exact .disconnectPeer (fun _ _ => Nat.le_refl _) (fun _ hq => nomatch hq) (fun _ hf => hf)
  · exact .drop

theorem LInv.closed {s : State} (h : LInv s) (p : Peer) : LInv (closed s p) := h.of_calm (closed_calm s p)

theorem subOpenFailure_calm (s : State) (sid : Sid) : Calm s (subOpenFailure s sid) := by
  unfold subOpenFailure
  split
  · exact .drop
  · simp only []
    split
    · exact .drop
    · rename_i p _
      split
      · refine .disconnectPeer (cnt_drop rfl List.filter_sublist (.refl _)) (fun q hq => ?_) (fun _ hf => hf)
        -- the failed substream carried an action of `q` for `p`
        obtain ⟨a, ha, rfl⟩ := Option.map_eq_some_iff.mp hq
        exact cnt_filter_lt (fun a => a.1 == p && a.2.1 == sid) (p, sid, a) (actionAt_some ha) (by simp) rfl rfl rfl
      · exact .drop

/-- A success result is registered as a send success first; the rest of the handler is calm. -/
theorem execResult_calm (s : State) (f : Fut) (r : Res) :
    Calm s (execResult s f r) ∨
    (f ∈ s.futs ∧ Calm { s with engine := regSendOk s.engine f.q f.peer
                                sendResults := (f.q, f.peer, f.kind) :: s.sendResults } (execResult s f r)) := by
  unfold execResult
  split
  · rename_i h
    simp only []
    have hle := cnt_drop (s := s) (s' := { s with futs := s.futs.erase f }) rfl (.refl _) List.erase_sublist
    have hfu : ∀ g ∈ s.futs.erase f, g ∈ s.futs := fun _ => List.mem_of_mem_erase
    have hfail : Calm s (disconnectPeer { s with futs := s.futs.erase f } f.peer (some f.q)) :=
      .disconnectPeer hle (fun q hq => by cases hq; exact cnt_erase_lt s f h.1) hfu
    cases r with
    | sendOk | assumeOk => exact .inr ⟨h.1, .drop (hf := List.erase_sublist)⟩
    | sendFail | readFail => exact .inl hfail
    | readOk =>
      exact .inr ⟨h.1, .of_eq, .respDone _ _ (cnt_erase_lt s f h.1) (.refl _), hle, fun _ _ _ _ hx => hfu _ hx⟩
  · exact .inl .drop

theorem LInv.sendOk {s : State} (h : LInv s) (q : Qid) (p : Peer) (sr : SendLog) :
    LInv { s with engine := regSendOk s.engine q p, sendResults := sr } :=
  h.preserve_env (fun _ _ => False) (.sendOk _ _ (.refl _)) rfl (fun _ _ => Nat.le_refl _) (fun _ _ hc => hc.elim)
    (fun _ _ _ _ hx => hx)

theorem cnt_dropDials {s s' : State} (p : Peer) (hd : s'.dials = s.dials.filter (fun d => d.1 != p))
    (ha : s'.actions = s.actions) (hf : s'.futs = s.futs) (q : Qid) (p' : Peer) :
    cnt s' q p' + (if p' = p then dcnt s q p else 0) = cnt s q p' := by
  unfold cnt dcnt acnt fcnt
  rw [hd, ha, hf, countP_filter_key s.dials (·.1) _ p p' (by intro x hx; simpa using ((Bool.and_eq_true _ _).mp hx).2)]
  split
  · rename_i h
    subst h
    omega
  · omega

theorem dialFailure_calm (s : State) (p : Peer) : Calm s (dialFailure s p) := by
  have hc := cnt_dropDials (s := s) (s' := dialFailure s p) p rfl rfl rfl
  refine ⟨.of_eq, Shr.foldl _ _ (fun a ha e => .bothFail _ _ _ ?_) _, fun q p' => ?_, fun _ _ _ _ hx => hx⟩
  · have := hc a.q p
    have := dcnt_pos (mem_dialActions.mp ha) rfl
    rw [if_pos rfl] at *
    omega
  · have := hc q p'
    omega

theorem countP_newActions (new : List (Sid × PAction)) (p : Peer) (q : Qid) (p' : Peer) :
    ((new.map fun x => (p, x.1, x.2)).countP fun a => a.2.2.q == q && a.1 == p') =
      if p' = p then (new.map (·.2)).countP (·.q == q) else 0 := by
  rw [List.countP_map, List.countP_map]
  split
  · rename_i hp
    exact List.countP_congr fun x _ => by simp [hp]
  · rename_i hp
    exact List.countP_eq_zero.mpr fun x _ => by simp [Ne.symm hp]

theorem cnt_drainDials (p : Peer) (s : State) (acts : List PAction) (outs : List Bool) (q : Qid) (p' : Peer) :
    cnt (drainDials p s acts outs) q p' + (if p' = p then (drainFailed acts outs).countP (·.q == q) else 0) =
      cnt s q p' + if p' = p then acts.countP (·.q == q) else 0 := by
  have hp := (drain_perm s.nextSid acts outs).countP_eq (·.q == q)
  rw [List.countP_append] at hp
  rw [drainDials_eq]
  unfold cnt dcnt acnt fcnt
  simp only [List.countP_append, countP_newActions]
  split <;> omega

/-- `s1`: `acts` are already taken out of `dials`. -/
theorem drainDials_calm {s s1 : State} (p : Peer) (acts : List PAction) (outs : List Bool)
    (hc : ∀ q p', cnt s1 q p' + (if p' = p then acts.countP (·.q == q) else 0) = cnt s q p')
    (he : s1.engine = s.engine := by rfl) (hf : s1.futs = s.futs := by rfl)
    (hs : SameLedger s s1 := by exact .of_eq) : Calm s (drainDials p s1 acts outs) := by
  have hd := cnt_drainDials p s1 acts outs
  rw [drainDials_eq] at hd ⊢
  refine ⟨hs.trans .of_eq, he ▸ Shr.foldl _ _ (fun a ha e => .bothFail _ _ _ ?_) _, fun q p' => ?_,
    fun _ _ _ _ hx => hf ▸ hx⟩
  · have := hd a.q p
    have := hc a.q p
    have : 0 < (drainFailed acts outs).countP (·.q == a.q) := List.countP_pos_iff.mpr ⟨a, ha, by simp⟩
    simp only [if_true] at *
    omega
  · have := hd q p'
    have := hc q p'
    omega

theorem dialActions_countP (s : State) (p : Peer) (q : Qid) :
    (dialActions s p).countP (·.q == q) = dcnt s q p := by
  unfold dialActions dcnt
  rw [List.countP_map, List.countP_filter]
  apply List.countP_congr
  intro x _
  simp

theorem established_calm (s : State) (p : Peer) (outs : List Bool) : Calm s (established s p outs) := by
  unfold established onConnectionEstablished
  split
  · exact .drop
  · simp only []
    split
    · exact .drop
    · split
      · exact .drop
      · refine drainDials_calm p _ outs fun q p' => ?_
        rw [dialActions_countP]
        exact cnt_dropDials p (by rfl) (by rfl) (by rfl) q p'

theorem LInv.established {s : State} (h : LInv s) (p : Peer) (outs : List Bool) : LInv (established s p outs) :=
  h.of_calm (established_calm s p outs)

theorem cnt_move {s s' : State} (R : Peer × Sid × PAction → Bool) (x : Peer × Sid × PAction) (k : FKind)
    (hx : x ∈ s.actions) (hR : R x = true) (hd : s'.dials = s.dials)
    (ha : s'.actions = s.actions.filter (fun y => !R y)) (hf : s'.futs = s.futs ++ [⟨x.1, x.2.2.q, k⟩])
    (q : Qid) (p : Peer) : cnt s' q p ≤ cnt s q p := by
  unfold cnt dcnt acnt fcnt
  rw [hd, ha, hf, List.countP_append, List.countP_singleton]
  have hle : (s.actions.filter (fun y => !R y)).countP (fun a => a.2.2.q == q && a.1 == p) ≤
      s.actions.countP (fun a => a.2.2.q == q && a.1 == p) := (List.filter_sublist).countP_le
  split
  · rename_i hc
    have := countP_filter_not_lt s.actions (fun a => a.2.2.q == q && a.1 == p) R x hx (by simpa using hc) hR
    omega
  · omega

theorem SubOpened.calm {s s' : State} {sid : Sid} (hN : (ids s.engine).Nodup) (hs : SubOpened s sid s') :
    Calm s s' := by
  cases hs with
  | unknown => exact .drop
  | noAction => exact .drop
  | stale => exact .drop List.filter_sublist
  | @started p a k _ hact hk =>
    refine ⟨.of_eq, .refl _,
      cnt_move (fun y => y.1 == p && y.2.1 == sid) (p, sid, a) k (actionAt_some hact) (by simp) rfl rfl rfl,
      fun x' hx' hlk p0 hfut => ?_⟩
    rcases List.mem_append.mp hfut with hfut | hfut
    · exact hfut
    · -- a request/response future is started only for a lookup that wants it: `x'` is no tracker
      exfalso
      simp only [List.mem_singleton, Fut.mk.injEq] at hfut
      obtain ⟨_, hq, hkk⟩ := hfut
      obtain ⟨_, _, hnp⟩ | ⟨_, hc⟩ | ⟨_, hc⟩ := hk
      · rw [← hq, nextPeerAction_of_mem hN hx', hlk] at hnp
        cases hnp
      · cases hkk.trans hc
      · cases hkk.trans hc

theorem inbound_calm (s : State) (p : Peer) : Calm s (inbound s p) := by
  unfold inbound
  split <;> exact .drop

theorem cnt_congr {s s' : State} (hd : s'.dials = s.dials) (ha : s'.actions = s.actions) (hf : s'.futs = s.futs)
    (q : Qid) (p : Peer) : cnt s' q p = cnt s q p := by
  unfold cnt dcnt acnt fcnt
  rw [hd, ha, hf]

theorem LInv.subEngine {s s' : State} (h : LInv s) (he : ∀ x ∈ s'.engine, x ∈ s.engine)
    (hn : s.nextQid ≤ s'.nextQid) (hd : s'.dials = s.dials) (ha : s'.actions = s.actions)
    (hf : s'.futs = s.futs) : LInv s' := by
  refine ⟨?_, ?_, ?_⟩
  · intro q p hq
    rw [cnt_congr hd ha hf]
    exact h.fresh q p (Nat.le_trans hn hq)
  · intro x hx hl p
    rw [cnt_congr hd ha hf]
    exact h.one x (he x hx) hl p
  · intro x hx hl p hp
    rw [hf]
    exact h.noReq x (he x hx) hl p hp

theorem LInv.append {s : State} (h : LInv s) (x : Query) (h1 : x.st.isLookup = true → ∀ p, cnt s x.id p = 0)
    (h2 : x.st.isLookup = false → ∀ p ∈ x.st.pending, (⟨p, x.id, .reqResp⟩ : Fut) ∉ s.futs) :
    LInv { s with engine := s.engine ++ [x] } := by
  refine ⟨h.fresh, fun y hy hl p => ?_, fun y hy hl p hp => ?_⟩ <;> rcases List.mem_append.mp hy with hy | hy
  · exact h.one y hy hl p
  · obtain rfl := List.mem_singleton.mp hy
    exact Nat.le_trans (Nat.le_of_eq (h1 hl p)) (Nat.zero_le _)
  · exact h.noReq y hy hl p hp
  · obtain rfl := List.mem_singleton.mp hy
    exact h2 hl p hp

theorem LInv.command {s : State} (h : LInv s) (c : Cmd) : LInv (command s c) := by
  rcases command_eq s c with ⟨st, kind, key, quorum, e⟩ | e <;> rw [e]
  · exact (h.append ⟨s.nextQid, key, .lookup kind quorum []⟩ (fun _ p => h.fresh _ p (Nat.le_refl _))
      (fun hl => nomatch hl)).subEngine (fun _ hx => hx) (Nat.le_succ _) rfl rfl rfl
  · exact h.subEngine (fun _ hx => hx) (Nat.le_succ _) rfl rfl rfl

theorem cnt_openSub (s : State) (p : Peer) (a : PAction) (q' : Qid) (p' : Peer) :
    cnt (openSub s p a) q' p' = cnt s q' p' + if (a.q = q' ∧ p = p') then 1 else 0 := by
  unfold cnt dcnt acnt fcnt openSub
  simp only [List.countP_append, List.countP_singleton, Bool.and_eq_true, beq_iff_eq]
  omega

theorem cnt_osd (s : State) (p : Peer) (a : PAction) (o : OsdIn) (q' : Qid) (p' : Peer) :
    cnt (osd s p a o).1 q' p' = cnt s q' p' + if ((osd s p a o).2 = true ∧ a.q = q' ∧ p = p') then 1 else 0 := by
  rcases osd_cases s p a o with ⟨-, h⟩ | h | h <;> rw [h]
  · rw [cnt_openSub]
    simp
  · unfold cnt dcnt acnt fcnt
    simp only [List.countP_append, List.countP_singleton, Bool.and_eq_true, beq_iff_eq, true_and]
    omega
  · simp

/-- `open_substream_or_dial` adds at most one record, for `(a.q, p)`. -/
theorem LInv.osd {s : State} (h : LInv s) (p : Peer) (a : PAction) (o : OsdIn) (hq : a.q < s.nextQid)
    (hx : ∀ x ∈ s.engine, x.id = a.q → x.st.isLookup = true → p ∈ x.st.pending ∧ cnt s a.q p = 0) :
    LInv (Coordinator.osd s p a o).1 := by
  have hfr := osd_frame s p a o
  refine ⟨fun q' p' hq' => ?_, fun x hx1 hl p0 => ?_, fun x hx1 hl p0 hp0 => ?_⟩
  · rw [hfr.same.nextQid] at hq'
    have hne : ¬((Coordinator.osd s p a o).2 = true ∧ a.q = q' ∧ p = p') := fun hc =>
      Nat.lt_irrefl _ (Nat.lt_of_lt_of_le (hc.2.1 ▸ hq) hq')
    rw [cnt_osd, h.fresh q' p' hq', if_neg hne]
  · rw [hfr.engine] at hx1
    rw [cnt_osd]
    by_cases hc : a.q = x.id ∧ p = p0
    · obtain ⟨hid, rfl⟩ := hc
      obtain ⟨hp, h0⟩ := hx x hx1 hid.symm hl
      rw [← hid, h0, if_pos hp]
      split <;> omega
    · rw [if_neg fun hh => hc hh.2]
      exact h.one x hx1 hl p0
  · rw [hfr.futs]
    exact h.noReq x (hfr.engine ▸ hx1) hl p0 hp0

theorem LInv.fanOut {s : State} (h : LInv s) (k : AKind) (q : Qid) (ps : List Peer) (outs : List OsdIn)
    (hq : q < s.nextQid) (hx : ∀ x ∈ s.engine, x.id ≠ q) : LInv (Coordinator.fanOut k q s ps outs).1 := by
  induction ps generalizing s outs with
  | nil => exact h
  | cons p ps ih =>
    have hfr := osd_frame s p ⟨k, q⟩ (outs.headD default)
    exact ih (h.osd p ⟨k, q⟩ _ hq fun x hx1 hid => absurd hid (hx x hx1)) _ (hfr.same.nextQid ▸ hq)
      fun x hx1 => hx x (hfr.engine ▸ hx1)

theorem ite_le_ite_of_imp {a b : Prop} [Decidable a] [Decidable b] (h : a → b) :
    (if a then 1 else 0) ≤ (if b then 1 else 0 : Nat) := by
  by_cases ha : a
  · rw [if_pos ha, if_pos (h ha)]; exact Nat.le_refl _
  · rw [if_neg ha]; exact Nat.zero_le _

theorem LInv.estep {s s' : State} {outs : List OsdIn} (h : LInv s) (hL : Ledger s) (hs : EStep s outs s') :
    LInv s' := by
  cases hs with
  | @send q key kind quorum ps p hx0 hps =>
    have h0 : ∀ p0, cnt s q p0 ≤ if p0 ∈ ps then 1 else 0 := h.one _ hx0 rfl
    have hc0 : cnt s q p = 0 := by
      have := h0 p
      rw [if_neg hps] at this
      omega
    have hE : ∀ x1 ∈ updQ s.engine q (fun _ => QState.lookup kind quorum (ps ++ [p])), ∃ x ∈ s.engine, x1.id = x.id ∧
        (x.id ≠ q ∧ x1.st = x.st ∨ x.id = q ∧ x1.st = .lookup kind quorum (ps ++ [p])) :=
      fun _ hx1 => mem_updQ hx1
    -- the engine has marked `p` pending …
    have h1 : LInv { s with engine := updQ s.engine q fun _ => .lookup kind quorum (ps ++ [p]) } := by
      refine ⟨h.fresh, fun x1 hx1 hl p0 => ?_, fun x1 hx1 hl p0 hp0 => ?_⟩ <;>
        obtain ⟨x, hx, hid, hst⟩ := hE x1 hx1 <;> rw [hid]
      · rcases hst with ⟨-, hst⟩ | ⟨hxq, hst⟩
        · rw [hst]
          exact h.one x hx (hst ▸ hl) p0
        · rw [hst, hxq]
          exact Nat.le_trans (h0 p0) (ite_le_ite_of_imp fun hp => List.mem_append_left _ hp)
      · rcases hst with ⟨-, hst⟩ | ⟨-, hst⟩
        · exact h.noReq x hx (hst ▸ hl) p0 (hst ▸ hp0)
        · rw [hst] at hl
          cases hl
    -- … and `open_substream_or_dial` has run: at most one record, for `(q, p)`, is new
    have h2 := h1.osd p ⟨.findNode, q⟩ (outs.headD default) (hL.idsLt q (List.mem_map.mpr ⟨_, hx0, rfl⟩))
      fun x1 hx1 hid _ => by
        obtain ⟨x, -, hid', hst⟩ := hE x1 hx1
        rcases hst with ⟨hne, -⟩ | ⟨-, hst⟩
        · exact absurd (hid'.symm.trans hid) hne
        · rw [hst]
          exact ⟨List.mem_append_right _ List.mem_cons_self, hc0⟩
    unfold sendMessage
    split
    · exact h2
    · rename_i hok
      refine h2.preserve_env (fun q0 p0 => q0 = q ∧ p0 = p) (Shr.bothFail _ _ _ ⟨rfl, rfl⟩).shrT rfl
        (fun _ _ => Nat.le_refl _) ?_ (fun _ _ _ _ hf => hf)
      rintro _ _ ⟨rfl, rfl⟩
      exact .inr ((cnt_osd ..).trans (by rw [if_neg fun hc => hok hc.1]; exact hc0))
  | finish ok log hx hlog =>
    exact h.subEngine (fun x hx => (List.mem_filter.mp hx).1) (Nat.le_refl _) rfl rfl rfl
  | @fanOut q key kind quorum ps k isPut peers hx0 hps hk =>
    have h1 : LInv { s with engine := removeQ s.engine q } :=
      h.subEngine (fun x hx => (List.mem_filter.mp hx).1) (Nat.le_refl _) rfl rfl rfl
    have h2 := h1.fanOut k q peers outs (hL.idsLt q (List.mem_map.mpr ⟨_, hx0, rfl⟩))
      fun x hx hid => by simpa [hid] using (List.mem_filter.mp hx).2
    have hf := fanOut_frame k q { s with engine := removeQ s.engine q } peers outs
    -- tracking starts (the unreachable targets are not failed yet): the lookup had no record for a target
    refine (h2.append ⟨q, key, .tracker isPut (Tracker.new peers quorum)⟩ (fun hl => nomatch hl) fun _ p0 hp0 => ?_).preserve_env
      (fun _ _ => False) (startTracking_shr ..).2.shrT rfl (fun _ _ => Nat.le_refl _)
      (fun _ _ hc => hc.elim) (fun _ _ _ _ hf => hf)
    rw [hf.futs]
    have : cnt s q p0 ≤ if p0 ∈ ps then 1 else 0 := h.one _ hx0 rfl p0
    rw [if_neg (hps p0 (List.mem_eraseDups.mp hp0))] at this
    exact not_mem_futs_of_cnt (s := s) (Nat.le_zero.mp this) _
  | idle => exact h

structure Inv (s : State) : Prop where
  ledger : Ledger s
  aux : Aux s
  wo : WO s
  linv : LInv s
  quorum : QuorumInv s

theorem Inv.of_calm {s s' : State} (h : Inv s) (c : Calm s s') (ha : Aux s') (ht : Transfers s s') : Inv s' :=
  ⟨h.ledger.of_shr ⟨c.same, c.engine⟩, ha, h.wo.preserve_sub c.engine.sub ht, h.linv.of_calm c,
    h.quorum.of_shr ⟨c.same, c.engine⟩⟩

theorem Inv.step {s s' : State} (h : Inv s) {l : Label} (hstep : step s l = some s') : Inv s' := by
  have ⟨hL, hA, hW, hI, hQ⟩ := h
  cases l with
  | engine a outs =>
    have hs := engineStep_estep hstep
    exact ⟨hL.estep hs, (estep_inv hA hW hs).1, (estep_inv hA hW hs).2, hI.estep hL hs, hQ.estep hs⟩
  | cmd c =>
    cases hstep
    exact ⟨hL.command c, hA.command c, hW.command c, hI.command c, hQ.command c⟩
  | established p outs =>
    cases hstep
    exact h.of_calm (established_calm s p outs) (hA.established p outs) (established_transfers s p outs hA)
  | closed p =>
    cases hstep
    exact h.of_calm (closed_calm s p) (hA.closed p) (closed_transfers s p)
  | dialFailure p =>
    cases hstep
    exact h.of_calm (dialFailure_calm s p) (hA.of_sublist hA.ctxConn) (dialFailure_transfers s p)
  | subOpened sid =>
    cases hstep
    have hs := subOpened_cases s sid
    exact h.of_calm (hs.calm hL.idsNodup) (hA.subOpened hs) (subOpened_transfers hA hL.idsNodup hs)
  | subOpenFailure sid =>
    cases hstep
    exact h.of_calm (subOpenFailure_calm s sid) (hA.subOpenFailure sid) (subOpenFailure_transfers s sid hA)
  | result f r =>
    cases hstep
    rcases execResult_calm s f r with hc | ⟨hf, hc⟩
    · exact h.of_calm hc (hA.execResult f r) (execResult_transfers s f r)
    · -- the send success is registered first: the only step that needs `LInv` for `QuorumInv`
      exact ⟨(hL.congr (ids_regSendOk ..)).of_shr ⟨hc.same, hc.engine⟩, hA.execResult f r,
        hW.preserve_sub ((sub_updQ _ _ _ (sendOk_shrinks _)).trans hc.engine.sub) (execResult_transfers s f r), (hI.sendOk ..).of_calm hc,
        (hQ.sendOk hI.noReq hf).of_shr ⟨hc.same, hc.engine⟩⟩
  | inbound p =>
    cases hstep
    exact h.of_calm (inbound_calm s p) (hA.inbound p) (.of_le (inbound_le s p))
  | inboundFailed p =>
    cases hstep
    exact h.of_calm (.disconnectPeer (fun _ _ => Nat.le_refl _) (fun _ hq => nomatch hq) (fun _ hf => hf))
      (hA.disconnectPeer p none) (disconnectPeer_transfers s p none _ _ fun _ h _ => h)
  | setStored keys =>
    cases hstep
    exact h.of_calm .drop (hA.of_sublist hA.ctxConn) (.of_le (by owners_le))

theorem Inv.reachable {s : State} (h : Reachable s) : Inv s := by
  induction h with
  | init =>
    exact ⟨Ledger.init, Aux.init, fun x hx => absurd hx List.not_mem_nil, LInv.init,
      fun _ hx => absurd hx List.not_mem_nil, fun _ hr => absurd hr List.not_mem_nil⟩
  | step l _ hstep ih => exact ih.step hstep

theorem Ledger.reachable {s : State} (h : Reachable s) : Ledger s := (Inv.reachable h).ledger

theorem LInv.reachable {s : State} (h : Reachable s) : LInv s := (Inv.reachable h).linv

/-- What a tracker counted is backed by send-success results of PUT_VALUE / ADD_PROVIDER futures. -/
theorem QuorumInv.reachable {s : State} (h : Reachable s) : QuorumInv s := (Inv.reachable h).quorum

theorem waitingOwned_reachable {s : State} (h : Reachable s) : WaitingOwned s := (WO_iff s).mpr (Inv.reachable h).wo

/-- The `Entry::Occupied` branch of `on_connection_established` ("connection already exists, discarding opening
substreams") is unreachable: `ConnectionEstablished` is only reported for a peer without connection, and such a
peer has no context in `peers`. -/
theorem occupied_unreachable {s : State} (h : Reachable s) (p : Peer) (hp : p ∉ s.connected) : p ∉ s.ctx :=
  fun hc => hp ((Inv.reachable h).aux.ctxConn p hc)

end Litep2pVerif.Kad.Coordinator
