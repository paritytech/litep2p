import Litep2pVerif.Proofs.Kad.FindNode
import Litep2pVerif.Proofs.Kad.LookupSim
/-!
# `QueryEngine`: every active query is stored under the id its context carries (`KeyOk`) (C15)

The context operations keep that id and their actions carry it (`typeNext_query` and its siblings), so one visit of
`next_action` acts on the visited id alone (`nextAction_visit`). What a whole operation does to one id is in
`Proofs/Kad/EngineLookup.lean`.
-/
namespace Litep2pVerif.Kad.Query

def QAction.query : QAction → Nat
  | .send q _ => q
  | .succeeded q => q
  | .failed q => q
  | .partialRecord q _ _ => q

/-- The id stored inside the context of a query. -/
def QueryType.query : QueryType → Nat
  | .findNode c => c.query
  | .putRecord _ _ c => c.query
  | .putRecordToPeers _ _ c => c.query
  | .putRecordToFoundNodes c => c.query
  | .getRecord c => c.query
  | .addProvider _ _ _ c => c.query
  | .addProviderToFoundNodes c => c.query
  | .getProviders c => c.query

def keys (l : List (Nat × QueryType)) : List Nat := l.map (·.1)

def KeyOk (e : Engine) : Prop := ∀ x ∈ e.queries, x.2.query = x.1

theorem discount_query (s : FindNode) (p : Nat) : (s.discount p).query = s.query := by
  obtain ⟨_, _, h⟩ := discount_eq s p
  rw [h]

theorem FindNode.fail_query (s : FindNode) (p : Nat) : (s.registerResponseFailure p).query = s.query := by
  unfold FindNode.registerResponseFailure
  split
  · rfl
  · exact discount_query _ _

theorem FindNode.resp_query (s : FindNode) (p : Nat) (ps : List KPeer) :
    (s.registerResponse p ps).query = s.query := by
  unfold FindNode.registerResponse
  split
  · rfl
  · exact discount_query _ _

theorem FindNode.schedule_query (s : FindNode) (now : Nat) :
    (s.scheduleNextPeer now).1.query = s.query ∧
    ∀ a, (s.scheduleNextPeer now).2 = some a → a.query = s.query := by
  unfold FindNode.scheduleNextPeer
  split
  · exact ⟨rfl, nofun⟩
  · exact ⟨rfl, fun a h => by cases h; rfl⟩

theorem FindNode.next_query (s : FindNode) (now : Nat) :
    (s.nextAction now).1.query = s.query ∧
    ∀ a, (s.nextAction now).2 = some a → a.query = s.query := by
  unfold FindNode.nextAction
  split
  · exact ⟨rfl, fun a h => by cases h; split <;> rfl⟩
  · obtain ⟨to, pr, hm⟩ := markTimeouts_eq s now
    rw [hm]
    have hs := FindNode.schedule_query { s with timedOut := to, pendingResponses := pr } now
    unfold FindNode.decide
    split
    · exact ⟨rfl, nofun⟩
    · split
      · exact hs
      · split
        · split
          · exact hs
          · exact ⟨rfl, fun a h => by cases h; rfl⟩
        · exact ⟨rfl, fun a h => by cases h; rfl⟩

theorem GetRecord.fail_query (s : GetRecord) (p : Nat) : (s.registerResponseFailure p).query = s.query := by
  unfold GetRecord.registerResponseFailure
  split <;> rfl

theorem GetRecord.resp_query (s : GetRecord) (p : Nat) (r : Option (Nat × Bool)) (ps : List KPeer) :
    (s.registerResponse p r ps).query = s.query := by
  unfold GetRecord.registerResponse
  split <;> rfl

theorem GetRecord.next_query (s : GetRecord) :
    s.nextAction.1.query = s.query ∧ ∀ a, s.nextAction.2 = some a → a.query = s.query := by
  have h := s.nextAction_next
  generalize s.nextAction = r at h ⊢
  cases h with
  | done => exact ⟨rfl, fun a h => by cases h; split <;> rfl⟩
  | wait => exact ⟨rfl, nofun⟩
  | _ => exact ⟨rfl, fun a h => by cases h; rfl⟩

theorem GetProviders.fail_query (s : GetProviders) (p : Nat) :
    (s.registerResponseFailure p).query = s.query := by
  unfold GetProviders.registerResponseFailure
  split <;> rfl

theorem GetProviders.resp_query (s : GetProviders) (p : Nat) (r : List Prov) (ps : List KPeer) :
    (s.registerResponse p r ps).query = s.query := by
  unfold GetProviders.registerResponse
  split <;> rfl

theorem GetProviders.next_query (s : GetProviders) :
    s.nextAction.1.query = s.query ∧ ∀ a, s.nextAction.2 = some a → a.query = s.query := by
  have h := s.nextAction_next
  generalize s.nextAction = r at h ⊢
  cases h with
  | done => exact ⟨rfl, fun a h => by cases h; split <;> rfl⟩
  | wait => exact ⟨rfl, nofun⟩
  | send => exact ⟨rfl, fun a h => by cases h; rfl⟩

theorem PutTarget.next_query (s : PutTarget) : ∀ a, s.nextAction = some a → a.query = s.query := by
  intro a h
  unfold PutTarget.nextAction at h
  split at h
  · split at h <;> cases h <;> rfl
  · cases h

theorem PutTarget.sendOk_query (s : PutTarget) (p : Nat) : (s.registerSendSuccess p).query = s.query := by
  unfold PutTarget.registerSendSuccess; split <;> rfl

theorem PutTarget.sendFail_query (s : PutTarget) (p : Nat) : (s.registerSendFailure p).query = s.query := by
  unfold PutTarget.registerSendFailure; split <;> rfl

theorem failType_query (p : Nat) (t : QueryType) : (Engine.failType p t).query = t.query := by
  cases t <;> simp [Engine.failType, QueryType.query, FindNode.fail_query, GetRecord.fail_query,
    GetProviders.fail_query]

theorem respType_query (p : Nat) (m : Msg) (t : QueryType) : (Engine.respType p m t).query = t.query := by
  cases t with
  | findNode c | putRecord _ _ c | addProvider _ _ _ c =>
    cases m with
    | findNode peers => exact c.resp_query p peers
    | _ => exact c.fail_query p
  | getRecord c =>
    cases m with
    | getRecord r peers => exact c.resp_query p r peers
    | _ => exact c.fail_query p
  | getProviders c =>
    cases m with
    | getProviders pr peers => exact c.resp_query p pr peers
    | _ => exact c.fail_query p
  | _ => rfl

theorem sendFailType_query (p : Nat) (t : QueryType) : (Engine.sendFailType p t).query = t.query := by
  cases t <;> simp [Engine.sendFailType, QueryType.query, PutTarget.sendFail_query]

theorem sendOkType_query (p : Nat) (t : QueryType) : (Engine.sendOkType p t).query = t.query := by
  cases t <;> simp [Engine.sendOkType, QueryType.query, PutTarget.sendOk_query]

theorem typeNext_query (now : Nat) (t : QueryType) :
    (Engine.typeNext now t).1.query = t.query ∧
    ∀ a, (Engine.typeNext now t).2 = some a → a.query = t.query := by
  cases t with
  | findNode c | putRecord _ _ c | addProvider _ _ _ c => exact FindNode.next_query c now
  | putRecordToPeers r qu c =>
    exact ⟨rfl, fun a h => by simp [Engine.typeNext, FindMany.nextAction] at h; subst h; rfl⟩
  | putRecordToFoundNodes c | addProviderToFoundNodes c => exact ⟨rfl, PutTarget.next_query c⟩
  | getRecord c => exact GetRecord.next_query c
  | getProviders c => exact GetProviders.next_query c

theorem qLookup_some {q : Nat} {l : List (Nat × QueryType)} {t : QueryType} (h : qLookup q l = some t) :
    (q, t) ∈ l := by
  fun_induction qLookup q l <;> simp_all
  rename_i x xs hx
  left; rw [← hx, ← h]

theorem qLookup_eq_none_iff {q : Nat} {l : List (Nat × QueryType)} : qLookup q l = none ↔ q ∉ keys l := by
  induction l with
  | nil => simp [qLookup, keys]
  | cons x xs ih =>
    simp only [qLookup, keys, List.map_cons, List.mem_cons, eq_comm (a := q)] at ih ⊢
    split <;> simp [*]

theorem keys_qSet (q : Nat) (t : QueryType) (l : List (Nat × QueryType)) : keys (qSet q t l) = keys l := by
  fun_induction qSet q t l <;> simp_all [keys]

theorem mem_qSet {q : Nat} {t : QueryType} {l : List (Nat × QueryType)} {x : Nat × QueryType}
    (h : x ∈ qSet q t l) : x = (q, t) ∨ x ∈ l := by
  fun_induction qSet q t l <;> simp_all <;> grind

theorem mem_keys_qErase {q q' : Nat} {l : List (Nat × QueryType)} :
    q' ∈ keys (qErase q l) ↔ q' ∈ keys l ∧ q' ≠ q := by
  unfold keys qErase
  simp only [List.mem_map, List.mem_filter, ne_eq, decide_eq_true_eq]
  constructor
  · rintro ⟨x, ⟨hx, hne⟩, rfl⟩; exact ⟨⟨x, hx, rfl⟩, hne⟩
  · rintro ⟨⟨x, hx, rfl⟩, hne⟩; exact ⟨x, ⟨hx, hne⟩, rfl⟩

theorem qLookup_qSet (q q' : Nat) (t : QueryType) (l : List (Nat × QueryType)) :
    qLookup q (qSet q' t l) = if q = q' then (qLookup q l).map fun _ => t else qLookup q l := by
  induction l with
  | nil => simp [qSet, qLookup]
  | cons x xs ih =>
    simp only [qSet, qLookup]
    by_cases hx : x.1 = q'
    · simp only [hx, if_true, qLookup, eq_comm (a := q)]
      split <;> rfl
    · simp only [hx, if_false, qLookup, ih]
      by_cases hq : q = q'
      · subst hq
        simp only [if_true, if_neg hx]
      · simp only [hq, if_false]

theorem qLookup_qSet_same {q : Nat} {t t0 : QueryType} {l : List (Nat × QueryType)}
    (h : qLookup q l = some t0) : qLookup q (qSet q t l) = some t := by
  rw [qLookup_qSet, if_pos rfl, h]
  rfl

theorem qLookup_qErase (q q' : Nat) (l : List (Nat × QueryType)) :
    qLookup q (qErase q' l) = if q = q' then none else qLookup q l := by
  induction l with
  | nil => simp [qErase, qLookup]
  | cons x xs ih =>
    simp only [qErase, List.filter_cons, qLookup] at ih ⊢
    by_cases hx : x.1 = q'
    · simp only [hx, ne_eq, not_true_eq_false, decide_false, Bool.false_eq_true, if_false, ih,
        eq_comm (a := q)]
      split <;> rfl
    · simp only [hx, ne_eq, not_false_eq_true, decide_true, if_true, qLookup, ih]
      by_cases hq : q = q'
      · subst hq
        simp only [if_true, if_neg hx]
      · simp only [hq, if_false]

theorem qLookup_qErase_same (q : Nat) (l : List (Nat × QueryType)) : qLookup q (qErase q l) = none := by
  rw [qLookup_qErase, if_pos rfl]

theorem qLookup_qInsert_ne {q q' : Nat} {t : QueryType} {l : List (Nat × QueryType)} (hne : q ≠ q') :
    qLookup q (qInsert q' t l) = qLookup q l := by
  have h1 : ¬ q' = q := fun e => hne e.symm
  simp only [qInsert, qLookup, h1, if_false]
  rw [qLookup_qErase, if_neg hne]

theorem qLookup_qInsert_same (q : Nat) (t : QueryType) (l : List (Nat × QueryType)) :
    qLookup q (qInsert q t l) = some t := by
  simp [qInsert, qLookup]

theorem KeyOk.set {e : Engine} (h : KeyOk e) (q : Nat) (t : QueryType) (ht : t.query = q) :
    KeyOk { e with queries := qSet q t e.queries } := by
  intro x hx
  rcases mem_qSet hx with hx | hx
  · subst hx; exact ht
  · exact h x hx

theorem KeyOk.erase {e : Engine} (h : KeyOk e) (q : Nat) : KeyOk { e with queries := qErase q e.queries } :=
  fun x hx => h x (List.mem_filter.1 hx).1

theorem KeyOk.insert {e : Engine} (h : KeyOk e) (q : Nat) (t : QueryType) (ht : t.query = q) :
    KeyOk { e with queries := qInsert q t e.queries } := by
  intro x hx
  rcases List.mem_cons.1 hx with hx | hx
  · subst hx; exact ht
  · exact h x (List.mem_filter.1 hx).1

theorem successAction_query {q : Nat} {t : QueryType} (hk : t.query = q) :
    (Engine.successAction q t).query = q := by
  cases t <;> simp [Engine.successAction, EAction.query, QueryType.query] at hk ⊢ <;> exact hk

/-- `hk`: the id an action carries is the id the query is stored under. -/
theorem nextAction_visit {e : Engine} (hk : KeyOk e) (now q : Nat) (rest : List Nat) {t : QueryType}
    (hl : qLookup q e.queries = some t) :
    e.nextAction now (q :: rest) =
      match (Engine.typeNext now t).2 with
      | none => Engine.nextAction { e with queries := qSet q (Engine.typeNext now t).1 e.queries } now rest
      | some (.send _ p) =>
        ({ e with queries := qSet q (Engine.typeNext now t).1 e.queries }, .act (.send q p))
      | some (.partialRecord _ p v) =>
        ({ e with queries := qSet q (Engine.typeNext now t).1 e.queries }, .act (.partialRecord q p v))
      | some (.succeeded _) =>
        ({ e with queries := qErase q (qSet q (Engine.typeNext now t).1 e.queries) },
          .act (Engine.successAction q (Engine.typeNext now t).1))
      | some (.failed _) =>
        ({ e with queries := qErase q (qSet q (Engine.typeNext now t).1 e.queries) }, .act (.failed q)) := by
  have hkey : t.query = q := hk _ (qLookup_some hl)
  have hl1 := qLookup_qSet_same (t := (Engine.typeNext now t).1) hl
  simp only [Engine.nextAction, hl]
  cases ha : (Engine.typeNext now t).2 with
  | none => rfl
  | some a =>
    have hq := ((typeNext_query now t).2 a ha).trans hkey
    cases a with
    | send q' p => obtain rfl : q' = q := hq; rfl
    | partialRecord q' p v => obtain rfl : q' = q := hq; rfl
    | succeeded q' => obtain rfl : q' = q := hq; simp only [Engine.onQuerySucceeded, hl1]
    | failed q' => obtain rfl : q' = q := hq; simp only [Engine.onQueryFailed, hl1]

/-- The shape of `register_response` and its siblings. -/
def Engine.update (e : Engine) (q : Nat) (f : QueryType → QueryType) : Engine :=
  match qLookup q e.queries with
  | none => e
  | some t => { e with queries := qSet q (f t) e.queries }

theorem qLookup_update (e : Engine) (q q' : Nat) (f : QueryType → QueryType) :
    qLookup q (e.update q' f).queries =
      if q' = q then (qLookup q e.queries).map f else qLookup q e.queries := by
  unfold Engine.update
  by_cases hq : q' = q
  · subst hq
    cases hl : qLookup q' e.queries with
    | none => simp [hl]
    | some t => simp [qLookup_qSet_same hl]
  · simp only [hq, if_false]
    split
    · rfl
    · rw [qLookup_qSet, if_neg fun e => hq e.symm]

theorem qSet_qSet (q : Nat) (t t' : QueryType) (l : List (Nat × QueryType)) :
    qSet q t' (qSet q t l) = qSet q t' l := by
  fun_induction qSet q t l <;> simp_all [qSet]

theorem update_update (e : Engine) (q : Nat) (f g : QueryType → QueryType) :
    (e.update q f).update q g = e.update q (g ∘ f) := by
  unfold Engine.update
  cases hl : qLookup q e.queries with
  | none => simp only [hl]
  | some t => simp only [qLookup_qSet_same hl, qSet_qSet, Function.comp]

theorem step_start {e : Engine} {op : EOp} {q : Nat} (h : op.starts = some q) :
    ∃ t, t.query = q ∧ e.step op = ({ e with queries := qInsert q t e.queries }, .none) := by
  cases op <;> simp only [EOp.starts, Option.some.injEq, reduceCtorEq] at h <;> subst h <;>
    exact ⟨_, rfl, rfl⟩

end Litep2pVerif.Kad.Query
