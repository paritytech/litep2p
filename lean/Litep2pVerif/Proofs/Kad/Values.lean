import Litep2pVerif.Proofs.Kad.LookupSim
/-!
# Value and provider lookups: records and providers are reported once, the quorum stops the lookup,
at most `parallelism` requests are in flight, the measure that also counts partial results, "no
stall", and what a terminal action implies (C15)
-/
namespace Litep2pVerif.Kad.Query

theorem GetRecord.step_cfg (s : GetRecord) (e : GREv) :
    (s.step e).1.knownRecords = s.knownRecords ∧ (s.step e).1.quorum = s.quorum ∧
    (s.step e).1.repl = s.repl ∧ (s.step e).1.par = s.par ∧
    s.foundRecords ≤ (s.step e).1.foundRecords ∧
    (s.pending.length ≤ s.par → (s.step e).1.pending.length ≤ s.par) := by
  cases e with
  | next =>
    have h := s.nextAction_next
    simp only [GetRecord.step]
    generalize s.nextAction = r at h ⊢
    cases h with
    | send _ _ hpar k c =>
      refine ⟨rfl, rfl, rfl, rfl, Nat.le_refl _, fun h => ?_⟩
      have := kpErase_length_le c.peer s.pending
      simp only [List.length_cons]
      omega
    | _ => exact ⟨rfl, rfl, rfl, rfl, Nat.le_refl _, id⟩
  | resp p r peers =>
    simp only [GetRecord.step]
    unfold GetRecord.registerResponse
    split
    · exact ⟨rfl, rfl, rfl, rfl, Nat.le_refl _, id⟩
    · refine ⟨rfl, rfl, rfl, rfl, ?_, Nat.le_trans (kpErase_length_le p s.pending)⟩
      simp only
      split <;> omega
  | fail p =>
    simp only [GetRecord.step]
    unfold GetRecord.registerResponseFailure
    split
    · exact ⟨rfl, rfl, rfl, rfl, Nat.le_refl _, id⟩
    · exact ⟨rfl, rfl, rfl, rfl, Nat.le_refl _, Nat.le_trans (kpErase_length_le p s.pending)⟩

theorem GetRecord.sufficient_mono (s s' : GetRecord) (h1 : s'.knownRecords = s.knownRecords)
    (h2 : s'.quorum = s.quorum) (h3 : s'.repl = s.repl) {n n' : Nat} (hn : n ≤ n')
    (h : s.sufficient n = true) : s'.sufficient n' = true := by
  unfold GetRecord.sufficient at h ⊢
  rw [h1, h2, h3]
  cases hq : s.quorum <;> simp only [hq, decide_eq_true_eq] at h ⊢ <;> omega

theorem GetRecord.no_send_when_sufficient (s : GetRecord) (hs : s.sufficient s.foundRecords = true) :
    sendOf s.nextAction.2 = none := by
  have h := s.nextAction_next
  generalize s.nextAction = r at h ⊢
  cases h with
  | send _ hns => exact absurd hs hns
  | done => split <;> rfl
  | _ => rfl

theorem GetRecord.run_no_send (evs : List GREv) : ∀ (s : GetRecord),
    s.sufficient s.foundRecords = true → sentPeers (s.run evs).2 = [] := by
  induction evs with
  | nil => intro s _; rfl
  | cons e es ih =>
    intro s h
    obtain ⟨c1, c2, c3, _, c5, _⟩ := s.step_cfg e
    have hns : sendOf (s.step e).2 = none := by
      cases e with
      | next => exact s.no_send_when_sufficient h
      | _ => rfl
    rw [GetRecord.run_eq, runG_sent, hns, ← GetRecord.run_eq]
    exact ih _ (GetRecord.sufficient_mono s _ c1 c2 c3 c5 h)

def outRec : Option QAction → List (Nat × Nat)
  | some (.partialRecord _ p v) => [(p, v)]
  | _ => []

theorem GetRecord.next_records (s : GetRecord) :
    outRec s.nextAction.2 ++ s.nextAction.1.records = s.records := by
  have h := s.nextAction_next
  generalize s.nextAction = r at h ⊢
  cases h with
  | report p v rest hr => exact hr.symm
  | done => split <;> rfl
  | _ => rfl

theorem GetRecord.step_records (s : GetRecord) (e : GREv) :
    outRec (s.step e).2 ++ (s.step e).1.records = s.records ++ s.received [e] := by
  cases e with
  | next => simp only [GetRecord.step, GetRecord.received, List.append_nil]; exact s.next_records
  | fail p =>
    simp only [GetRecord.step, GetRecord.received, List.append_nil, outRec, List.nil_append]
    unfold GetRecord.registerResponseFailure
    split <;> rfl
  | resp p r peers =>
    simp only [GetRecord.step, outRec, List.nil_append]
    unfold GetRecord.registerResponse
    split
    · rename_i hl
      cases r with
      | none => simp [GetRecord.received]
      | some rv => obtain ⟨v, b⟩ := rv; cases b <;> simp [GetRecord.received, hl]
    · rename_i kp hl
      have hkp := kpLookup_peer hl
      cases r with
      | none => simp [GetRecord.received]
      | some rv =>
        obtain ⟨v, b⟩ := rv
        cases b
        · simp [GetRecord.received, hl, hkp]
        · simp [GetRecord.received]

theorem GetRecord.received_cons (s : GetRecord) (e : GREv) (es : List GREv) :
    s.received (e :: es) = s.received [e] ++ (s.step e).1.received es := by
  cases e with
  | next => simp [GetRecord.received]
  | fail p => simp [GetRecord.received]
  | resp p r peers =>
    cases r with
    | none => simp [GetRecord.received]
    | some rv =>
      obtain ⟨v, b⟩ := rv
      cases b
      · simp only [GetRecord.received]; split <;> simp
      · simp [GetRecord.received]

theorem reportedRecords_cons (a : QAction) (as : List QAction) :
    reportedRecords (a :: as) = outRec (some a) ++ reportedRecords as := by
  cases a <;> simp [reportedRecords, outRec]

theorem GetRecord.run_records (evs : List GREv) : ∀ (s : GetRecord),
    reportedRecords (s.run evs).2 ++ (s.run evs).1.records = s.records ++ s.received evs := by
  induction evs with
  | nil => intro s; simp [GetRecord.run, reportedRecords, GetRecord.received]
  | cons e es ih =>
    intro s
    have hstep := s.step_records e
    have ih' := ih (s.step e).1
    rw [s.received_cons, ← List.append_assoc, ← hstep, List.append_assoc, ← ih', ← List.append_assoc]
    simp only [GetRecord.run]
    split
    · rename_i a ha
      rw [ha, reportedRecords_cons]
    · rename_i ha
      rw [ha]; simp [outRec]

theorem GetRecord.terminal_drained (s : GetRecord) (q : Nat)
    (h : s.nextAction.2 = some (.succeeded q) ∨ s.nextAction.2 = some (.failed q)) : s.records = [] := by
  have hn := s.nextAction_next
  generalize s.nextAction = r at hn h
  cases hn with
  | report => simp at h
  | _ => assumption

theorem GetRecord.step_pending_le {P : Nat} (s : GetRecord) (e : GREv) (h : s.pending.length ≤ s.par ∧ s.par = P) :
    (s.step e).1.pending.length ≤ (s.step e).1.par ∧ (s.step e).1.par = P := by
  obtain ⟨_, _, _, hp, _, hl⟩ := s.step_cfg e
  rw [hp]
  exact ⟨hl h.1, h.2⟩

theorem GetRecord.run_pending_le (evs : List GREv) (s : GetRecord) (h : s.pending.length ≤ s.par) :
    (s.run evs).1.pending.length ≤ s.par ∧ (s.run evs).1.par = s.par := by
  have := runG_inv (P := fun s' => s'.pending.length ≤ s'.par ∧ s'.par = s.par) GetRecord.step_pending_le evs s
    ⟨h, rfl⟩
  rw [GetRecord.run_eq]
  exact ⟨this.2 ▸ this.1, this.2⟩

theorem GetProviders.step_pending_le {P : Nat} (s : GetProviders) (e : GPEv)
    (h : s.pending.length ≤ s.par ∧ s.par = P) :
    (s.step e).1.pending.length ≤ (s.step e).1.par ∧ (s.step e).1.par = P := by
  obtain ⟨h, rfl⟩ := h
  cases e with
  | next =>
    have hn := s.nextAction_next
    simp only [GetProviders.step]
    generalize s.nextAction = r at hn ⊢
    cases hn with
    | send hpar k c =>
      have := kpErase_length_le c.peer s.pending
      simp only [List.length_cons, and_true]
      omega
    | _ => exact ⟨h, rfl⟩
  | resp p _ _ | fail p =>
    simp only [GetProviders.step, GetProviders.registerResponse, GetProviders.registerResponseFailure]
    split
    · exact ⟨h, rfl⟩
    · exact ⟨Nat.le_trans (kpErase_length_le p s.pending) h, rfl⟩

theorem GetProviders.run_pending_le (evs : List GPEv) (s : GetProviders) (h : s.pending.length ≤ s.par) :
    (s.run evs).1.pending.length ≤ s.par ∧ (s.run evs).1.par = s.par := by
  have := runG_inv (P := fun s' => s'.pending.length ≤ s'.par ∧ s'.par = s.par) GetProviders.step_pending_le evs s
    ⟨h, rfl⟩
  rw [GetProviders.run_eq]
  exact ⟨this.2 ▸ this.1, this.2⟩

theorem mergeProv_peers (p : Prov) (acc : List Prov) :
    (mergeProv p acc).map (·.peer) =
      if p.peer ∈ acc.map (·.peer) then acc.map (·.peer) else acc.map (·.peer) ++ [p.peer] := by
  induction acc with
  | nil => simp [mergeProv]
  | cons q qs ih =>
    simp only [mergeProv]
    split
    · rename_i hq; simp [hq]
    · rename_i hq
      simp only [List.map_cons, ih, List.mem_cons]
      have : ¬ p.peer = q.peer := fun e => hq e.symm
      by_cases hm : p.peer ∈ qs.map (·.peer)
      · simp [hm]
      · simp [hm, this]

theorem foldl_mergeProv_peers (ps : List Prov) : ∀ (acc : List Prov), (acc.map (·.peer)).Nodup →
    ((ps.foldl (fun acc p => mergeProv p acc) acc).map (·.peer)).Nodup ∧
    ∀ x, x ∈ (ps.foldl (fun acc p => mergeProv p acc) acc).map (·.peer) ↔
      x ∈ acc.map (·.peer) ∨ x ∈ ps.map (·.peer) := by
  induction ps with
  | nil => intro acc h; exact ⟨h, fun x => by simp⟩
  | cons p ps ih =>
    intro acc h
    simp only [List.foldl_cons]
    have hp := mergeProv_peers p acc
    split at hp
    · rename_i hm
      obtain ⟨i1, i2⟩ := ih _ (hp ▸ h)
      refine ⟨i1, fun x => ?_⟩
      rw [i2 x, hp, List.map_cons, List.mem_cons]
      constructor
      · exact fun h => h.imp_right Or.inr
      · rintro (h | h | h)
        · exact Or.inl h
        · exact Or.inl (h ▸ hm)
        · exact Or.inr h
    · rename_i hm
      have hn : ((mergeProv p acc).map (·.peer)).Nodup := by
        rw [hp]
        exact List.nodup_append.2 ⟨h, by simp, fun a ha b hb e => hm (List.mem_singleton.1 hb ▸ e ▸ ha)⟩
      obtain ⟨i1, i2⟩ := ih _ hn
      refine ⟨i1, fun x => ?_⟩
      rw [i2 x, hp, List.mem_append, List.mem_singleton, List.map_cons, List.mem_cons, or_assoc]

theorem provSortInsert_perm (p : Prov) (l : List Prov) : (provSortInsert p l).Perm (p :: l) := by
  induction l with
  | nil => exact List.Perm.refl _
  | cons q qs ih =>
    simp only [provSortInsert]
    split
    · exact List.Perm.refl _
    · exact ((List.Perm.cons q ih).trans (List.Perm.swap p q qs))

theorem foldr_provSortInsert_perm (l : List Prov) : (l.foldr provSortInsert []).Perm l := by
  induction l with
  | nil => exact List.Perm.refl _
  | cons q qs ih =>
    simp only [List.foldr_cons]
    exact (provSortInsert_perm q _).trans (List.Perm.cons q ih)

theorem provSortInsert_sorted (p : Prov) (l : List Prov) (h : l.Pairwise (fun a b => a.dist ≤ b.dist)) :
    (provSortInsert p l).Pairwise (fun a b => a.dist ≤ b.dist) := by
  induction l with
  | nil => simp [provSortInsert]
  | cons q qs ih =>
    have hc := List.pairwise_cons.1 h
    simp only [provSortInsert]
    split
    · rename_i hlt
      refine List.pairwise_cons.2 ⟨?_, h⟩
      intro b hb
      rcases List.mem_cons.1 hb with hb | hb
      · subst hb; omega
      · have := hc.1 b hb; omega
    · rename_i hge
      refine List.pairwise_cons.2 ⟨?_, ih hc.2⟩
      intro b hb
      rcases List.mem_cons.1 ((provSortInsert_perm p qs).subset hb) with hb | hb
      · subst hb; omega
      · exact hc.1 b hb

theorem foldr_provSortInsert_sorted (l : List Prov) :
    (l.foldr provSortInsert []).Pairwise (fun a b => a.dist ≤ b.dist) := by
  induction l with
  | nil => simp
  | cons q qs ih => exact provSortInsert_sorted q _ ih

theorem mergeAndSort_spec (ps : List Prov) :
    ((mergeAndSortProviders ps).map (·.peer)).Nodup ∧
    (∀ x, x ∈ (mergeAndSortProviders ps).map (·.peer) ↔ x ∈ ps.map (·.peer)) ∧
    (mergeAndSortProviders ps).Pairwise (fun a b => a.dist ≤ b.dist) := by
  unfold mergeAndSortProviders
  obtain ⟨h1, h2⟩ := foldl_mergeProv_peers ps [] (by simp)
  have hp := (foldr_provSortInsert_perm (ps.foldl (fun acc p => mergeProv p acc) [])).map (·.peer)
  refine ⟨hp.nodup_iff.2 h1, fun x => ?_, foldr_provSortInsert_sorted _⟩
  rw [hp.mem_iff, h2 x]
  simp

theorem GetRecord.run_localPeer_view (s : GetRecord) : s.view.l = s.localPeer := rfl

theorem GetRecord.next_ne_none (s : GetRecord) (hp : s.pending = []) (ha : 1 ≤ s.par) :
    s.nextAction.2 ≠ none := by
  have h := s.nextAction_next
  generalize s.nextAction = r at h ⊢
  cases h with
  | wait _ hw => exact absurd hp (hw ha)
  | _ => nofun

theorem GetRecord.received_single (s : GetRecord) (e : GREv) :
    (s.received [e]).length ≤ if s.moved e then 1 else 0 := by
  unfold GetRecord.received
  split
  · simp only [GetRecord.moved]; split <;> simp [GetRecord.received, *]
  · exact Nat.zero_le _

/-- One step of a value lookup against the measure `3·never contacted + 2·in flight + queued
records`. -/
theorem GetRecord.step_w3 {d U} (s : GetRecord) (e : GREv) (hok : e.ok d U) (hfr : s.view.Fr d U) :
    (s.step e).1.view.w3 U + (s.step e).1.records.length + (if s.productive e then 1 else 0) ≤
      s.view.w3 U + s.records.length := by
  have hw := ((GetRecord.sim d U s e hok).spec hfr).2.2.2.2.1
  have hr := congrArg List.length (s.step_records e)
  have hm := s.received_single e
  cases e with
  | next =>
    simp only [GetRecord.step, GetRecord.moved, GetRecord.productive, GetRecord.received,
      List.length_append, List.length_nil, Nat.add_zero] at hw hr ⊢
    obtain ⟨o, hout⟩ : ∃ o, s.nextAction.2 = o := ⟨_, rfl⟩
    simp only [hout] at hw hr ⊢
    cases o with
    | none => simp [isSend, isPartial, outRec] at hw hr ⊢; omega
    | some a =>
      cases a <;> simp [isSend, isPartial, sendOf, outRec] at hw hr ⊢ <;> omega
  | resp p r peers | fail p =>
    simp only [GetRecord.step, GetRecord.moved, GetRecord.productive, sendOf, outRec, List.nil_append,
      List.length_append, Option.isSome_none] at hw hr hm ⊢
    by_cases hl : (kpLookup p s.pending).isSome = true <;>
      simp only [hl, Bool.false_eq_true, ↓reduceIte] at hw hm ⊢ <;> omega

theorem GetRecord.run_w3 {d U} (evs : List GREv) : ∀ (s : GetRecord), s.view.Fr d U →
    (∀ e ∈ evs, e.ok d U) →
    (s.run evs).1.view.w3 U + (s.run evs).1.records.length + s.productiveCount evs ≤
      s.view.w3 U + s.records.length := by
  induction evs with
  | nil => intro s _ _; simp [GetRecord.run, GetRecord.productiveCount]
  | cons e es ih =>
    intro s hfr hok
    have he := hok e (List.mem_cons_self ..)
    have h1 := s.step_w3 e he hfr
    have hfr' := ((GetRecord.sim d U s e he).spec hfr).1
    have h2 := ih (s.step e).1 hfr' (fun x hx => hok x (List.mem_cons_of_mem _ hx))
    rw [GetRecord.run_eq, runG_fst, ← GetRecord.run_eq]
    simp only [GetRecord.productiveCount]
    omega

theorem GetRecord.terminal_means (s : GetRecord) (q : Nat) :
    (s.nextAction.2 = some (.succeeded q) →
      s.sufficient s.foundRecords = true ∨ (s.pending = [] ∧ s.candidates = [])) ∧
    (s.nextAction.2 = some (.failed q) → s.pending = [] ∧ s.candidates = []) := by
  have h := s.nextAction_next
  generalize s.nextAction = r at h ⊢
  cases h with
  | done _ hp hc => exact ⟨fun _ => Or.inr ⟨hp, hc⟩, fun _ => ⟨hp, hc⟩⟩
  | quorum _ hs => exact ⟨fun _ => Or.inl hs, nofun⟩
  | _ => exact ⟨nofun, nofun⟩

theorem GetProviders.next_ne_none (s : GetProviders) (hp : s.pending = []) (ha : 1 ≤ s.par) :
    s.nextAction.2 ≠ none := by
  have h := s.nextAction_next
  generalize s.nextAction = r at h ⊢
  cases h with
  | wait hw => exact absurd hp (hw ha)
  | _ => nofun

theorem GetProviders.terminal_means (s : GetProviders) (q : Nat)
    (h : s.nextAction.2 = some (.succeeded q) ∨ s.nextAction.2 = some (.failed q)) :
    s.pending = [] ∧ s.candidates = [] := by
  have hn := s.nextAction_next
  generalize s.nextAction = r at hn h
  cases hn with
  | done hp hc => exact ⟨hp, hc⟩
  | _ => simp at h

end Litep2pVerif.Kad.Query
