import Litep2pVerif.Proofs.Kad.Lookup
/-!
# Invariants of `FindNodeContext` (C15)

The frontier part of every step comes from `VStep.spec` through `FindNode.sim`; what is proved here on
top of it is the accounting of `pending_responses` / `timed_out` (`CInv`) and the response window. `FInv` joins
frontier, `CInv` and the sorted, bounded `responses`; it is kept by every event under a monotone clock (`FInv.step`, `FInv.run`).
-/
namespace Litep2pVerif.Kad.Query

theorem pendLookup_eq_find? (p : Nat) (l : List (KPeer × Nat)) :
    pendLookup p l = l.find? (fun x => x.1.peer = p) := by
  induction l with
  | nil => rfl
  | cons y ys ih => simp only [pendLookup, List.find?_cons, ih]; split <;> simp [*]

theorem pendLookup_some {p : Nat} {l : List (KPeer × Nat)} {x : KPeer × Nat}
    (h : pendLookup p l = some x) : x ∈ l ∧ x.1.peer = p := by
  rw [pendLookup_eq_find?] at h
  exact ⟨List.mem_of_find?_eq_some h, by simpa using List.find?_some h⟩

theorem pendLookup_isSome {p : Nat} {l : List (KPeer × Nat)} :
    (pendLookup p l).isSome = true ↔ p ∈ pendPeers l := by
  simp [pendLookup_eq_find?, pendPeers]

theorem pendPeers_erase (p : Nat) (l : List (KPeer × Nat)) :
    pendPeers (pendErase p l) = (pendPeers l).filter (· ≠ p) := by
  unfold pendPeers pendErase
  rw [List.filter_map]
  rfl

theorem pendErase_of_not_mem {p : Nat} {l : List (KPeer × Nat)} (h : p ∉ pendPeers l) :
    pendErase p l = l :=
  List.filter_eq_self.2 fun a ha => by simpa using fun (e : a.1.peer = p) => h (List.mem_map.2 ⟨a, ha, e⟩)

theorem pendErase_length {l : List (KPeer × Nat)} {p : Nat} (hp : p ∈ pendPeers l)
    (hn : (pendPeers l).Nodup) : (pendErase p l).length + 1 = l.length := by
  have := filter_ne_length hp hn
  rw [← pendPeers_erase] at this
  simpa [pendPeers] using this

theorem discount_eq (s : FindNode) (p : Nat) :
    ∃ to pr, s.discount p = { s with timedOut := to, pendingResponses := pr } := by
  unfold FindNode.discount
  split <;> exact ⟨_, _, rfl⟩

theorem markOne_eq (now : Nat) (s : FindNode) (x : KPeer × Nat) :
    ∃ to pr, FindNode.markOne now s x = { s with timedOut := to, pendingResponses := pr } := by
  unfold FindNode.markOne
  split <;> exact ⟨_, _, rfl⟩

theorem markTimeouts_eq (s : FindNode) (now : Nat) :
    ∃ to pr, s.markTimeouts now = { s with timedOut := to, pendingResponses := pr } := by
  have key : ∀ (l : List (KPeer × Nat)) (s : FindNode),
      ∃ to pr, l.foldl (FindNode.markOne now) s = { s with timedOut := to, pendingResponses := pr } := by
    intro l
    induction l with
    | nil => exact fun s => ⟨_, _, rfl⟩
    | cons x xs ih =>
      intro s
      obtain ⟨to, pr, h1⟩ := markOne_eq now s x
      obtain ⟨to', pr', h2⟩ := ih { s with timedOut := to, pendingResponses := pr }
      exact ⟨to', pr', by rw [List.foldl_cons, h1, h2]⟩
  exact key s.pending s

theorem FindNode.fail_eq (s : FindNode) (p : Nat) :
    s.registerResponseFailure p = { s.registerResponse p [] with responses := s.responses } := by
  unfold FindNode.registerResponseFailure FindNode.registerResponse
  split
  · rfl
  · rename_i kp _ _
    obtain ⟨to, pr, hd⟩ := discount_eq { s with pending := pendErase p s.pending } kp.peer
    rw [hd]
    rfl

def FindNode.view (s : FindNode) : View := ⟨s.localPeer, s.candidates, pendPeers s.pending, s.queried⟩

def FindNode.learn (s : FindNode) : Ev → List Nat
  | .resp p peers => if (pendLookup p s.pending).isSome then peers.map (·.peer) else []
  | _ => []

theorem FindNode.schedule_sim (d : Nat → Nat) (U : List Nat) (s : FindNode) (now : Nat) :
    VStep d U s.view (s.scheduleNextPeer now).1.view (sendOf (s.scheduleNextPeer now).2) []
      (isSend (s.scheduleNextPeer now).2) := by
  unfold FindNode.scheduleNextPeer
  split
  · exact VStep.stay _
  · rename_i k c rest hc
    have := VStep.send (d := d) (U := U) s.view k c rest hc
    simp only [FindNode.view, ← pendPeers_erase] at this
    exact this

theorem FindNode.next_sim (d : Nat → Nat) (U : List Nat) (s : FindNode) (now : Nat) :
    VStep d U s.view (s.nextAction now).1.view (sendOf (s.nextAction now).2) []
      (isSend (s.nextAction now).2) := by
  unfold FindNode.nextAction
  split
  · split <;> exact VStep.stay _
  · obtain ⟨to, pr, hm⟩ := markTimeouts_eq s now
    rw [hm]
    show VStep d U (FindNode.view { s with timedOut := to, pendingResponses := pr }) _ _ _ _
    unfold FindNode.decide
    split
    · exact VStep.stay _
    · split
      · exact FindNode.schedule_sim d U _ now
      · split
        · split
          · exact FindNode.schedule_sim d U _ now
          · exact VStep.stay _
        · exact VStep.stay _

/-- Every step of `FindNodeContext` — for every clock reading — is a move of its frontier. -/
theorem FindNode.sim (d : Nat → Nat) (U : List Nat) :
    Simulates d U FindNode.step FindNode.view (Ev.ok d U) FindNode.learn FindNode.productive := by
  intro s e hok
  cases e with
  | next now => exact FindNode.next_sim d U s now
  | resp p peers =>
    simp only [FindNode.step, FindNode.learn, FindNode.productive]
    cases hl : pendLookup p s.pending with
    | none => simp only [FindNode.registerResponse, hl]; exact VStep.stay _
    | some x =>
      obtain rfl : x.1.peer = p := (pendLookup_some hl).2
      obtain ⟨to, pr, hd⟩ := discount_eq { s with pending := pendErase x.1.peer s.pending } x.1.peer
      simp only [FindNode.registerResponse, hl, hd, FindNode.view, pendPeers_erase, Option.isSome_some,
        if_true]
      exact VStep.answer s.view x.1.peer peers (pendLookup_isSome.1 (by simp [hl])) hok
  | fail p =>
    simp only [FindNode.step, FindNode.learn, FindNode.productive]
    cases hl : pendLookup p s.pending with
    | none => simp only [FindNode.registerResponseFailure, hl]; exact VStep.stay _
    | some x =>
      obtain rfl : x.1.peer = p := (pendLookup_some hl).2
      obtain ⟨to, pr, hd⟩ := discount_eq { s with pending := pendErase x.1.peer s.pending } x.1.peer
      simp only [FindNode.registerResponseFailure, hl, hd, FindNode.view, pendPeers_erase,
        Option.isSome_some]
      exact VStep.answer s.view x.1.peer [] (pendLookup_isSome.1 (by simp [hl])) (by simp)

theorem FindNode.run_eq (evs : List Ev) (s : FindNode) : s.run evs = runG FindNode.step s evs :=
  runG_unique (run := FindNode.run) (fun _ => rfl) (fun _ _ _ => rfl) evs s

theorem FindNode.learned_eq (evs : List Ev) (s : FindNode) :
    s.learned evs = learnedG FindNode.step FindNode.learn s evs :=
  learnedG_unique (learned := FindNode.learned) (fun _ => rfl) (fun s e es => by
    cases e <;> simp only [FindNode.learned, FindNode.learn, List.nil_append]
    split <;> simp) evs s

theorem FindNode.productiveCount_eq (evs : List Ev) : ∀ (s : FindNode),
    s.productiveCount evs = prodCountG FindNode.step FindNode.productive s evs := by
  induction evs with
  | nil => intro s; rfl
  | cons e es ih => intro s; simp only [FindNode.productiveCount, prodCountG, ih]

/-- With parallelism 0, `pending_responses = parallelism` holds from the start: a lookup that still has a candidate
never moves. -/
theorem FindNode.step_stuck (s : FindNode) (hp : s.pending = []) (hcand : s.candidates ≠ [])
    (hctr : s.pendingResponses = 0) (hpar : s.par = 0) (e : Ev) : s.step e = (s, none) := by
  cases e with
  | next now =>
    simp [FindNode.step, FindNode.nextAction, hp, hcand, FindNode.markTimeouts, FindNode.decide, hctr, hpar]
  | resp p peers => simp [FindNode.step, FindNode.registerResponse, hp, pendLookup]
  | fail p => simp [FindNode.step, FindNode.registerResponseFailure, hp, pendLookup]

/-- Pending requests that still count towards the parallelism factor. -/
def FindNode.live (s : FindNode) : List (KPeer × Nat) :=
  s.pending.filter (fun x => x.1.peer ∉ s.timedOut)

/-- Invariant of the counter `pending_responses` and the set `timed_out`; `t` is the last clock
reading. -/
structure CInv (s : FindNode) (t : Nat) : Prop where
  live : s.live.length ≤ s.pendingResponses
  ctr : s.pendingResponses ≤ s.par
  toNodup : s.timedOut.Nodup
  toPend : ∀ p ∈ s.timedOut, p ∈ pendPeers s.pending
  stale : ∀ x ∈ s.pending, x.1.peer ∈ s.timedOut → s.peerTimeout < t - x.2
  upper : s.pendingResponses + s.timedOut.length ≤ s.pending.length

/-- The fresh requests are among the live ones, hence at most `pending_responses ≤ parallelism`. -/
theorem CInv.fresh_le {s : FindNode} {t : Nat} (h : CInv s t) (now : Nat) (ht : t ≤ now) :
    (s.fresh now).length ≤ s.par := by
  have : (s.fresh now).length ≤ s.live.length := by
    unfold FindNode.fresh FindNode.live
    rw [← List.countP_eq_length_filter, ← List.countP_eq_length_filter]
    refine List.countP_mono_left fun x hx hf => ?_
    simp only [decide_eq_true_eq] at hf ⊢
    intro hm
    have := h.stale x hx hm
    omega
  have := h.live
  have := h.ctr
  omega

theorem CInv.mono {s : FindNode} {t t' : Nat} (h : CInv s t) (ht : t ≤ t') : CInv s t' :=
  ⟨h.live, h.ctr, h.toNodup, h.toPend, fun x hx hm => by have := h.stale x hx hm; omega, h.upper⟩

theorem live_length {l : List (KPeer × Nat)} {T : List Nat} (hl : (pendPeers l).Nodup) (hT : T.Nodup)
    (hsub : ∀ p ∈ T, p ∈ pendPeers l) :
    (l.filter (fun x => x.1.peer ∉ T)).length + T.length = l.length := by
  have hperm : (pendPeers (l.filter (fun x => x.1.peer ∈ T))).Perm T := by
    refine (List.perm_ext_iff_of_nodup (hl.sublist (List.filter_sublist.map _)) hT).2 fun a => ?_
    simp only [List.mem_map, List.mem_filter, decide_eq_true_eq]
    constructor
    · rintro ⟨x, ⟨_, hx⟩, rfl⟩; exact hx
    · intro ha
      obtain ⟨x, hx, rfl⟩ := List.mem_map.1 (hsub a ha)
      exact ⟨x, ⟨hx, ha⟩, rfl⟩
  have h1 := List.length_eq_countP_add_countP (fun x : KPeer × Nat => decide (x.1.peer ∉ T)) (l := l)
  have h2 := hperm.length_eq
  simp only [List.countP_eq_length_filter, pendPeers, List.length_map, decide_not, Bool.not_not,
    Bool.decide_eq_true] at h1 h2 ⊢
  omega

theorem CInv.count {s : FindNode} {t : Nat} (h : CInv s t) (hn : (pendPeers s.pending).Nodup) :
    s.pendingResponses + s.timedOut.length = s.pending.length := by
  have := live_length hn h.toNodup h.toPend
  have := h.live
  have := h.upper
  simp only [FindNode.live] at *
  omega

/-- `count` may assume `timedOut.length ≤ pending.length` (which follows from `live_length`): in `CInv.markOne`, where
`timed_out` grows while the counter takes a truncated `- 1`, this is what shows that the subtraction did not saturate. -/
theorem CInv.of_count {s : FindNode} {t : Nat} (hn : (pendPeers s.pending).Nodup)
    (ctr : s.pendingResponses ≤ s.par) (toNodup : s.timedOut.Nodup)
    (toPend : ∀ p ∈ s.timedOut, p ∈ pendPeers s.pending)
    (stale : ∀ x ∈ s.pending, x.1.peer ∈ s.timedOut → s.peerTimeout < t - x.2)
    (count : s.timedOut.length ≤ s.pending.length →
      s.pendingResponses + s.timedOut.length = s.pending.length) : CInv s t := by
  have := live_length hn toNodup toPend
  have := count (by omega)
  exact ⟨by simp only [FindNode.live]; omega, ctr, toNodup, toPend, stale, by omega⟩

theorem CInv.register {s : FindNode} {t peer : Nat} {kp : KPeer} {tm : Nat} (h : CInv s t)
    (hn : (pendPeers s.pending).Nodup) (hl : pendLookup peer s.pending = some (kp, tm)) :
    CInv (FindNode.discount { s with pending := pendErase peer s.pending } kp.peer) t := by
  obtain ⟨hmem, rfl⟩ : (kp, tm) ∈ s.pending ∧ kp.peer = peer := pendLookup_some hl
  have hp : kp.peer ∈ pendPeers s.pending := List.mem_map.2 ⟨(kp, tm), hmem, rfl⟩
  have hlen := pendErase_length hp hn
  have hcount := h.count hn
  have hn' : (pendPeers (pendErase kp.peer s.pending)).Nodup := by
    rw [pendPeers_erase]; exact hn.filter _
  unfold FindNode.discount
  simp only []
  split
  · rename_i hto
    have := List.length_erase_of_mem hto
    have := List.length_pos_of_mem hto
    refine CInv.of_count hn' h.ctr (h.toNodup.erase _) (fun q hq => ?_)
      (fun x hx hm => h.stale x (List.mem_filter.1 hx).1 (List.mem_of_mem_erase hm))
      (fun _ => by simp only; omega)
    have hq' := (h.toNodup.mem_erase_iff).1 hq
    rw [pendPeers_erase]
    exact List.mem_filter.2 ⟨h.toPend q hq'.2, by simpa using hq'.1⟩
  · rename_i hto
    refine CInv.of_count hn' (by have := h.ctr; simp only; omega) h.toNodup (fun q hq => ?_)
      (fun x hx hm => h.stale x (List.mem_filter.1 hx).1 hm) (fun _ => by simp only at *; omega)
    rw [pendPeers_erase]
    exact List.mem_filter.2 ⟨h.toPend q hq, by simpa using fun (e : q = kp.peer) => hto (e ▸ hq)⟩

theorem CInv.markOne {s : FindNode} {now : Nat} {x : KPeer × Nat} (h : CInv s now)
    (hn : (pendPeers s.pending).Nodup) (hx : x ∈ s.pending) :
    CInv (FindNode.markOne now s x) now := by
  have hcount := h.count hn
  unfold FindNode.markOne
  split
  · rename_i hc
    refine CInv.of_count hn (by have := h.ctr; simp only; omega) (List.nodup_cons.2 ⟨hc.2, h.toNodup⟩)
      (fun q hq => ?_) (fun y hy hm => ?_) (fun hle => by simp only [List.length_cons] at *; omega)
    · rcases List.mem_cons.1 hq with rfl | hq
      · exact List.mem_map.2 ⟨x, hx, rfl⟩
      · exact h.toPend q hq
    · rcases List.mem_cons.1 hm with hm | hm
      · obtain rfl : y = x := eq_of_nodup_map (fun z : KPeer × Nat => z.1.peer) _ hn y hy x hx hm
        exact hc.1
      · exact h.stale y hy hm
  · exact h

theorem CInv.schedule {s : FindNode} {now : Nat} {c : KPeer} {rest : DMap} (h : CInv s now)
    (hne : s.pendingResponses ≠ s.par) (hc : c.peer ∉ pendPeers s.pending) :
    CInv { s with candidates := rest, pending := (c, now) :: pendErase c.peer s.pending,
                  pendingResponses := s.pendingResponses + 1 } now := by
  have hto : c.peer ∉ s.timedOut := fun hm => hc (h.toPend _ hm)
  have := h.upper
  have := h.live
  rw [pendErase_of_not_mem hc]
  refine ⟨?_, by have := h.ctr; simp only; omega, h.toNodup,
    fun q hq => List.mem_cons_of_mem _ (h.toPend q hq), fun x hx hm => ?_,
    by simp only [List.length_cons]; omega⟩
  · simp only [FindNode.live, List.filter_cons, hto, not_false_eq_true, decide_true, if_true,
      List.length_cons] at *
    omega
  · rcases List.mem_cons.1 hx with rfl | hx
    · exact absurd hm hto
    · exact h.stale x hx hm

theorem insertResponse_inv (repl : Nat) (r : DMap) (kp : KPeer) (P : Nat × KPeer → Prop)
    (hs : Sorted r) (hP : ∀ x ∈ r, P x) (hkp : P (kp.dist, kp)) (hlen : r.length ≤ repl) :
    Sorted (insertResponse repl r kp) ∧ (∀ x ∈ insertResponse repl r kp, P x) ∧
      (insertResponse repl r kp).length ≤ repl := by
  have hP' : ∀ x ∈ dinsert kp.dist kp r, P x := by
    intro x hx
    rcases mem_dinsert_sub hx with hx | hx
    · exact hx ▸ hkp
    · exact hP x hx
  unfold insertResponse
  split
  · exact ⟨dinsert_sorted hs, hP', by have := dinsert_length_le kp.dist kp r; omega⟩
  · split
    · split
      · refine ⟨(dinsert_sorted hs).sublist (List.dropLast_sublist _), ?_, ?_⟩
        · intro x hx; exact hP' x ((List.dropLast_sublist _).subset hx)
        · have := dinsert_length_le kp.dist kp r
          simp only [List.length_dropLast]; omega
      · exact ⟨dinsert_sorted hs, hP', by omega⟩
    · exact ⟨hs, hP, hlen⟩

/-- `A`: peers whose response was accepted so far; `t`: last clock reading. -/
structure FInv (d : Nat → Nat) (U : List Nat) (s : FindNode) (A : List Nat) (t : Nat) : Prop where
  fr : Frontier d U s.localPeer s.candidates (pendPeers s.pending) s.queried
  c : CInv s t
  rs : Sorted s.responses
  rkey : ∀ x ∈ s.responses, x.1 = x.2.dist ∧ x.2.peer ∈ A
  rlen : s.responses.length ≤ s.repl

def SameCfg (s s' : FindNode) : Prop :=
  s'.localPeer = s.localPeer ∧ s'.repl = s.repl ∧ s'.par = s.par ∧ s'.query = s.query ∧
    s'.peerTimeout = s.peerTimeout

theorem SameCfg.refl (s : FindNode) : SameCfg s s := ⟨rfl, rfl, rfl, rfl, rfl⟩

theorem SameCfg.trans {s s' s'' : FindNode} (h : SameCfg s s') (h' : SameCfg s' s'') : SameCfg s s'' :=
  ⟨h'.1.trans h.1, h'.2.1.trans h.2.1, h'.2.2.1.trans h.2.2.1, h'.2.2.2.1.trans h.2.2.2.1,
    h'.2.2.2.2.trans h.2.2.2.2⟩

def FindNode.visited (s : FindNode) (q : Nat) : Prop := q ∈ pendPeers s.pending ∨ q ∈ s.queried

def FindNode.mu (U : List Nat) (s : FindNode) : Nat := measure U (pendPeers s.pending) s.queried

/-- `dvalues s.responses` is what `on_query_succeeded` reads. -/
theorem FInv.reported {d U s A t} (h : FInv d U s A t) :
    (dvalues s.responses).Pairwise (fun x y => x.dist < y.dist) ∧ (dvalues s.responses).length ≤ s.repl := by
  refine ⟨?_, by simpa only [dvalues, List.length_map] using h.rlen⟩
  rw [dvalues, List.pairwise_map]
  refine h.rs.imp_of_mem fun hx hy hxy => ?_
  rw [← (h.rkey _ hx).1, ← (h.rkey _ hy).1]
  exact hxy

theorem FInv.mono {d U s A t t'} (h : FInv d U s A t) (ht : t ≤ t') : FInv d U s A t' :=
  ⟨h.fr, h.c.mono ht, h.rs, h.rkey, h.rlen⟩

theorem FInv.resp {d U s A t} (p : Nat) (peers : List KPeer) (h : FInv d U s A t)
    (hpeers : ∀ kp ∈ peers, kp.dist = d kp.peer ∧ kp.peer ∈ U) :
    FInv d U (s.registerResponse p peers) (if (pendLookup p s.pending).isSome then p :: A else A) t ∧
    SameCfg s (s.registerResponse p peers) := by
  have hfr := ((FindNode.sim d U s (.resp p peers) hpeers).spec h.fr).1
  cases hl : pendLookup p s.pending with
  | none => simp only [FindNode.registerResponse, hl]; exact ⟨h, SameCfg.refl s⟩
  | some x =>
    have hc := h.c.register h.fr.pendNodup hl
    obtain rfl : x.1.peer = p := (pendLookup_some hl).2
    obtain ⟨to, pr, hd⟩ := discount_eq { s with pending := pendErase x.1.peer s.pending } x.1.peer
    have hins := insertResponse_inv s.repl s.responses x.1
      (fun y => y.1 = y.2.dist ∧ y.2.peer ∈ x.1.peer :: A) h.rs
      (fun y hy => ⟨(h.rkey y hy).1, List.mem_cons_of_mem _ (h.rkey y hy).2⟩) ⟨rfl, by simp⟩ h.rlen
    simp only [FindNode.step, FindNode.registerResponse, hl, hd, Option.isSome_some, if_true] at hfr hc ⊢
    exact ⟨⟨hfr, ⟨hc.live, hc.ctr, hc.toNodup, hc.toPend, hc.stale, hc.upper⟩, hins.1, hins.2.1, hins.2.2⟩, SameCfg.refl s⟩

theorem FInv.fail {d U s A t} (p : Nat) (h : FInv d U s A t) :
    FInv d U (s.registerResponseFailure p) A t ∧ SameCfg s (s.registerResponseFailure p) := by
  obtain ⟨⟨fr, c, _⟩, cfg⟩ := h.resp p [] (by simp)
  rw [FindNode.fail_eq]
  exact ⟨⟨fr, ⟨c.live, c.ctr, c.toNodup, c.toPend, c.stale, c.upper⟩, h.rs, h.rkey, cfg.2.1.symm ▸ h.rlen⟩, cfg⟩

/-- What one call of `next_action` guarantees about its result. -/
def NextSpec (U : List Nat) (s s' : FindNode) : Option QAction → Prop
  | some (.send q c) =>
    q = s.query ∧ c ≠ s.localPeer ∧ ¬ s.visited c ∧ c ∈ pendPeers s'.pending ∧ s'.mu U + 1 ≤ s.mu U
  | some (.succeeded q) =>
    q = s.query ∧ s'.pending = s.pending ∧ s'.queried = s.queried ∧ s'.candidates = s.candidates ∧
      s'.responses = s.responses ∧
      (∀ x ∈ s.responses.getLast?, ∀ c ∈ s.candidates, x.1 ≤ c.2.dist)
  | some (.failed q) =>
    q = s.query ∧ s'.pending = s.pending ∧ s'.queried = s.queried ∧ s'.candidates = s.candidates ∧
      s'.responses = s.responses ∧ s.pending = [] ∧ s.candidates = []
  | some (.partialRecord _ _ _) => False
  | none =>
    s'.pending = s.pending ∧ s'.queried = s.queried ∧ s'.candidates = s.candidates ∧
      s'.responses = s.responses ∧ (1 ≤ s.par → s.pending ≠ []) ∧
      (s.par = 0 → s.candidates = [] → s.pending ≠ [])

theorem FInv.schedule {d U s A now} (h : FInv d U s A now) (hne : s.pendingResponses ≠ s.par)
    (hnd : ¬ (s.pending.isEmpty ∧ s.candidates.isEmpty)) :
    FInv d U (s.scheduleNextPeer now).1 A now ∧ SameCfg s (s.scheduleNextPeer now).1 ∧
    (∀ q, s.visited q → (s.scheduleNextPeer now).1.visited q) ∧
    NextSpec U s (s.scheduleNextPeer now).1 (s.scheduleNextPeer now).2 := by
  obtain ⟨v1, _, v3, v4, _, v6, _⟩ := (FindNode.schedule_sim d U s now).spec h.fr
  cases hc : s.candidates with
  | nil =>
    simp only [FindNode.scheduleNextPeer, hc]
    refine ⟨h, SameCfg.refl s, fun q hq => hq, rfl, rfl, rfl, rfl, ?_, ?_⟩
    · intro _ hp; exact hnd (by simp [hp, hc])
    · intro _ _ hp; exact hnd (by simp [hp, hc])
  | cons x rest =>
    obtain ⟨k, c⟩ := x
    simp only [FindNode.scheduleNextPeer, hc, sendOf, isSend] at v1 v3 v4 v6 ⊢
    obtain ⟨h1, h2, _, h4⟩ := v6 c.peer rfl
    exact ⟨⟨v1, h.c.schedule hne (fun hm => h2 (Or.inl hm)), h.rs, h.rkey, h.rlen⟩, SameCfg.refl s, v3,
      rfl, h1, h2, h4, v4⟩

theorem head_le_of_sorted {m : DMap} {x : Nat × KPeer} (hs : Sorted m) (hx : m.head? = some x) :
    ∀ y ∈ m, x.1 ≤ y.1 := by
  cases m with
  | nil => simp at hx
  | cons z zs =>
    simp only [List.head?_cons, Option.some.injEq] at hx
    subst hx
    intro y hy
    rcases List.mem_cons.1 hy with hy | hy
    · subst hy; exact Nat.le_refl _
    · exact Nat.le_of_lt ((List.pairwise_cons.1 hs).1 y hy)

theorem CInv.markTimeouts {s : FindNode} {now : Nat} (h : CInv s now) (hn : (pendPeers s.pending).Nodup) :
    CInv (s.markTimeouts now) now := by
  have key : ∀ (l : List (KPeer × Nat)) (s' : FindNode), CInv s' now → s'.pending = s.pending →
      (∀ x ∈ l, x ∈ s.pending) → CInv (l.foldl (FindNode.markOne now) s') now := by
    intro l
    induction l with
    | nil => exact fun _ h _ _ => h
    | cons x xs ih =>
      intro s' h' hp hl
      obtain ⟨to, pr, he⟩ := markOne_eq now s' x
      refine ih _ (h'.markOne (hp ▸ hn) (hp ▸ hl x (List.mem_cons_self ..))) ?_
        (fun y hy => hl y (List.mem_cons_of_mem _ hy))
      rw [he]; exact hp
  exact key s.pending s h rfl (fun _ hx => hx)

theorem FInv.decide {d U s A now} (h : FInv d U s A now)
    (hnd : ¬ (s.pending.isEmpty ∧ s.candidates.isEmpty)) :
    FInv d U (s.decide now).1 A now ∧ SameCfg s (s.decide now).1 ∧
    (∀ q, s.visited q → (s.decide now).1.visited q) ∧
    NextSpec U s (s.decide now).1 (s.decide now).2 := by
  unfold FindNode.decide
  split
  · rename_i hpar
    refine ⟨h, SameCfg.refl s, fun q hq => hq, rfl, rfl, rfl, rfl, ?_, ?_⟩
    · -- all `par` counted requests are in `pending`
      intro h1 hp
      have := h.c.upper
      rw [hp] at this
      simp only [List.length_nil] at this
      omega
    · intro _ hc hp; exact hnd (by simp [hp, hc])
  · rename_i hpar
    split
    · exact h.schedule hpar hnd
    · split
      · rename_i k c kr r hhead hlast
        split
        · exact h.schedule hpar hnd
        · rename_i hlt
          refine ⟨h, SameCfg.refl s, fun q hq => hq, rfl, rfl, rfl, rfl, rfl, ?_⟩
          intro x hx c' hc'
          rw [hlast] at hx
          simp only [Option.mem_def, Option.some.injEq] at hx
          subst hx
          have h1 := head_le_of_sorted h.fr.sorted hhead c' hc'
          have h2 := (h.fr.key (k, c) (List.mem_of_mem_head? hhead)).1
          have h3 := (h.fr.key c' hc').1
          simp only at h1 h2 ⊢
          omega
      · rename_i hno
        refine ⟨h, SameCfg.refl s, fun q hq => hq, rfl, rfl, rfl, rfl, rfl, ?_⟩
        intro x hx c' hc'
        cases hh : s.candidates.head? with
        | none => rw [List.head?_eq_none_iff.1 hh] at hc'; simp at hc'
        | some y => exact absurd hx (hno y.1 y.2 x.1 x.2 hh)

theorem FInv.next {d U s A t} (now : Nat) (h : FInv d U s A t) (ht : t ≤ now) :
    FInv d U (s.nextAction now).1 A now ∧ SameCfg s (s.nextAction now).1 ∧
    (∀ q, s.visited q → (s.nextAction now).1.visited q) ∧
    NextSpec U s (s.nextAction now).1 (s.nextAction now).2 := by
  have hnow := h.mono ht
  unfold FindNode.nextAction
  split
  · rename_i hdone
    have hp : s.pending = [] := by simpa using hdone.1
    have hc : s.candidates = [] := by simpa using hdone.2
    refine ⟨hnow, SameCfg.refl s, fun q hq => hq, ?_⟩
    simp only
    split
    · exact ⟨rfl, rfl, rfl, rfl, rfl, hp, hc⟩
    · exact ⟨rfl, rfl, rfl, rfl, rfl, fun x _ c hcm => by simp [hc] at hcm⟩
  · rename_i hnd
    have hm := hnow.c.markTimeouts h.fr.pendNodup
    -- the time-out loop changes nothing the statement about `s` looks at
    obtain ⟨to, pr, he⟩ := markTimeouts_eq s now
    rw [he] at hm ⊢
    exact FInv.decide (s := { s with timedOut := to, pendingResponses := pr })
      ⟨h.fr, hm, h.rs, h.rkey, h.rlen⟩ hnd

theorem FInv.init {d U} (localPeer repl par query timeout : Nat) (inPeers : List KPeer)
    (h : ∀ kp ∈ inPeers, kp.dist = d kp.peer ∧ kp.peer ∈ U ∧ kp.peer ≠ localPeer) :
    FInv d U (FindNode.new localPeer repl par query timeout inPeers) [] 0 := by
  refine ⟨Frontier.init inPeers h, ⟨?_, ?_, ?_, ?_, ?_, ?_⟩, ?_, ?_, ?_⟩ <;>
    simp [FindNode.new, FindNode.live, Sorted]

theorem answered_cons (s : FindNode) (e : Ev) (es : List Ev) :
    s.answered (e :: es) = s.answered [e] ++ (s.step e).1.answered es := by
  cases e with
  | next now => simp [FindNode.answered]
  | resp p peers =>
    simp only [FindNode.answered]
    split <;> simp
  | fail p => simp [FindNode.answered]

theorem lastNow_cons (t : Nat) (e : Ev) (es : List Ev) :
    lastNow t (e :: es) = lastNow (lastNow t [e]) es := by
  cases e <;> simp [lastNow]

theorem monotoneFrom_cons {t : Nat} {e : Ev} {es : List Ev} (h : monotoneFrom t (e :: es)) :
    monotoneFrom t [e] ∧ monotoneFrom (lastNow t [e]) es := by
  cases e <;> simp_all [monotoneFrom, lastNow]

theorem FInv.step {d U s A t} (e : Ev) (h : FInv d U s A t) (hok : e.ok d U)
    (hm : monotoneFrom t [e]) :
    ∃ A', FInv d U (s.step e).1 A' (lastNow t [e]) ∧ (∀ p ∈ A', p ∈ A ∨ p ∈ s.answered [e]) ∧
      SameCfg s (s.step e).1 := by
  cases e with
  | next now =>
    obtain ⟨h1, h2, _⟩ := h.next now hm.1
    exact ⟨A, h1, fun p hp => Or.inl hp, h2⟩
  | resp p peers =>
    obtain ⟨h1, h2⟩ := h.resp p peers hok
    refine ⟨_, h1, fun q hq => ?_, h2⟩
    simp only [FindNode.answered]
    split at hq
    · rename_i hs
      simpa [hs, or_comm] using hq
    · exact Or.inl hq
  | fail p =>
    obtain ⟨h1, h2⟩ := h.fail p
    exact ⟨A, h1, fun q hq => Or.inl hq, h2⟩

theorem FInv.run {d U} (evs : List Ev) : ∀ {s A t}, FInv d U s A t → (∀ e ∈ evs, e.ok d U) →
    monotoneFrom t evs →
    ∃ A', FInv d U (s.run evs).1 A' (lastNow t evs) ∧ (∀ p ∈ A', p ∈ A ∨ p ∈ s.answered evs) ∧
      SameCfg s (s.run evs).1 := by
  induction evs with
  | nil => intro s A t h _ _; exact ⟨A, h, fun p hp => Or.inl hp, SameCfg.refl s⟩
  | cons e es ih =>
    intro s A t h hok hm
    obtain ⟨hm1, hm2⟩ := monotoneFrom_cons hm
    obtain ⟨A1, s1, s2, s3⟩ := h.step e (hok e (List.mem_cons_self ..)) hm1
    obtain ⟨A2, r1, r2, r3⟩ := ih s1 (fun e' he' => hok e' (List.mem_cons_of_mem _ he')) hm2
    rw [FindNode.run_eq, runG_fst, ← FindNode.run_eq, lastNow_cons, answered_cons]
    refine ⟨A2, r1, fun p hp => ?_, s3.trans r3⟩
    rcases r2 p hp with hp | hp
    · exact (s2 p hp).imp_right (List.mem_append_left _)
    · exact Or.inr (List.mem_append_right _ hp)

end Litep2pVerif.Kad.Query
