import Litep2pVerif.Model.Kad.Events
/-! Lemmas about the event-channel model (`Model/Kad/Events.lean`): conservation under every schedule, and the
user who keeps reading gets everything. -/
namespace Litep2pVerif.Kad.Events
variable {α : Type}

def emitted : List (Step α) → List α
  | [] => []
  | .emit e :: r => e :: emitted r
  | _ :: r => emitted r

/-- Channel well-formedness: at most `cap` events inside, `cap > 0` (tokio panics on 0), and a suspended `send`
means the channel is full. -/
structure WF (c : Chan α) : Prop where
  pos : 0 < c.cap
  len : c.queue.length ≤ c.cap
  full : c.blocked.isSome → c.queue.length = c.cap

theorem runOne_all (c : Chan α) : c.runOne.all = c.all := by
  unfold Chan.runOne Chan.all
  split
  · split <;> simp_all
  · rfl

theorem read_all (c : Chan α) : c.read.all = c.all := by
  unfold Chan.read Chan.all
  split
  · rfl
  · split <;> simp_all

theorem emit_all (c : Chan α) (e : α) : (c.emit e).all = c.all ++ [e] := by
  simp [Chan.emit, Chan.all]

theorem step_all (c : Chan α) (s : Step α) : (c.step s).all = c.all ++ emitted [s] := by
  cases s <;> simp [Chan.step, emitted, runOne_all, read_all, emit_all]

theorem emitted_append (a b : List (Step α)) : emitted (a ++ b) = emitted a ++ emitted b := by
  induction a with
  | nil => rfl
  | cons s r ih => cases s <;> simp [emitted, ih]

theorem steps_all (sched : List (Step α)) (c : Chan α) :
    (sched.foldl Chan.step c).all = c.all ++ emitted sched := by
  induction sched generalizing c with
  | nil => simp [emitted]
  | cons s r ih =>
    rw [List.foldl_cons, ih, step_all, List.append_assoc, ← emitted_append]
    rfl

theorem runOne_wf {c : Chan α} (h : WF c) : WF c.runOne := by
  unfold Chan.runOne
  split
  · rename_i hb ht
    split
    · rename_i hlt
      exact ⟨h.pos, by simp; omega, by simp [hb]⟩
    · rename_i hge
      exact ⟨h.pos, h.len, fun _ => by have := h.len; simp at *; omega⟩
  · exact h

theorem read_wf {c : Chan α} (h : WF c) : WF c.read := by
  unfold Chan.read
  split
  · exact h
  · rename_i e rest hq
    have hl := h.len
    rw [hq] at hl
    split
    · exact ⟨h.pos, by simp at *; omega, by simp⟩
    · rename_i hb
      exact ⟨h.pos, by simp at *; omega, by simp [hb]⟩

theorem emit_wf {c : Chan α} (h : WF c) (e : α) : WF (c.emit e) := ⟨h.pos, h.len, h.full⟩

theorem step_wf {c : Chan α} (h : WF c) (s : Step α) : WF (c.step s) := by
  cases s
  · exact emit_wf h _
  · exact runOne_wf h
  · exact read_wf h

theorem steps_wf (sched : List (Step α)) {c : Chan α} (h : WF c) : WF (sched.foldl Chan.step c) :=
  List.foldlRecOn sched _ h fun _ hc s _ => step_wf hc s

theorem runOne_pending (c : Chan α) : c.runOne.pending = c.pending := by
  unfold Chan.runOne Chan.pending
  split
  · rename_i hb ht
    split <;> simp [hb, ht] <;> omega
  · rfl

theorem runOne_nonempty {c : Chan α} (h : WF c) (hp : 0 < c.pending) : c.runOne.queue ≠ [] := by
  unfold Chan.runOne
  have hpos := h.pos
  split
  · split
    · simp
    · rename_i hge
      intro hq
      have hq' : c.queue = [] := hq
      rw [hq'] at hge
      simp at hge
      omega
  · rename_i hcase
    intro hq
    cases hb : c.blocked with
    | some b =>
      have := h.full (by simp [hb])
      simp [hq] at this
      omega
    | none =>
      cases ht : c.todo with
      | nil => simp [Chan.pending, hq, hb, ht] at hp
      | cons e r => exact hcase e r hb ht

theorem read_pending {c : Chan α} (hq : c.queue ≠ []) : c.read.pending + 1 = c.pending := by
  unfold Chan.read Chan.pending
  split
  · contradiction
  · rename_i e rest hq'
    split <;> simp_all <;> omega

theorem round_pending {c : Chan α} (h : WF c) (hp : 0 < c.pending) :
    (c.runOne.read.runOne).pending + 1 = c.pending := by
  rw [runOne_pending, read_pending (runOne_nonempty h hp), runOne_pending]

theorem round_all (c : Chan α) : (c.runOne.read.runOne).all = c.all := by
  rw [runOne_all, read_all, runOne_all]

theorem round_wf {c : Chan α} (h : WF c) : WF (c.runOne.read.runOne) := runOne_wf (read_wf (runOne_wf h))

theorem pending_zero {c : Chan α} (hp : c.pending = 0) : c.queue = [] ∧ c.blocked = none ∧ c.todo = [] := by
  unfold Chan.pending at hp
  refine ⟨List.eq_nil_of_length_eq_zero (by omega), ?_, List.eq_nil_of_length_eq_zero (by omega)⟩
  cases hb : c.blocked with
  | none => rfl
  | some b => simp [hb] at hp

/-- One round of `drain` leaves an empty system as it is and otherwise reads one event. -/
theorem round_pending_le {c : Chan α} (h : WF c) : (c.runOne.read.runOne).pending ≤ c.pending - 1 := by
  by_cases hp : c.pending = 0
  · obtain ⟨hq, hb, ht⟩ := pending_zero hp
    have h1 : c.runOne = c := by simp [Chan.runOne, hb, ht]
    have h2 : c.read = c := by simp [Chan.read, hq]
    rw [h1, h2, h1]
    omega
  · have := round_pending h (by omega)
    omega

/-- The user who keeps reading gets everything: after at least `pending` reads nothing is left anywhere and what was
read is everything that was ever emitted, in emission order. -/
theorem drain_all (n : Nat) (c : Chan α) (h : WF c) (hn : c.pending ≤ n) :
    (Chan.drain n c).pending = 0 ∧ (Chan.drain n c).got = c.all := by
  induction n generalizing c with
  | zero =>
    obtain ⟨hq, hb, ht⟩ := pending_zero (Nat.le_zero.mp hn)
    exact ⟨Nat.le_zero.mp hn, by simp [Chan.drain, Chan.all, hq, hb, ht]⟩
  | succ n ih =>
    have hr := round_pending_le h
    show (Chan.drain n (c.runOne.read.runOne)).pending = 0 ∧ (Chan.drain n (c.runOne.read.runOne)).got = c.all
    rw [← round_all c]
    exact ih _ (round_wf h) (by omega)

theorem runOne_cap (c : Chan α) : c.runOne.cap = c.cap := by
  unfold Chan.runOne
  (repeat' split) <;> rfl

theorem read_cap (c : Chan α) : c.read.cap = c.cap := by
  unfold Chan.read
  (repeat' split) <;> rfl

theorem steps_cap (sched : List (Step α)) (c : Chan α) : (sched.foldl Chan.step c).cap = c.cap := by
  induction sched generalizing c with
  | nil => rfl
  | cons s r ih =>
    rw [List.foldl_cons, ih]
    cases s
    · rfl
    · exact runOne_cap c
    · exact read_cap c

theorem fresh_wf (cap : Nat) (h : 0 < cap) : WF ({ cap := cap } : Chan α) := ⟨h, by simp, by simp⟩

end Litep2pVerif.Kad.Events
