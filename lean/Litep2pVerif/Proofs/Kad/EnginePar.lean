import Litep2pVerif.Proofs.Kad.EngineLookup
import Litep2pVerif.Proofs.Kad.Values
/-!
# The parallelism bound per query at engine level (C15)

`TPar` is, for the context stored under one id, the invariant behind the parallelism bound (`FInv`
for `FindNodeContext`, `pending.len() ≤ parallelism` for value and provider lookups). Every engine
operation that does not start the id again preserves it, whatever happens to the other queries.
-/
namespace Litep2pVerif.Kad.Query

/-- `P` is the parallelism factor, `T` the last clock reading of the engine. -/
def TPar (d : Nat → Nat) (U : List Nat) (P T : Nat) : QueryType → Prop
  | .findNode c => (∃ A, FInv d U c A T) ∧ c.par = P
  | .putRecord _ _ c => (∃ A, FInv d U c A T) ∧ c.par = P
  | .addProvider _ _ _ c => (∃ A, FInv d U c A T) ∧ c.par = P
  | .getRecord c => c.pending.length ≤ c.par ∧ c.par = P
  | .getProviders c => c.pending.length ≤ c.par ∧ c.par = P
  | _ => True

theorem TPar.mono {d U P T T'} {t : QueryType} (h : TPar d U P T t) (hT : T ≤ T') : TPar d U P T' t := by
  cases t with
  | findNode c | putRecord _ _ c | addProvider _ _ _ c => obtain ⟨⟨A, h1⟩, h2⟩ := h; exact ⟨⟨A, h1.mono hT⟩, h2⟩
  | getRecord c | getProviders c => exact h
  | _ => trivial

theorem TPar.inFlight_le {d U P T} {t : QueryType} (h : TPar d U P T t) (now : Nat) (hT : T ≤ now) :
    t.inFlight now ≤ P := by
  cases t with
  | findNode c | putRecord _ _ c | addProvider _ _ _ c => obtain ⟨⟨A, h1⟩, h2⟩ := h; exact h2 ▸ h1.c.fresh_le now hT
  | getRecord c | getProviders c => exact h.2 ▸ h.1
  | _ => exact Nat.zero_le _

theorem typeNext_par {d U P now} {t : QueryType} (h : TPar d U P now t) :
    TPar d U P now (Engine.typeNext now t).1 := by
  cases t with
  | findNode c | putRecord _ _ c | addProvider _ _ _ c =>
    obtain ⟨⟨A, h1⟩, h2⟩ := h
    obtain ⟨n1, n2, _⟩ := h1.next now (Nat.le_refl _)
    exact ⟨⟨A, n1⟩, n2.2.2.1.trans h2⟩
  | getRecord c | getProviders c => exact c.step_pending_le .next h
  | _ => trivial

theorem FindNode.fail_par {d U P T} {c : FindNode} (p : Nat) (h : (∃ A, FInv d U c A T) ∧ c.par = P) :
    (∃ A, FInv d U (c.registerResponseFailure p) A T) ∧ (c.registerResponseFailure p).par = P := by
  obtain ⟨⟨A, h1⟩, h2⟩ := h
  obtain ⟨n1, n2⟩ := h1.fail p
  exact ⟨⟨A, n1⟩, n2.2.2.1.trans h2⟩

theorem FindNode.resp_par {d U P T} {c : FindNode} (p : Nat) (peers : List KPeer)
    (hm : ∀ kp ∈ peers, kp.dist = d kp.peer ∧ kp.peer ∈ U) (h : (∃ A, FInv d U c A T) ∧ c.par = P) :
    (∃ A, FInv d U (c.registerResponse p peers) A T) ∧ (c.registerResponse p peers).par = P := by
  obtain ⟨⟨A, h1⟩, h2⟩ := h
  obtain ⟨n1, n2⟩ := h1.resp p peers hm
  exact ⟨⟨_, n1⟩, n2.2.2.1.trans h2⟩

theorem failType_par {d U P T} (p : Nat) {t : QueryType} (h : TPar d U P T t) :
    TPar d U P T (Engine.failType p t) := by
  cases t with
  | findNode c | putRecord _ _ c | addProvider _ _ _ c => exact FindNode.fail_par p h
  | getRecord c | getProviders c => exact c.step_pending_le (.fail p) h
  | _ => trivial

theorem respType_par {d U P T} (p : Nat) (m : Msg) (hm : m.ok d U) {t : QueryType} (h : TPar d U P T t) :
    TPar d U P T (Engine.respType p m t) := by
  cases t with
  | findNode c | putRecord _ _ c | addProvider _ _ _ c =>
    cases m with
    | findNode peers => exact FindNode.resp_par p peers hm h
    | _ => exact FindNode.fail_par p h
  | getRecord c =>
    cases m with
    | getRecord r peers => exact c.step_pending_le (.resp p r peers) h
    | _ => exact failType_par (t := .getRecord c) p h
  | getProviders c =>
    cases m with
    | getProviders pr peers => exact c.step_pending_le (.resp p pr peers) h
    | _ => exact failType_par (t := .getProviders c) p h
  | _ => trivial

theorem sendFailType_par {d U P T} (p : Nat) {t : QueryType} (h : TPar d U P T t) :
    TPar d U P T (Engine.sendFailType p t) := by
  cases t <;> first | exact h | trivial

theorem sendOkType_par {d U P T} (p : Nat) {t : QueryType} (h : TPar d U P T t) :
    TPar d U P T (Engine.sendOkType p t) := by
  cases t <;> first | exact h | trivial

theorem eLastNow_cons (T : Nat) (op : EOp) (ops : List EOp) :
    eLastNow T (op :: ops) = eLastNow (eLastNow T [op]) ops := by
  cases op <;> simp [eLastNow]

theorem eMonotoneFrom_cons {T : Nat} {op : EOp} {ops : List EOp} (h : eMonotoneFrom T (op :: ops)) :
    T ≤ eLastNow T [op] ∧ eMonotoneFrom (eLastNow T [op]) ops := by
  cases op <;> simp_all [eMonotoneFrom, eLastNow]

/-- Every context step preserves the invariant; only `next_action` reads the clock. -/
theorem CtxStep.par (d : Nat → Nat) (U : List Nat) (P : Nat) {q : Nat} {op : EOp} {t t' : QueryType}
    {o : Option Nat} (h : CtxStep q op t t' o) (hok : op.okFor d U q) :
    ∀ T, T ≤ eLastNow T [op] → TPar d U P T t → TPar d U P (eLastNow T [op]) t' := by
  induction h with
  | stay => exact fun T hT h => h.mono hT
  | @quiet now _ _ _ _ _ _ ih => exact fun T hT h => ih hok now (Nat.le_refl now) (typeNext_par (h.mono hT))
  | act => exact fun T hT h => typeNext_par (h.mono hT)
  | resp p m t => exact fun T _ h => respType_par p m (hok rfl) h
  | fail p t => exact fun T _ h => failType_par p h
  | sendOk p t => exact fun T _ h => sendOkType_par p h
  | sendFail p t => exact fun T _ h => sendFailType_par p h
  | peerFail p t => exact fun T _ h => failType_par p (sendFailType_par p h)

theorem run_par (d : Nat → Nat) (U : List Nat) (P q : Nat) (ops : List EOp) : ∀ (T : Nat) (e : Engine), KeyOk e →
    (∀ op ∈ ops, op.starts ≠ some q) → (∀ op ∈ ops, op.okFor d U q) → eMonotoneFrom T ops →
    (∀ t, qLookup q e.queries = some t → TPar d U P T t) →
    ∀ t', qLookup q (e.run ops).1.queries = some t' → TPar d U P (eLastNow T ops) t' := by
  induction ops with
  | nil => intro T e _ _ _ _ h; exact h
  | cons op ops ih =>
    intro T e hk hst hok hm h
    obtain ⟨m1, m2⟩ := eMonotoneFrom_cons hm
    obtain ⟨hst1, hst'⟩ := List.forall_mem_cons.1 hst
    obtain ⟨hok1, hok'⟩ := List.forall_mem_cons.1 hok
    obtain ⟨s1, _, s3⟩ := step_id e op hk
    have hid := s3 q hst1
    rw [eLastNow_cons]
    simp only [Engine.run]
    refine ih _ _ s1 hst' hok' m2 fun t' ht' => ?_
    cases ht : qLookup q e.queries with
    | none => rw [ht] at hid; rw [hid.1] at ht'; cases ht'
    | some t =>
      rw [ht] at hid
      rcases hid with ⟨t2, h1, hc, _⟩ | ⟨h1, _⟩
      · obtain rfl : t2 = t' := Option.some.inj (h1.symm.trans ht')
        exact hc.par d U P hok1 T m1 (h t ht)
      · rw [h1] at ht'; cases ht'

theorem start_par (d : Nat → Nat) (U : List Nat) (T : Nat) (e : Engine) (q : Nat) (inPeers : List KPeer)
    (op : EOp) (hop : op.startsLookup q inPeers)
    (hc : ∀ kp ∈ inPeers, kp.dist = d kp.peer ∧ kp.peer ∈ U ∧ kp.peer ≠ e.localPeer) :
    ∀ t, qLookup q (e.step op).1.queries = some t → TPar d U e.par T t := by
  have hfn : ∀ q', (∃ A, FInv d U (e.newFindNode q' inPeers) A T) ∧ (e.newFindNode q' inPeers).par = e.par :=
    fun q' => ⟨⟨[], (FInv.init e.localPeer e.repl e.par q' e.peerTimeout inPeers hc).mono (Nat.zero_le _)⟩, rfl⟩
  intro t ht
  cases op with
  | startFindNode q' c | startPutRecord q' _ c _ | startAddProvider q' _ _ c _ =>
    obtain ⟨rfl, rfl⟩ := hop
    simp only [Engine.step, Engine.startFindNode, Engine.startPutRecord, Engine.startAddProvider,
      qLookup_qInsert_same, Option.some.injEq] at ht
    subst ht; exact hfn _
  | startGetRecord q' c _ _ | startGetProviders q' c _ =>
    obtain ⟨rfl, rfl⟩ := hop
    simp only [Engine.step, Engine.startGetRecord, Engine.startGetProviders, qLookup_qInsert_same,
      Option.some.injEq] at ht
    subst ht; exact ⟨Nat.zero_le _, rfl⟩
  | _ => exact absurd hop (by simp [EOp.startsLookup])

end Litep2pVerif.Kad.Query
