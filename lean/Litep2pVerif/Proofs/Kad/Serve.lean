import Litep2pVerif.Model.Kad.Serve
/-!
# The serving side of the Kademlia coordinator (`Model/Kad/Serve.lean`, C16)

In manual validation mode every key of the record store, and in manual update mode every peer of the routing table,
comes from the user (`manual_keys`, `manual_table`, both through `run_mem`); which requests get a reply
(`serve_reply_iff`); in automatic mode an acceptable record is stored (`serve_auto_stores`).
-/
namespace Litep2pVerif.Kad.Serve

def keys (st : SState) : List Nat := st.records.map (·.key)

theorem storePut_keys (cfg : Cfg) (st : SState) (r : Rec) :
    ∀ k ∈ keys (storePut cfg st r), k ∈ keys st ∨ k = r.key := by
  intro k hk
  unfold storePut at hk
  split at hk
  · exact .inl hk
  · split at hk
    · simp only [keys, List.mem_map] at hk ⊢
      obtain ⟨x, hx, rfl⟩ := hk
      obtain ⟨y, hy, rfl⟩ := hx
      split
      · exact .inr rfl
      · exact .inl ⟨y, hy, rfl⟩
    · split at hk
      · exact .inl hk
      · simp only [keys, List.map_append, List.mem_append, List.map_cons, List.map_nil, List.mem_singleton] at hk
        exact hk

theorem storeGet_keys (st : SState) (k0 : Nat) : ∀ k ∈ keys (storeGet st k0).1, k ∈ keys st := by
  intro k hk
  unfold storeGet at hk
  split at hk
  · split at hk
    · simp only [keys, List.mem_map] at hk ⊢
      obtain ⟨x, hx, rfl⟩ := hk
      exact ⟨x, (List.mem_filter.mp hx).1, rfl⟩
    · exact hk
  · exact hk

theorem putProvider_records (st : SState) (k p : Nat) : (putProvider st k p).records = st.records ∧
    (putProvider st k p).table = st.table := by
  unfold putProvider; split <;> exact ⟨rfl, rfl⟩

theorem serve_manual_keys (cfg : Cfg) (hm : cfg.manualValidation = true) (st : SState) (p : Nat) (req : Req) :
    ∀ k ∈ keys (serve cfg st p req).1, k ∈ keys st := by
  intro k hk
  cases req with
  | findNode => exact hk
  | getValue key =>
    cases key with
    | none => exact hk
    | some k0 => exact storeGet_keys st k0 k hk
  | putValue k0 size => simpa [serve, hm] using hk
  | addProvider k0 prov =>
    simp only [serve] at hk
    split at hk
    · simpa [keys, (putProvider_records st k0 p).1] using hk
    · exact hk
  | getProviders key => cases key <;> exact hk
  | garbage => exact hk

theorem storePut_table (cfg : Cfg) (st : SState) (r : Rec) : (storePut cfg st r).table = st.table := by
  unfold storePut
  (repeat' split) <;> rfl

theorem storeGet_table (st : SState) (k : Nat) : (storeGet st k).1.table = st.table := by
  unfold storeGet
  (repeat' split) <;> rfl

theorem serve_table (cfg : Cfg) (st : SState) (p : Nat) (req : Req) : (serve cfg st p req).1.table = st.table := by
  cases req with
  | findNode => rfl
  | getValue key =>
    cases key with
    | none => rfl
    | some k0 => exact storeGet_table st k0
  | putValue k0 size =>
    simp only [serve]
    split
    · rfl
    · exact storePut_table ..
  | addProvider k0 prov =>
    simp only [serve]
    split
    · exact (putProvider_records st k0 p).2
    · rfl
  | getProviders key => cases key <;> rfl
  | garbage => rfl

theorem addKnown_table (st : SState) (p : Nat) (a : Bool) : ∀ x ∈ (addKnown st p a).table, x ∈ st.table ∨ x = p := by
  intro x hx
  unfold addKnown at hx
  split at hx
  · simp only [List.mem_append, List.mem_singleton] at hx; exact hx
  · exact .inl hx

theorem addKnown_records (st : SState) (p : Nat) (a : Bool) : (addKnown st p a).records = st.records := by
  unfold addKnown; split <;> rfl

theorem learn_records (cfg : Cfg) (st : SState) (peers : List (Nat × Bool)) : (learn cfg st peers).records = st.records := by
  unfold learn
  split
  · rfl
  · induction peers generalizing st with
    | nil => rfl
    | cons p ps ih => simp only [List.foldl_cons]; rw [ih, addKnown_records]

/-- What a history leaves in a list of the state (`proj`) was there before or was put there by the user (`user`),
if every single operation keeps to that. -/
theorem run_mem {β} (cfg : Cfg) (proj : SState → List β) (user : List Op → List β)
    (hcons : ∀ op ops, user (op :: ops) = user [op] ++ user ops)
    (hstep : ∀ st op, ∀ x ∈ proj (step cfg st op), x ∈ proj st ∨ x ∈ user [op]) (ops : List Op) (st : SState) :
    ∀ x ∈ proj (run cfg st ops), x ∈ proj st ∨ x ∈ user ops := by
  induction ops generalizing st with
  | nil => exact fun x hx => .inl hx
  | cons op ops ih =>
    intro x hx
    rw [hcons, List.mem_append]
    rcases ih (step cfg st op) x hx with h | h
    · exact (hstep st op x h).imp id .inl
    · exact .inr (.inr h)

/-- **Manual validation.** Whatever remote peers send, in manual validation mode every key of the record store was
stored by the user (`put_record`, `put_record_to_peers` with local update, `store_record`). -/
theorem manual_keys (cfg : Cfg) (hm : cfg.manualValidation = true) (ops : List Op) (st : SState) :
    ∀ k ∈ keys (run cfg st ops), k ∈ keys st ∨ k ∈ userKeys ops := by
  refine run_mem cfg keys userKeys (fun op _ => by cases op <;> rfl) (fun st op k h => ?_) ops st
  cases op with
  | inbound sender req => exact .inl (serve_manual_keys cfg hm st sender req k h)
  | userPut key size => exact (storePut_keys cfg st _ k h).imp id (by simp [userKeys])
  | getRecord key => exact .inl (storeGet_keys st key k h)
  | startProviding now key =>
    exact .inl (by simpa [step, putLocalProvider, keys, (putProvider_records st key 0).1] using h)
  | stopProviding key =>
    refine .inl ?_
    simp only [step, stopProviding] at h
    split at h <;> exact h
  | addKnown p a => exact .inl (by simpa [step, keys, addKnown_records] using h)
  | learn peers => exact .inl (by simpa [step, keys, learn_records] using h)

/-- **Manual routing-table updates.** In manual update mode every peer of the routing table was added by the user. -/
theorem manual_table (cfg : Cfg) (hm : cfg.manualUpdate = true) (ops : List Op) (st : SState) :
    ∀ p ∈ (run cfg st ops).table, p ∈ st.table ∨ p ∈ userPeers ops := by
  refine run_mem cfg (·.table) userPeers (fun op _ => by cases op <;> rfl) (fun st op k h => ?_) ops st
  cases op with
  | inbound sender req => exact .inl (by simpa [step, serve_table] using h)
  | userPut key size => exact .inl (by simpa [step, storePut_table] using h)
  | getRecord key => exact .inl (by simpa [step, storeGet_table] using h)
  | startProviding now key =>
    exact .inl (by simpa [step, putLocalProvider, (putProvider_records st key 0).2] using h)
  | stopProviding key =>
    refine .inl ?_
    simp only [step, stopProviding] at h
    split at h <;> exact h
  | addKnown p a => exact (addKnown_table st p a k h).imp id (by simp [userPeers])
  | learn peers => exact .inl (by simpa [step, learn, hm] using h)

/-- Which requests are answered — independent of the configuration. -/
def Req.answered : Req → Bool
  | .findNode | .getValue (some _) | .putValue .. | .getProviders (some _) => true
  | _ => false

theorem serve_reply_iff (cfg : Cfg) (st : SState) (p : Nat) (req : Req) :
    (serve cfg st p req).2.1.isSome = req.answered := by
  cases req with
  | findNode => rfl
  | getValue key => cases key <;> rfl
  | putValue k0 size => rfl
  | addProvider k0 prov => simp only [serve]; split <;> rfl
  | getProviders key => cases key <;> rfl
  | garbage => rfl

theorem serve_auto_stores (cfg : Cfg) (ha : cfg.manualValidation = false) (st : SState) (p k size : Nat)
    (hsize : size < cfg.maxRecordSize) (hroom : hasKey st.records k = true ∨ st.records.length < cfg.maxRecords) :
    k ∈ keys (serve cfg st p (.putValue k size)).1 := by
  simp only [serve, ha, Bool.false_eq_true, if_false, storePut]
  rw [if_neg (by omega)]
  split
  · rename_i hk
    simp only [hasKey, List.any_eq_true] at hk
    obtain ⟨x, hx, hxk⟩ := hk
    simp only [keys, List.map_map, List.mem_map]
    refine ⟨x, hx, ?_⟩
    have : x.key = k := by simpa using hxk
    simp [this]
  · rename_i hk
    rcases hroom with h | h
    · exact absurd h hk
    · rw [if_neg (by omega)]
      simp [keys]

end Litep2pVerif.Kad.Serve
