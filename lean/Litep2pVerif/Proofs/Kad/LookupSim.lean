import Litep2pVerif.Proofs.Kad.Lookup
/-!
# `GetRecordContext` and `GetProvidersContext` are instances of the generic frontier (C15)

Both keep `pending` as a map from peer id to `KademliaPeer` and move peers between `candidates`,
`pending` and `queried` with the same three statements; `VStep.send_kp` / `VStep.answer_kp` are those
statements as moves. For every event a step of either context is a `VStep` of its view; their runs
are `runG`. (`FindNodeContext` is in `FindNode.lean`.)
-/
namespace Litep2pVerif.Kad.Query

def kpPeers (l : List KPeer) : List Nat := l.map (·.peer)

theorem kpLookup_eq_find? (p : Nat) (l : List KPeer) : kpLookup p l = l.find? (fun x => x.peer = p) := by
  induction l with
  | nil => rfl
  | cons y ys ih => simp only [kpLookup, List.find?_cons, ih]; split <;> simp [*]

theorem kpLookup_peer {p : Nat} {l : List KPeer} {kp : KPeer} (h : kpLookup p l = some kp) : kp.peer = p := by
  rw [kpLookup_eq_find?] at h
  simpa using List.find?_some h

theorem kpLookup_isSome {p : Nat} {l : List KPeer} : (kpLookup p l).isSome = true ↔ p ∈ kpPeers l := by
  simp [kpLookup_eq_find?, kpPeers]

theorem kpPeers_erase (p : Nat) (l : List KPeer) : kpPeers (kpErase p l) = (kpPeers l).filter (· ≠ p) := by
  unfold kpPeers kpErase
  rw [List.filter_map]
  rfl

theorem kpErase_length_le (p : Nat) (l : List KPeer) : (kpErase p l).length ≤ l.length :=
  List.length_filter_le _ _

/-- `schedule_next_peer` of a context with a `KademliaPeer` map. -/
theorem VStep.send_kp {d U} (l : Nat) {cands : DMap} (pending : List KPeer) (queried : List Nat)
    {k : Nat} {c : KPeer} {rest : DMap} (hc : cands = (k, c) :: rest) :
    VStep d U ⟨l, cands, kpPeers pending, queried⟩ ⟨l, rest, kpPeers (c :: kpErase c.peer pending), queried⟩
      (some c.peer) [] true := by
  have := VStep.send (d := d) (U := U) ⟨l, cands, kpPeers pending, queried⟩ k c rest hc
  simp only [← kpPeers_erase] at this
  exact this

/-- `register_response`, and with `peers = []` `register_response_failure`, for a peer that is pending. -/
theorem VStep.answer_kp {d U} (l : Nat) (cands : DMap) {pending : List KPeer} (queried : List Nat)
    {p : Nat} {kp : KPeer} (hl : kpLookup p pending = some kp) (peers : List KPeer)
    (hpeers : ∀ kp ∈ peers, kp.dist = d kp.peer ∧ kp.peer ∈ U) :
    VStep d U ⟨l, cands, kpPeers pending, queried⟩
      ⟨l, addCandidates l (sinsert kp.peer queried) ((kpErase p pending).map (·.peer)) cands peers,
        kpPeers (kpErase p pending), sinsert kp.peer queried⟩ none (peers.map (·.peer)) true := by
  have := VStep.answer ⟨l, cands, kpPeers pending, queried⟩ p peers (kpLookup_isSome.1 (by simp [hl])) hpeers
  simp only [← kpPeers_erase] at this
  rw [kpLookup_peer hl]
  exact this

def GetRecord.view (s : GetRecord) : View := ⟨s.localPeer, s.candidates, kpPeers s.pending, s.queried⟩

def GetRecord.learn (s : GetRecord) : GREv → List Nat
  | .resp p _ peers => if (kpLookup p s.pending).isSome then peers.map (·.peer) else []
  | _ => []

/-- The frontier moved (a request was sent, or an outstanding one was consumed). -/
def GetRecord.moved (s : GetRecord) : GREv → Bool
  | .next => isSend s.nextAction.2
  | .resp p _ _ => (kpLookup p s.pending).isSome
  | .fail p => (kpLookup p s.pending).isSome

/-- The outcomes of `GetRecordContext::next_action`, one constructor per path through it. -/
inductive GetRecord.Next (s : GetRecord) : GetRecord × Option QAction → Prop
  | report (p v : Nat) (rest : List (Nat × Nat)) (hr : s.records = (p, v) :: rest) :
      Next s ({ s with records := rest }, some (.partialRecord s.query p v))
  | done (hr : s.records = []) (hp : s.pending = []) (hc : s.candidates = []) :
      Next s (s, some (if s.knownRecords + s.foundRecords = 0 then .failed s.query else .succeeded s.query))
  | quorum (hr : s.records = []) (hs : s.sufficient s.foundRecords = true) :
      Next s (s, some (.succeeded s.query))
  | wait (hr : s.records = []) (hp : 1 ≤ s.par → s.pending ≠ []) : Next s (s, none)
  | send (hr : s.records = []) (hns : ¬ s.sufficient s.foundRecords = true)
      (hpar : s.pending.length ≠ s.par) (k : Nat) (c : KPeer) (rest : DMap)
      (hc : s.candidates = (k, c) :: rest) :
      Next s ({ s with candidates := rest, pending := c :: kpErase c.peer s.pending },
        some (.send s.query c.peer))

theorem GetRecord.nextAction_next (s : GetRecord) : s.Next s.nextAction := by
  unfold GetRecord.nextAction
  split
  · exact .report _ _ _ ‹_›
  · rename_i hr
    split
    · rename_i hd
      exact .done hr (by simpa using hd.1) (by simpa using hd.2)
    · rename_i hnd
      split
      · exact .quorum hr ‹_›
      · split
        · rename_i hfull
          exact .wait hr (fun _ hp => by rw [hp] at hfull; simp at hfull; omega)
        · unfold GetRecord.scheduleNextPeer
          split
          · rename_i hc
            exact .wait hr (fun _ hp => hnd (by simp [hp, hc]))
          · exact .send hr ‹_› ‹_› _ _ _ ‹_›

theorem GetRecord.next_sim (d : Nat → Nat) (U : List Nat) (s : GetRecord) :
    VStep d U s.view s.nextAction.1.view (sendOf s.nextAction.2) [] (isSend s.nextAction.2) := by
  have h := s.nextAction_next
  generalize s.nextAction = r at h ⊢
  cases h with
  | send _ _ _ k c rest hc => exact VStep.send_kp _ _ _ hc
  | done => split <;> exact VStep.stay _
  | _ => exact VStep.stay _

theorem GetRecord.sim (d : Nat → Nat) (U : List Nat) :
    Simulates d U GetRecord.step GetRecord.view (GREv.ok d U) GetRecord.learn GetRecord.moved := by
  intro s e hok
  cases e with
  | next => exact GetRecord.next_sim d U s
  | resp p r peers =>
    simp only [GetRecord.step, GetRecord.learn, GetRecord.moved]
    cases hl : kpLookup p s.pending with
    | none => simp only [GetRecord.registerResponse, hl]; exact VStep.stay _
    | some kp =>
      simp only [GetRecord.registerResponse, hl, Option.isSome_some, if_true]
      exact VStep.answer_kp _ _ _ hl peers hok
  | fail p =>
    simp only [GetRecord.step, GetRecord.learn, GetRecord.moved]
    cases hl : kpLookup p s.pending with
    | none => simp only [GetRecord.registerResponseFailure, hl]; exact VStep.stay _
    | some kp =>
      simp only [GetRecord.registerResponseFailure, hl, Option.isSome_some]
      exact VStep.answer_kp _ _ _ hl [] (by simp)

theorem GetRecord.run_eq (evs : List GREv) (s : GetRecord) : s.run evs = runG GetRecord.step s evs :=
  runG_unique (run := GetRecord.run) (fun _ => rfl) (fun _ _ _ => rfl) evs s

theorem GetRecord.learned_eq (evs : List GREv) (s : GetRecord) :
    s.learned evs = learnedG GetRecord.step GetRecord.learn s evs :=
  learnedG_unique (learned := GetRecord.learned) (fun _ => rfl) (fun s e es => by
    cases e <;> simp only [GetRecord.learned, GetRecord.learn, List.nil_append]
    split <;> simp) evs s

def GetProviders.view (s : GetProviders) : View := ⟨s.localPeer, s.candidates, kpPeers s.pending, s.queried⟩

def GetProviders.learn (s : GetProviders) : GPEv → List Nat
  | .resp p _ peers => if (kpLookup p s.pending).isSome then peers.map (·.peer) else []
  | _ => []

/-- The outcomes of `GetProvidersContext::next_action`. -/
inductive GetProviders.Next (s : GetProviders) : GetProviders × Option QAction → Prop
  | done (hp : s.pending = []) (hc : s.candidates = []) :
      Next s (s, some (if s.foundProviders.isEmpty then .failed s.query else .succeeded s.query))
  | wait (hp : 1 ≤ s.par → s.pending ≠ []) : Next s (s, none)
  | send (hpar : s.pending.length ≠ s.par) (k : Nat) (c : KPeer) (rest : DMap)
      (hc : s.candidates = (k, c) :: rest) :
      Next s ({ s with candidates := rest, pending := c :: kpErase c.peer s.pending },
        some (.send s.query c.peer))

theorem GetProviders.nextAction_next (s : GetProviders) : s.Next s.nextAction := by
  unfold GetProviders.nextAction
  split
  · rename_i hd
    exact .done (by simpa using hd.1) (by simpa using hd.2)
  · rename_i hnd
    split
    · rename_i hfull
      exact .wait (fun _ hp => by rw [hp] at hfull; simp at hfull; omega)
    · unfold GetProviders.scheduleNextPeer
      split
      · rename_i hc
        exact .wait (fun _ hp => hnd (by simp [hp, hc]))
      · exact .send ‹_› _ _ _ ‹_›

theorem GetProviders.next_sim (d : Nat → Nat) (U : List Nat) (s : GetProviders) :
    VStep d U s.view s.nextAction.1.view (sendOf s.nextAction.2) [] (isSend s.nextAction.2) := by
  have h := s.nextAction_next
  generalize s.nextAction = r at h ⊢
  cases h with
  | send _ k c rest hc => exact VStep.send_kp _ _ _ hc
  | done => split <;> exact VStep.stay _
  | wait => exact VStep.stay _

theorem GetProviders.sim (d : Nat → Nat) (U : List Nat) :
    Simulates d U GetProviders.step GetProviders.view (GPEv.ok d U) GetProviders.learn
      GetProviders.productive := by
  intro s e hok
  cases e with
  | next => exact GetProviders.next_sim d U s
  | resp p r peers =>
    simp only [GetProviders.step, GetProviders.learn, GetProviders.productive]
    cases hl : kpLookup p s.pending with
    | none => simp only [GetProviders.registerResponse, hl]; exact VStep.stay _
    | some kp =>
      simp only [GetProviders.registerResponse, hl, Option.isSome_some, if_true]
      exact VStep.answer_kp _ _ _ hl peers hok
  | fail p =>
    simp only [GetProviders.step, GetProviders.learn, GetProviders.productive]
    cases hl : kpLookup p s.pending with
    | none => simp only [GetProviders.registerResponseFailure, hl]; exact VStep.stay _
    | some kp =>
      simp only [GetProviders.registerResponseFailure, hl, Option.isSome_some]
      exact VStep.answer_kp _ _ _ hl [] (by simp)

theorem GetProviders.run_eq (evs : List GPEv) (s : GetProviders) : s.run evs = runG GetProviders.step s evs :=
  runG_unique (run := GetProviders.run) (fun _ => rfl) (fun _ _ _ => rfl) evs s

theorem GetProviders.learned_eq (evs : List GPEv) (s : GetProviders) :
    s.learned evs = learnedG GetProviders.step GetProviders.learn s evs :=
  learnedG_unique (learned := GetProviders.learned) (fun _ => rfl) (fun s e es => by
    cases e <;> simp only [GetProviders.learned, GetProviders.learn, List.nil_append]
    split <;> simp) evs s

theorem GetProviders.productiveCount_eq (evs : List GPEv) : ∀ (s : GetProviders),
    s.productiveCount evs = prodCountG GetProviders.step GetProviders.productive s evs := by
  induction evs with
  | nil => intro s; rfl
  | cons e es ih => intro s; simp only [GetProviders.productiveCount, prodCountG, ih]

end Litep2pVerif.Kad.Query
