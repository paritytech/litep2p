import Litep2pVerif.Model.Kad.Coordinator
/-!
Helper lemmas and invariants for the Kademlia coordinator model (C16): what a handler does to the engine and the ledgers
(`Shr`, `SameLedger`; `Frame`: engine, futures and ledgers untouched); the substream handlers and the engine actions in
closed form (`drainDials_eq`, `SubOpened`, `osd_cases`, `EStep`); `Ledger`: the terminal-event ledger (ids unique, an id is
live xor has one terminal event); `QuorumInv`: what a tracker counted is backed by send-success results.
-/
namespace Litep2pVerif.Kad.Coordinator

def ids (e : Engine) : List Qid := e.map (·.id)

@[simp] theorem ids_updQ (e : Engine) (q : Qid) (f : QState → QState) : ids (updQ e q f) = ids e := by
  unfold ids updQ
  rw [List.map_map]
  apply List.map_congr_left
  intro x _
  by_cases h : x.id = q <;> simp [h]

@[simp] theorem ids_regRespDone (e q p) : ids (regRespDone e q p) = ids e := ids_updQ ..
@[simp] theorem ids_regSendFail (e q p) : ids (regSendFail e q p) = ids e := ids_updQ ..
@[simp] theorem ids_regSendOk (e q p) : ids (regSendOk e q p) = ids e := ids_updQ ..
@[simp] theorem ids_regPeerFail (e q p) : ids (regPeerFail e q p) = ids e := by simp [regPeerFail]

@[simp] theorem ids_append (e : Engine) (x : Query) : ids (e ++ [x]) = ids e ++ [x.id] := by simp [ids]

theorem ids_removeQ (e : Engine) (q : Qid) : ids (removeQ e q) = (ids e).filter (· != q) := by
  unfold ids removeQ
  rw [List.filter_map]
  rfl

theorem mem_updQ {e : Engine} {q : Qid} {f : QState → QState} {x' : Query} (h : x' ∈ updQ e q f) :
    ∃ x ∈ e, x'.id = x.id ∧ ((x.id ≠ q ∧ x'.st = x.st) ∨ (x.id = q ∧ x'.st = f x.st)) := by
  unfold updQ at h
  rw [List.mem_map] at h
  obtain ⟨x, hx, rfl⟩ := h
  refine ⟨x, hx, ?_⟩
  by_cases hq : x.id = q <;> simp [hq]

theorem findQ_mem {e : Engine} {q : Qid} {x : Query} (h : findQ e q = some x) : x ∈ e ∧ x.id = q := by
  unfold findQ at h
  exact ⟨List.mem_of_find?_eq_some h, by simpa using List.find?_some h⟩

theorem mem_dialActions {s : State} {p : Peer} {a : PAction} : a ∈ dialActions s p ↔ (p, a) ∈ s.dials := by
  simp [dialActions]

theorem mem_actionsOf {s : State} {p : Peer} {a : PAction} : a ∈ actionsOf s p ↔ ∃ sid, (p, sid, a) ∈ s.actions := by
  simp [actionsOf]

/-- The only ways a handler other than an engine action, a user command or a send-success result changes the engine (the
tails of the engine actions too); `T` holds of every query and peer for which a response (or response failure) is
registered. -/
inductive Shr (T : Qid → Peer → Prop) : Engine → Engine → Prop
  | refl (e) : Shr T e e
  | respDone {e e'} (q p) : T q p → Shr T e e' → Shr T e (regRespDone e' q p)
  | sendFail {e e'} (q p) : Shr T e e' → Shr T e (regSendFail e' q p)

theorem Shr.trans {T} {a b c : Engine} (h1 : Shr T a b) (h2 : Shr T b c) : Shr T a c := by
  induction h2 with
  | refl => exact h1
  | respDone q p ht _ ih => exact .respDone q p ht ih
  | sendFail q p _ ih => exact .sendFail q p ih

/-- `regPeerFail e q p` is this by definition. -/
theorem Shr.bothFail {T} (e : Engine) (q p) (ht : T q p) : Shr T e (regRespDone (regSendFail e q p) q p) :=
  .respDone q p ht (.sendFail q p (.refl e))

theorem Shr.foldl {T} {α} (g : Engine → α → Engine) (l : List α) (hg : ∀ a ∈ l, ∀ e, Shr T e (g e a))
    (e : Engine) : Shr T e (l.foldl g e) := by
  induction l generalizing e with
  | nil => exact .refl e
  | cons a l ih =>
    exact (hg a List.mem_cons_self e).trans (ih (fun b hb => hg b (List.mem_cons_of_mem _ hb)) (g e a))

theorem Shr.ids {T} {e e' : Engine} (h : Shr T e e') : ids e' = ids e := by
  induction h with
  | refl => rfl
  | respDone q p _ _ ih => simp [ih]
  | sendFail q p _ ih => simp [ih]

/-- `e'` is obtained from `e` by `register_send_failure`, `register_send_success` and — only for pairs
satisfying `T` — `register_response(_failure)`. -/
inductive ShrT (T : Qid → Peer → Prop) : Engine → Engine → Prop
  | refl (e) : ShrT T e e
  | respDone {e e'} (q p) : T q p → ShrT T e e' → ShrT T e (regRespDone e' q p)
  | sendFail {e e'} (q p) : ShrT T e e' → ShrT T e (regSendFail e' q p)
  | sendOk {e e'} (q p) : ShrT T e e' → ShrT T e (regSendOk e' q p)

theorem ShrT.mono {T T' : Qid → Peer → Prop} (hm : ∀ q p, T q p → T' q p) {a b : Engine} (h : ShrT T a b) :
    ShrT T' a b := by
  induction h with
  | refl => exact .refl _
  | respDone q p ht _ ih => exact .respDone q p (hm _ _ ht) ih
  | sendFail q p _ ih => exact .sendFail q p ih
  | sendOk q p _ ih => exact .sendOk q p ih

theorem Shr.shrT {T} {e e' : Engine} (h : Shr T e e') : ShrT T e e' := by
  induction h with
  | refl => exact .refl _
  | respDone q p ht _ ih => exact .respDone q p ht ih
  | sendFail q p _ ih => exact .sendFail q p ih

/-- The ghost ledgers and `nextQid`: fields that only the user commands, the engine actions and, for `sendResults`, the
send-success executor results (`execResult`) change. -/
structure SameLedger (s s' : State) : Prop where
  events : s'.events = s.events
  started : s'.started = s.started
  nextQid : s'.nextQid = s.nextQid
  successLog : s'.successLog = s.successLog
  sendResults : s'.sendResults = s.sendResults

/-- The ledger fields are compared by evaluation: a handler's record update does not mention them. -/
theorem SameLedger.of_eq {s s' : State} (h1 : s'.events = s.events := by rfl) (h2 : s'.started = s.started := by rfl)
    (h3 : s'.nextQid = s.nextQid := by rfl) (h4 : s'.successLog = s.successLog := by rfl)
    (h5 : s'.sendResults = s.sendResults := by rfl) : SameLedger s s' :=
  ⟨h1, h2, h3, h4, h5⟩

theorem SameLedger.trans {a b c : State} (h1 : SameLedger a b) (h2 : SameLedger b c) : SameLedger a c :=
  ⟨h2.events.trans h1.events, h2.started.trans h1.started, h2.nextQid.trans h1.nextQid,
   h2.successLog.trans h1.successLog, h2.sendResults.trans h1.sendResults⟩

structure Frame (s s' : State) : Prop where
  same : SameLedger s s'
  engine : s'.engine = s.engine
  futs : s'.futs = s.futs

theorem Frame.trans {a b c : State} (h1 : Frame a b) (h2 : Frame b c) : Frame a c :=
  ⟨h1.same.trans h2.same, h2.engine.trans h1.engine, h2.futs.trans h1.futs⟩

/-- `outs`: whether the substream of each pending dial action could be opened. -/
def drainOpened (n : Sid) : List PAction → List Bool → List (Sid × PAction)
  | [], _ => []
  | a :: as, outs =>
    if outs.headD false then (n, a) :: drainOpened (n + 1) as outs.tail else drainOpened n as outs.tail

def drainFailed : List PAction → List Bool → List PAction
  | [], _ => []
  | a :: as, outs => if outs.headD false then drainFailed as outs.tail else a :: drainFailed as outs.tail

theorem drainDials_eq (p : Peer) (s : State) (acts : List PAction) (outs : List Bool) :
    drainDials p s acts outs =
      { s with
        pendingSubs := s.pendingSubs ++ (drainOpened s.nextSid acts outs).map fun x => (x.1, p)
        actions := s.actions ++ (drainOpened s.nextSid acts outs).map fun x => (p, x.1, x.2)
        opening := s.opening ++ (drainOpened s.nextSid acts outs).map fun x => (x.1, p)
        nextSid := s.nextSid + (drainOpened s.nextSid acts outs).length
        engine := (drainFailed acts outs).foldl (fun e a => regRespDone (regSendFail e a.q p) a.q p) s.engine } := by
  induction acts generalizing s outs with
  | nil => simp [drainDials, drainOpened, drainFailed]
  | cons a as ih =>
    unfold drainDials drainOpened drainFailed
    split
    · rw [ih]; simp [Nat.add_assoc, Nat.add_comm 1]
    · rw [ih]; rfl

theorem drainOpened_sids (n : Sid) (acts : List PAction) (outs : List Bool) :
    (drainOpened n acts outs).map (·.1) = List.range' n (drainOpened n acts outs).length := by
  induction acts generalizing n outs with
  | nil => rfl
  | cons a as ih =>
    unfold drainOpened
    split
    · simp [ih, List.range'_succ]
    · exact ih ..

theorem drain_perm (n : Sid) (acts : List PAction) (outs : List Bool) :
    ((drainOpened n acts outs).map (·.2) ++ drainFailed acts outs).Perm acts := by
  induction acts generalizing n outs with
  | nil => exact .refl _
  | cons a as ih =>
    unfold drainOpened drainFailed
    split
    · exact (ih ..).cons a
    · exact List.perm_middle.trans ((ih ..).cons a)

/-- `s` without what is tracked under substream id `sid` (for peer `p`). -/
def minusSid (s : State) (sid : Sid) (p : Peer) : State :=
  { s with opening := s.opening.filter (fun o => o.1 != sid)
           pendingSubs := s.pendingSubs.filter (fun x => x.1 != sid)
           actions := s.actions.filter (fun x => !(x.1 == p && x.2.1 == sid)) }

/-- The outcomes of `on_outbound_substream`. -/
inductive SubOpened (s : State) (sid : Sid) : State → Prop
  | unknown : SubOpened s sid s
  | noAction {p} : (sid, p) ∈ s.opening → (p ∉ s.ctx ∨ actionAt s p sid = none) →
      SubOpened s sid { s with opening := s.opening.filter (fun o => o.1 != sid)
                               pendingSubs := s.pendingSubs.filter (fun x => x.1 != sid) }
  | stale {p a} : (sid, p) ∈ s.opening → actionAt s p sid = some a → a.kind = .findNode →
      nextPeerAction s.engine a.q p = false → SubOpened s sid (minusSid s sid p)
  | started {p a} (k : FKind) : (sid, p) ∈ s.opening → actionAt s p sid = some a →
      ((a.kind = .findNode ∧ k = .reqResp ∧ nextPeerAction s.engine a.q p = true) ∨
        (a.kind = .putValue ∧ k = .putEat) ∨ (a.kind = .addProvider ∧ k = .sendMsg)) →
      SubOpened s sid { minusSid s sid p with futs := s.futs ++ [⟨p, a.q, k⟩] }

theorem subOpened_cases (s : State) (sid : Sid) : SubOpened s sid (subOpened s sid).1 := by
  unfold subOpened
  split
  · exact .unknown
  · rename_i sid0 p hfind
    have hmem : (sid, p) ∈ s.opening := by
      have h1 : sid0 = sid := by simpa using List.find?_some hfind
      exact h1 ▸ List.mem_of_find?_eq_some hfind
    simp only []
    split
    · split
      · rename_i hact
        exact .noAction hmem (.inr hact)
      · rename_i a hact
        split
        · rename_i hk
          split
          · rename_i hn
            exact .started .reqResp hmem hact (.inl ⟨hk, rfl, hn⟩)
          · rename_i hn
            exact .stale hmem hact hk (by simpa using hn)
        · rename_i hk
          exact .started .putEat hmem hact (.inr (.inl ⟨hk, rfl⟩))
        · rename_i hk
          exact .started .sendMsg hmem hact (.inr (.inr ⟨hk, rfl⟩))
    · rename_i hctx
      exact .noAction hmem (.inl hctx)

theorem osd_cases (s : State) (p : Peer) (a : PAction) (o : OsdIn) :
    (p ∈ s.connected ∧ osd s p a o = (openSub s p a, true)) ∨
    osd s p a o = ({ s with dials := s.dials ++ [(p, a)]
                            dialing := if p ∈ s.dialing then s.dialing else s.dialing ++ [p] }, true) ∨
    osd s p a o = (s, false) := by
  unfold osd
  split
  · rename_i h
    exact .inl ⟨h.1, rfl⟩
  · split
    · exact .inr (.inl rfl)
    · split
      · rename_i h
        exact .inl ⟨h.1, rfl⟩
      · exact .inr (.inr rfl)
    · exact .inr (.inr rfl)

theorem osd_frame (s : State) (p : Peer) (a : PAction) (o : OsdIn) : Frame s (osd s p a o).1 := by
  rcases osd_cases s p a o with ⟨-, h⟩ | h | h <;> rw [h] <;> exact ⟨.of_eq, rfl, rfl⟩

theorem fanOut_frame (k : AKind) (q : Qid) (s : State) (ps : List Peer) (outs : List OsdIn) :
    Frame s (fanOut k q s ps outs).1 := by
  induction ps generalizing s outs with
  | nil => exact ⟨.of_eq, rfl, rfl⟩
  | cons p ps ih => exact (osd_frame ..).trans (ih _ _)

theorem sendMessage_shr (s : State) (q : Qid) (p : Peer) (o : OsdIn) :
    SameLedger s (sendMessage s q p o) ∧ Shr (fun q' p' => q' = q ∧ p' = p) s.engine (sendMessage s q p o).engine := by
  have hf := osd_frame s p ⟨.findNode, q⟩ o
  unfold sendMessage
  split
  · exact ⟨hf.same, hf.engine ▸ .refl _⟩
  · exact ⟨hf.same.trans .of_eq, hf.engine ▸ .bothFail _ q p ⟨rfl, rfl⟩⟩

/-- `finish`: a lookup that fails or needs no send phase, or a finished tracker; only a successful tracker is logged. -/
inductive EStep (s : State) (outs : List OsdIn) : State → Prop
  | send {q key kind quorum ps} (p : Peer) : ⟨q, key, .lookup kind quorum ps⟩ ∈ s.engine → p ∉ ps →
      EStep s outs (sendMessage { s with engine := updQ s.engine q fun _ => .lookup kind quorum (ps ++ [p]) } q p
        (outs.headD default))
  | finish {x : Query} (ok : Bool) (log : List SuccessRec) : x ∈ s.engine →
      (log = s.successLog ∨ ∃ b t, x.st = .tracker b t ∧ t.isSucceeded = true ∧
        log = s.successLog ++ [⟨x.id, t.quorum, t.nTargets, t.counted⟩]) →
      EStep s outs { emit { s with engine := removeQ s.engine x.id } x.id ok with successLog := log }
  | fanOut {q key kind quorum ps} (k : AKind) (isPut : Bool) (peers : List Peer) :
      ⟨q, key, .lookup kind quorum ps⟩ ∈ s.engine → (∀ p ∈ peers, p ∉ ps) → k ≠ .findNode →
      EStep s outs (startTracking (fanOut k q { s with engine := removeQ s.engine q } peers outs) q key isPut peers quorum)
  | idle : EStep s outs s

theorem engineStep_estep {s s' : State} {act : EAct} {outs : List OsdIn} (h : engineStep s act outs = some s') :
    EStep s outs s' := by
  unfold engineStep at h
  cases act with
  | send q p =>
    simp only at h
    split at h
    · rename_i qi key kind quorum ps hf
      obtain ⟨hx, rfl⟩ := findQ_mem hf
      split at h
      · cases h
      · rename_i hg
        cases h
        exact .send p hx (fun hc => hg (.inr hc))
    · cases h
  | lookupDone q ok peers =>
    simp only at h
    split at h
    · rename_i qi key kind quorum ps hf
      obtain ⟨hx, rfl⟩ := findQ_mem hf
      have fin : ∀ ok, EStep s outs (emit { s with engine := removeQ s.engine qi } qi ok) :=
        fun ok => .finish ok _ hx (.inl rfl)
      split at h
      · split at h
        · cases h
        · cases h; exact fin false
      · split at h
        · cases h; exact fin true
        · cases h; exact fin true
        · cases h; exact fin true
        · split at h
          · cases h
          · rename_i hg
            cases h
            refine .fanOut _ _ peers hx (fun p hp hc => hg (List.any_eq_true.mpr ⟨p, hp, by simpa using hc⟩)) ?_
            split <;> simp
    · cases h
  | partialResult q =>
    simp only at h
    split at h
    · cases h; exact .idle
    · cases h
  | trackerDone q =>
    simp only at h
    split at h
    · rename_i qi key b t hf
      obtain ⟨hx, rfl⟩ := findQ_mem hf
      split at h
      · split at h
        · rename_i hsucc
          cases h
          rw [hsucc]
          exact .finish true _ hx (.inr ⟨b, t, rfl, hsucc, rfl⟩)
        · cases h
          exact .finish _ _ hx (.inl rfl)
      · cases h
    · cases h

/-- `start_*_tracking`: the tracker is pushed, then the unreachable targets are failed. -/
theorem startTracking_shr (r : State × List Peer) (q key isPut peers quorum) :
    let s0 : State := { r.1 with engine := r.1.engine ++ [⟨q, key, .tracker isPut (Tracker.new peers quorum)⟩] }
    SameLedger s0 (startTracking r q key isPut peers quorum) ∧
      Shr (fun _ _ => False) s0.engine (startTracking r q key isPut peers quorum).engine :=
  ⟨.of_eq, Shr.foldl _ _ (fun p _ e => .sendFail q p (.refl e)) _⟩

/-- `stored := st`: `put_record` stores the record locally before it starts its lookup. -/
theorem command_eq (s : State) (c : Cmd) :
    (∃ st kind key quorum, command s c = startLookup { s with stored := st } kind key quorum) ∨
    command s c = { s with started := s.started ++ [s.nextQid], nextQid := s.nextQid + 1
                           events := s.events ++ [(s.nextQid, true)] } := by
  cases c <;> simp only [command]
  case getRecord =>
    split
    · exact .inr rfl
    · exact .inl ⟨s.stored, _, _, _, rfl⟩
  all_goals exact .inl ⟨_, _, _, _, rfl⟩

structure Ledger (s : State) : Prop where
  idsNodup : (ids s.engine).Nodup
  idsLt : ∀ q ∈ ids s.engine, q < s.nextQid
  evNodup : (s.events.map (·.1)).Nodup
  evLt : ∀ q ∈ s.events.map (·.1), q < s.nextQid
  disjoint : ∀ q ∈ s.events.map (·.1), q ∉ ids s.engine
  accounted : ∀ q, q ∈ s.started ↔ (q ∈ ids s.engine ∨ q ∈ s.events.map (·.1))

/-- `Ledger` speaks of this list only up to permutation (`ledger_iff`). -/
def known (s : State) : List Qid := s.events.map (·.1) ++ ids s.engine

theorem ledger_iff (s : State) :
    Ledger s ↔ (known s).Nodup ∧ (∀ q ∈ known s, q < s.nextQid) ∧ ∀ q, q ∈ s.started ↔ q ∈ known s := by
  simp only [known, List.nodup_append, List.mem_append]
  constructor
  · rintro ⟨h1, h2, h3, h4, h5, h6⟩
    exact ⟨⟨h3, h1, fun a ha b hb hab => h5 a ha (hab ▸ hb)⟩, fun q hq => hq.elim (h4 q) (h2 q),
      fun q => (h6 q).trans Or.comm⟩
  · rintro ⟨⟨h3, h1, h5⟩, h24, h6⟩
    exact ⟨h1, fun q hq => h24 q (.inr hq), h3, fun q hq => h24 q (.inl hq), fun q hq hc => h5 q hq q hc rfl,
      fun q => (h6 q).trans Or.comm⟩

theorem Ledger.init : Ledger {} := by
  constructor <;> simp [ids]

theorem Ledger.of_perm {s s' : State} (h : Ledger s) (hp : (known s').Perm (known s))
    (hst : s'.started = s.started := by rfl) (hn : s'.nextQid = s.nextQid := by rfl) : Ledger s' := by
  obtain ⟨h1, h2, h3⟩ := (ledger_iff s).mp h
  refine (ledger_iff s').mpr ⟨hp.nodup_iff.mpr h1, fun q hq => hn ▸ h2 q (hp.mem_iff.mp hq), fun q => ?_⟩
  rw [hst, hp.mem_iff]
  exact h3 q

theorem Ledger.of_fresh {s s' : State} (h : Ledger s) (hp : (known s').Perm (s.nextQid :: known s))
    (hst : s'.started = s.started ++ [s.nextQid] := by rfl) (hn : s'.nextQid = s.nextQid + 1 := by rfl) :
    Ledger s' := by
  obtain ⟨h1, h2, h3⟩ := (ledger_iff s).mp h
  refine (ledger_iff s').mpr ⟨hp.nodup_iff.mpr (List.nodup_cons.mpr ⟨fun hc => Nat.lt_irrefl _ (h2 _ hc), h1⟩),
    fun q hq => ?_, fun q => ?_⟩
  · rw [hn]
    rcases List.mem_cons.mp (hp.mem_iff.mp hq) with rfl | hq
    · exact Nat.lt_succ_self _
    · exact Nat.lt_succ_of_lt (h2 q hq)
  · rw [hst, hp.mem_iff, List.mem_append, List.mem_singleton, List.mem_cons, h3 q]
    exact Or.comm

theorem Ledger.congr {s s' : State} (h : Ledger s) (hi : ids s'.engine = ids s.engine)
    (he : s'.events = s.events := by rfl) (hst : s'.started = s.started := by rfl)
    (hn : s'.nextQid = s.nextQid := by rfl) : Ledger s' :=
  h.of_perm (by rw [known, he, hi]; exact .refl _) hst hn

theorem Ledger.of_shr {T} {s s' : State} (h : Ledger s) (hq : SameLedger s s' ∧ Shr T s.engine s'.engine) : Ledger s' :=
  h.congr hq.2.ids hq.1.events hq.1.started hq.1.nextQid

theorem Ledger.setStored {s : State} (h : Ledger s) (st : List Nat) : Ledger { s with stored := st } :=
  h.congr rfl

theorem perm_cons_filter_ne {l : List Qid} (hn : l.Nodup) {q : Qid} (hq : q ∈ l) :
    (q :: l.filter (· != q)).Perm l := by
  rw [← hn.erase_eq_filter]
  exact (List.perm_cons_erase hq).symm

theorem Ledger.finish {s : State} (h : Ledger s) {q : Qid} (hq : q ∈ ids s.engine) (ok : Bool) (s1 : State)
    (he : s1.engine = removeQ s.engine q) (hs : SameLedger s s1) : Ledger (emit s1 q ok) := by
  refine h.of_perm ?_ hs.started hs.nextQid
  simp only [known, emit, hs.events, he, ids_removeQ, List.map_append, List.map_cons, List.map_nil,
    List.append_assoc, List.cons_append, List.nil_append]
  exact (perm_cons_filter_ne h.idsNodup hq).append_left _

theorem Ledger.command {s : State} (h : Ledger s) (c : Cmd) : Ledger (command s c) := by
  rcases command_eq s c with ⟨st, kind, key, quorum, e⟩ | e <;> rw [e]
  · refine (h.setStored st).of_fresh ?_
    simp only [known, startLookup, ids_append, ← List.append_assoc]
    exact List.perm_append_singleton ..
  · refine h.of_fresh ?_
    simp only [known, List.map_append, List.map_cons, List.map_nil, List.append_assoc, List.cons_append,
      List.nil_append]
    exact List.perm_middle

theorem Ledger.estep {s s' : State} {outs : List OsdIn} (h : Ledger s) (hs : EStep s outs s') : Ledger s' := by
  cases hs with
  | send p hx hp =>
    refine Ledger.of_shr ?_ (sendMessage_shr ..)
    exact h.congr (by simp only [ids_updQ])
  | @finish x ok log hx hlog =>
    exact (h.finish (List.mem_map.mpr ⟨_, hx, rfl⟩) ok { s with engine := removeQ s.engine x.id } rfl
      .of_eq).congr rfl
  | @fanOut q key kind quorum ps k isPut peers hx hps hk =>
    -- the lookup is replaced by a tracker with the same id, no event
    have hf := fanOut_frame k q { s with engine := removeQ s.engine q } peers outs
    refine Ledger.of_shr ?_ (startTracking_shr ..)
    refine h.of_perm ?_ hf.same.started hf.same.nextQid
    simp only [known, hf.same.events, hf.engine, ids_removeQ, ids_append]
    exact ((List.perm_append_singleton ..).trans
      (perm_cons_filter_ne h.idsNodup (List.mem_map.mpr ⟨_, hx, rfl⟩))).append_left _
  | idle => exact h

abbrev SendLog := List (Qid × Peer × FKind)

def TrackerOk (sr : SendLog) (q : Qid) (t : Tracker) : Prop :=
  t.counted.length = t.nSucceeded ∧ t.peersToSucceed = clampQuorum t.quorum t.nTargets ∧ t.counted.Nodup ∧
  (∀ p ∈ t.counted, p ∉ t.pending) ∧ (∀ p ∈ t.counted, ∃ k, k ≠ .reqResp ∧ (q, p, k) ∈ sr)

def StOk (sr : SendLog) (q : Qid) : QState → Prop
  | .tracker _ t => TrackerOk sr q t
  | .lookup .. => True

def EngOk (sr : SendLog) (e : Engine) : Prop := ∀ x ∈ e, StOk sr x.id x.st

def LogOk (sr : SendLog) (l : List SuccessRec) : Prop :=
  ∀ r ∈ l, clampQuorum r.quorum r.nTargets ≤ r.counted.length ∧ r.counted.Nodup ∧
    ∀ p ∈ r.counted, ∃ k, k ≠ .reqResp ∧ (r.q, p, k) ∈ sr

structure QuorumInv (s : State) : Prop where
  eng : EngOk s.sendResults s.engine
  log : LogOk s.sendResults s.successLog

theorem StOk.mono {sr sr' : SendLog} (h : ∀ x ∈ sr, x ∈ sr') {q : Qid} {st : QState} (hs : StOk sr q st) :
    StOk sr' q st := by
  cases st with
  | lookup => trivial
  | tracker b t =>
    obtain ⟨h1, h2, h3, h4, h5⟩ := hs
    exact ⟨h1, h2, h3, h4, fun p hp => let ⟨k, hk, hm⟩ := h5 p hp; ⟨k, hk, h _ hm⟩⟩

theorem StOk.respDone {sr : SendLog} {q : Qid} {st : QState} (p : Peer) (hs : StOk sr q st) :
    StOk sr q (st.respDone p) := by
  cases st with
  | lookup => trivial
  | tracker b t => exact hs

theorem StOk.sendFail {sr : SendLog} {q : Qid} {st : QState} (p : Peer) (hs : StOk sr q st) :
    StOk sr q (st.sendFail p) := by
  cases st with
  | lookup => trivial
  | tracker b t =>
    obtain ⟨h1, h2, h3, h4, h5⟩ := hs
    simp only [QState.sendFail, Tracker.sendFailure]
    split
    · exact ⟨h1, h2, h3, fun p' hp' hc => h4 p' hp' (List.mem_filter.mp hc).1, h5⟩
    · exact ⟨h1, h2, h3, h4, h5⟩

theorem StOk.sendOk {sr : SendLog} {q : Qid} {st : QState} (p : Peer) (hs : StOk sr q st)
    (hw : p ∈ st.pending → st.isLookup = false → ∃ k, k ≠ .reqResp ∧ (q, p, k) ∈ sr) : StOk sr q (st.sendOk p) := by
  cases st with
  | lookup => trivial
  | tracker b t =>
    obtain ⟨h1, h2, h3, h4, h5⟩ := hs
    simp only [QState.sendOk, Tracker.sendSuccess]
    split
    · rename_i hp
      refine ⟨by simp [h1], h2, List.nodup_cons.mpr ⟨fun hc => h4 p hc hp, h3⟩, ?_, ?_⟩
      · intro p' hp' hc
        have hf := List.mem_filter.mp hc
        rcases List.mem_cons.mp hp' with rfl | hp'
        · simp at hf
        · exact h4 p' hp' hf.1
      · intro p' hp'
        rcases List.mem_cons.mp hp' with rfl | hp'
        · exact hw hp rfl
        · exact h5 p' hp'
    · exact ⟨h1, h2, h3, h4, h5⟩

theorem EngOk.updQ {sr : SendLog} {e : Engine} (h : EngOk sr e) (q : Qid) (f : QState → QState)
    (hf : ∀ x ∈ e, x.id = q → StOk sr q x.st → StOk sr q (f x.st)) : EngOk sr (updQ e q f) := by
  intro x' hx'
  obtain ⟨x, hx, hid, hst⟩ := mem_updQ hx'
  rcases hst with ⟨_, hst⟩ | ⟨hq, hst⟩
  · rw [hid, hst]; exact h x hx
  · rw [hid, hst, hq]; exact hf x hx hq (hq ▸ h x hx)

theorem EngOk.shr {T} {sr : SendLog} {e e' : Engine} (hs : Shr T e e') (h : EngOk sr e) : EngOk sr e' := by
  induction hs with
  | refl => exact h
  | respDone q p _ _ ih => exact ih.updQ q _ (fun _ _ _ => StOk.respDone p)
  | sendFail q p _ ih => exact ih.updQ q _ (fun _ _ _ => StOk.sendFail p)

theorem EngOk.mono {sr sr' : SendLog} (hm : ∀ x ∈ sr, x ∈ sr') {e : Engine} (h : EngOk sr e) : EngOk sr' e :=
  fun x hx => (h x hx).mono hm

theorem LogOk.mono {sr sr' : SendLog} (hm : ∀ x ∈ sr, x ∈ sr') {l : List SuccessRec} (h : LogOk sr l) : LogOk sr' l :=
  fun r hr => ⟨(h r hr).1, (h r hr).2.1, fun p hp => let ⟨k, hk, hmem⟩ := (h r hr).2.2 p hp; ⟨k, hk, hm _ hmem⟩⟩

theorem EngOk.removeQ {sr : SendLog} {e : Engine} (h : EngOk sr e) (q : Qid) : EngOk sr (removeQ e q) :=
  fun x hx => h x (List.mem_filter.mp hx).1

theorem EngOk.append {sr : SendLog} {e : Engine} (h : EngOk sr e) (x : Query) (hx : StOk sr x.id x.st) :
    EngOk sr (e ++ [x]) := by
  intro y hy
  rcases List.mem_append.mp hy with hy | hy
  · exact h y hy
  · rw [List.mem_singleton.mp hy]; exact hx

theorem QuorumInv.of_shr {T} {s s' : State} (h : QuorumInv s) (hq : SameLedger s s' ∧ Shr T s.engine s'.engine) :
    QuorumInv s' :=
  ⟨by rw [hq.1.sendResults]; exact h.eng.shr hq.2, by rw [hq.1.sendResults, hq.1.successLog]; exact h.log⟩

theorem QuorumInv.command {s : State} (h : QuorumInv s) (c : Cmd) : QuorumInv (command s c) := by
  rcases command_eq s c with ⟨st, kind, key, quorum, e⟩ | e <;> rw [e]
  · exact ⟨h.eng.append _ trivial, h.log⟩
  · exact ⟨h.eng, h.log⟩

theorem QuorumInv.estep {s s' : State} {outs : List OsdIn} (h : QuorumInv s) (hs : EStep s outs s') :
    QuorumInv s' := by
  cases hs with
  | @send q key kind quorum ps p hx hp =>
    refine QuorumInv.of_shr ?_ (sendMessage_shr ..)
    exact ⟨h.eng.updQ q (fun _ => .lookup kind quorum (ps ++ [p])) (fun _ _ _ _ => trivial), h.log⟩
  | @finish x ok log hx hlog =>
    refine ⟨h.eng.removeQ _, ?_⟩
    rcases hlog with rfl | ⟨b, t, hst, hsucc, rfl⟩
    · exact h.log
    · intro r hr
      rcases List.mem_append.mp hr with hr | hr
      · exact h.log r hr
      · rw [List.mem_singleton.mp hr]
        have ht : StOk s.sendResults x.id x.st := h.eng _ hx
        rw [hst] at ht
        obtain ⟨h1, h2, h3, _, h5⟩ := ht
        refine ⟨?_, h3, h5⟩
        rw [← h2, h1]
        exact of_decide_eq_true hsucc
  | @fanOut q key kind quorum ps k isPut peers hx hps hk =>
    have hf := fanOut_frame k q { s with engine := removeQ s.engine q } peers outs
    refine QuorumInv.of_shr ?_ (startTracking_shr ..)
    refine ⟨?_, ?_⟩
    · simp only [hf.same.sendResults, hf.engine]
      exact (h.eng.removeQ q).append _ ⟨rfl, rfl, List.nodup_nil, fun _ hp => absurd hp List.not_mem_nil,
        fun _ hp => absurd hp List.not_mem_nil⟩
    · simp only [hf.same.sendResults, hf.same.successLog]
      exact h.log
  | idle => exact h

/-- `hNoReq` is an invariant (`LInv.noReq`, `CoordinatorQuorum.lean`). -/
theorem QuorumInv.sendOk {s : State} (h : QuorumInv s)
    (hNoReq : ∀ x ∈ s.engine, x.st.isLookup = false → ∀ p ∈ x.st.pending, (⟨p, x.id, .reqResp⟩ : Fut) ∉ s.futs)
    {f : Fut} (hf : f ∈ s.futs) :
    QuorumInv { s with engine := regSendOk s.engine f.q f.peer
                       sendResults := (f.q, f.peer, f.kind) :: s.sendResults } :=
  ⟨(h.eng.mono (fun _ hx => List.mem_cons_of_mem _ hx)).updQ f.q _ fun x hx hxq hst =>
      hst.sendOk f.peer fun hp hlk =>
        ⟨f.kind, fun hk => hNoReq x hx hlk f.peer hp (by rw [hxq, ← hk]; exact hf), List.mem_cons_self⟩,
    h.log.mono (fun _ hx => List.mem_cons_of_mem _ hx)⟩

end Litep2pVerif.Kad.Coordinator
