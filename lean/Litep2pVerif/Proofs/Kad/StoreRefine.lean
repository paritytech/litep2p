import Litep2pVerif.Proofs.Kad.Store
/-!
# The record half of `MemoryStore` refines a finite map with an admission rule (C17)

`lookupRec k s.records` is the abstraction of the store (the value the map holds under `k`).
`put` and `get` are characterised completely in terms of it: what a later `get` of ANY key returns
after any history is then determined by the admission rule `putAccepts` and the expiry rule, and by
nothing else (no operation touches another key).
-/
namespace Litep2pVerif.Kad.Store

theorem lookupRec_replaceRec (r : Rec) (k : Nat) (l : List Rec) :
    lookupRec k (replaceRec r l) =
      if k = r.key then (if (lookupRec r.key l).isSome then some r else none) else lookupRec k l := by
  induction l with
  | nil => simp [replaceRec, lookupRec]
  | cons x xs ih =>
    simp only [replaceRec, lookupRec]
    by_cases hx : x.key = r.key
    · simp only [hx, if_true, lookupRec, Option.isSome_some, eq_comm (a := r.key)]
      split <;> rfl
    · simp only [hx, if_false, lookupRec, ih]
      by_cases hk : k = r.key
      · simp only [hk, hx, if_true, if_false]
      · simp only [hk, if_false]

theorem put_lookup (cfg : Cfg) (s : Store) (r : Rec) (k : Nat) :
    lookupRec k (put cfg s r).records =
      if k = r.key ∧ putAccepts cfg s r = true then some r else lookupRec k s.records := by
  rw [put_eq]
  split
  · next ha =>
    simp only [ha, and_true]
    cases hl : lookupRec r.key s.records with
    | none => simp only [Option.isSome_none, Bool.false_eq_true, if_false, lookupRec, eq_comm]
    | some old => simp [lookupRec_replaceRec, hl]
  · next ha => simp [ha]

theorem get_result (s : Store) (k now : Nat) :
    (getRecord s k now).2 = (lookupRec k s.records).filter (fun r => !r.expiredAt now) := by
  unfold getRecord
  split
  · next h => rw [h]; rfl
  · next r h =>
    rw [h]
    cases he : r.expiredAt now <;> simp [Option.filter, he]

theorem get_lookup {cfg : Cfg} {s : Store} (h : Inv cfg s) (k now k' : Nat) :
    lookupRec k' (getRecord s k now).1.records =
      if k' = k then (lookupRec k s.records).filter (fun r => !r.expiredAt now)
      else lookupRec k' s.records := by
  rw [← get_result]
  unfold getRecord
  split
  · next hl => split <;> simp [*]
  · next r hl =>
    split
    · exact lookupRec_eraseRec h.recKeys k'
    · split <;> simp [*]

theorem provider_ops_keep_records (cfg : Cfg) (s : Store) (op : Op)
    (hop : match op with | .put _ => False | .get _ _ => False | _ => True) :
    (apply cfg s op).records = s.records := by
  cases op with
  | put r => exact hop.elim
  | get k now => exact hop.elim
  | putProvider k peer dist addrs now =>
    simp only [apply, putProvider]
    (repeat' split) <;> rfl
  | getProviders k now =>
    simp only [apply, getProviders]
    (repeat' split) <;> rfl
  | putLocal k lp ld now =>
    simp only [apply, putLocalProvider, putProvider]
    (repeat' split) <;> rfl
  | removeLocal k ld =>
    simp only [apply, removeLocalProvider]
    (repeat' split) <;> rfl

end Litep2pVerif.Kad.Store
