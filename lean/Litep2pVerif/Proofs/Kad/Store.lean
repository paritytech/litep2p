import Litep2pVerif.Model.Kad.Store
/-! The `MemoryStore` model (C17): what `put` and the provider-list update compute (`put_eq`; `putProvList_eq`, against
the unbounded reference `insProv`), and the invariant `Inv` kept by every operation. -/
namespace Litep2pVerif.Kad.Store

theorem lookupRec_none {k : Nat} {l : List Rec} : lookupRec k l = none ↔ k ∉ l.map (·.key) := by
  induction l with
  | nil => simp [lookupRec]
  | cons r rs ih => simp only [lookupRec]; split <;> simp_all <;> omega

theorem lookupRec_some {k : Nat} {l : List Rec} {r : Rec} (h : lookupRec k l = some r) :
    r ∈ l ∧ r.key = k := by
  induction l with
  | nil => simp [lookupRec] at h
  | cons x xs ih =>
    simp only [lookupRec] at h
    split at h
    · simp_all
    · have := ih h; simp_all

theorem replaceRec_keys (r : Rec) (l : List Rec) : (replaceRec r l).map (·.key) = l.map (·.key) := by
  induction l with
  | nil => rfl
  | cons x xs ih => simp only [replaceRec]; split <;> simp_all

theorem replaceRec_length (r : Rec) (l : List Rec) : (replaceRec r l).length = l.length := by
  have := congrArg List.length (replaceRec_keys r l); simpa using this

theorem mem_replaceRec {r x : Rec} {l : List Rec} (h : x ∈ replaceRec r l) : x = r ∨ x ∈ l := by
  induction l with
  | nil => simp [replaceRec] at h
  | cons y ys ih =>
    simp only [replaceRec] at h
    split at h <;> grind

theorem eraseRec_sublist (k : Nat) (l : List Rec) : (eraseRec k l).Sublist l := by
  induction l with
  | nil => simp [eraseRec]
  | cons x xs ih => simp only [eraseRec]; split <;> simp_all

theorem lookupRec_eraseRec {k : Nat} {l : List Rec} (hn : (l.map (·.key)).Nodup) (k' : Nat) :
    lookupRec k' (eraseRec k l) = if k' = k then none else lookupRec k' l := by
  induction l with
  | nil => simp [eraseRec, lookupRec]
  | cons x xs ih =>
    obtain ⟨hx, hn'⟩ := List.nodup_cons.1 hn
    simp only [eraseRec, lookupRec]
    by_cases hxk : x.key = k
    · subst hxk
      simp only [if_true]
      split
      · next hk => exact hk ▸ lookupRec_none.2 hx
      · next hk => rw [if_neg (Ne.symm hk)]
    · simp only [hxk, if_false, lookupRec, ih hn']
      by_cases hk : k' = k
      · simp only [hk, hxk, if_true, if_false]
      · simp only [hk, if_false]

theorem eraseRec_not_mem {k : Nat} {l : List Rec} (hn : (l.map (·.key)).Nodup) :
    k ∉ (eraseRec k l).map (·.key) :=
  lookupRec_none.1 ((lookupRec_eraseRec hn k).trans (if_pos rfl))

/-- The admission rule of `MemoryStore::put`, as a decidable predicate on the store before the call. -/
def putAccepts (cfg : Cfg) (s : Store) (r : Rec) : Bool :=
  decide (r.value.length < cfg.maxRecordSize) &&
  (match lookupRec r.key s.records with
   | some old =>
     (match old.expires, r.expires with
      | some stored, some new => decide (stored ≤ new)
      | _, _ => true)
   | none => decide (s.records.length < cfg.maxRecords))

theorem put_eq (cfg : Cfg) (s : Store) (r : Rec) :
    put cfg s r = if putAccepts cfg s r = true then
      { s with records := if (lookupRec r.key s.records).isSome then replaceRec r s.records else r :: s.records }
    else s := by
  obtain ⟨rk, rv, re⟩ := r
  unfold put putAccepts
  by_cases hsz : cfg.maxRecordSize ≤ rv.length
  · simp [hsz, Nat.not_lt.2 hsz]
  · simp only [hsz, if_false, Nat.not_le.1 hsz, decide_true, Bool.true_and]
    cases lookupRec rk s.records with
    | none =>
      by_cases hfull : cfg.maxRecords ≤ s.records.length
      · simp [hfull, Nat.not_lt.2 hfull]
      · simp [hfull, Nat.not_le.1 hfull]
    | some old =>
      obtain ⟨ok, ov, oe⟩ := old
      cases oe with
      | none => simp
      | some stored =>
        cases re with
        | none => simp
        | some new =>
          by_cases hlt : new < stored
          · simp [hlt, Nat.not_le.2 hlt]
          · simp [hlt, Nat.not_lt.1 hlt]

theorem lookupProv_none {k : Nat} {l : List (Nat × List Prov)} :
    lookupProv k l = none ↔ k ∉ l.map (·.1) := by
  induction l with
  | nil => simp [lookupProv]
  | cons r rs ih => obtain ⟨k', ps⟩ := r; simp only [lookupProv]; split <;> simp_all <;> omega

theorem lookupProv_some {k : Nat} {l : List (Nat × List Prov)} {ps : List Prov}
    (h : lookupProv k l = some ps) : (k, ps) ∈ l := by
  induction l with
  | nil => simp [lookupProv] at h
  | cons x xs ih =>
    obtain ⟨k', qs⟩ := x
    simp only [lookupProv] at h
    split at h
    · simp_all
    · simp [ih h]

theorem setProvKey_keys (k : Nat) (v : List Prov) (l : List (Nat × List Prov)) :
    (setProvKey k v l).map (·.1) = l.map (·.1) := by
  induction l with
  | nil => rfl
  | cons x xs ih => obtain ⟨k', qs⟩ := x; simp only [setProvKey]; split <;> simp_all

theorem setProvKey_length (k : Nat) (v : List Prov) (l : List (Nat × List Prov)) :
    (setProvKey k v l).length = l.length := by
  have := congrArg List.length (setProvKey_keys k v l); simpa using this

theorem mem_setProvKey {k : Nat} {v : List Prov} {l : List (Nat × List Prov)} {x : Nat × List Prov}
    (h : x ∈ setProvKey k v l) : x = (k, v) ∨ x ∈ l := by
  induction l with
  | nil => simp [setProvKey] at h
  | cons y ys ih =>
    obtain ⟨k', qs⟩ := y
    simp only [setProvKey] at h
    split at h <;> grind

theorem eraseProvKey_sublist (k : Nat) (l : List (Nat × List Prov)) : (eraseProvKey k l).Sublist l := by
  induction l with
  | nil => simp [eraseProvKey]
  | cons x xs ih => obtain ⟨k', qs⟩ := x; simp only [eraseProvKey]; split <;> simp_all

def Sorted (ps : List Prov) : Prop := ps.Pairwise (fun a b => a.dist < b.dist)

theorem lowerBound_le (d : Nat) (ps : List Prov) : lowerBound d ps ≤ ps.length := by
  unfold lowerBound; exact (List.takeWhile_sublist _).length_le

theorem lowerBound_cons (d : Nat) (p : Prov) (ps : List Prov) :
    lowerBound d (p :: ps) = if p.dist < d then lowerBound d ps + 1 else 0 := by
  unfold lowerBound; simp only [List.takeWhile_cons]; split <;> simp_all

theorem sorted_cons {p : Prov} {ps : List Prov} :
    Sorted (p :: ps) ↔ (∀ q ∈ ps, p.dist < q.dist) ∧ Sorted ps := by
  simp [Sorted]

theorem Sorted.eq_of_dist {ps : List Prov} (hs : Sorted ps) {a b : Prov} (ha : a ∈ ps) (hb : b ∈ ps)
    (h : a.dist = b.dist) : a = b :=
  List.Pairwise.forall_of_forall_of_flip (R := fun x y : Prov => x.dist = y.dist → x = y) (fun _ _ _ => rfl)
    (hs.imp fun hlt e => absurd e (Nat.ne_of_lt hlt)) (hs.imp fun hlt e => absurd e (Nat.ne_of_gt hlt)) ha hb h

theorem search_cons (d : Nat) (x : Prov) (xs : List Prov) :
    search d (x :: xs) =
      if x.dist < d then (match search d xs with | .ok i => .ok (i + 1) | .error i => .error (i + 1))
      else if x.dist = d then .ok 0 else .error 0 := by
  unfold search
  simp only [lowerBound_cons]
  by_cases h : x.dist < d
  · simp only [h, if_true, List.getElem?_cons_succ]
    cases xs[lowerBound d xs]? with
    | none => rfl
    | some q => by_cases hq : q.dist = d <;> simp only [hq, if_true, if_false]
  · simp only [h, if_false, List.getElem?_cons_zero]

theorem search_ok {d : Nat} {ps : List Prov} {i : Nat} (h : search d ps = .ok i) :
    ∃ q, ps[i]? = some q ∧ q.dist = d ∧ i = lowerBound d ps := by
  simp only [search] at h
  split at h
  · next q hq =>
    split at h
    · next hd => cases h; exact ⟨q, hq, hd, rfl⟩
    · cases h
  · cases h

theorem search_error {d : Nat} {ps : List Prov} {i : Nat} (h : search d ps = .error i) :
    i = lowerBound d ps ∧ ∀ q, ps[lowerBound d ps]? = some q → q.dist ≠ d := by
  simp only [search] at h
  split at h
  · next q hq =>
    split at h
    · cases h
    · next hd => cases h; exact ⟨rfl, fun q' hq' => Option.some.inj (hq.symm.trans hq') ▸ hd⟩
  · next hn => cases h; exact ⟨rfl, fun q' hq' => by cases hn.symm.trans hq'⟩

theorem search_of_getElem {d : Nat} : ∀ {ps : List Prov} {i : Nat} {q : Prov}, Sorted ps →
    ps[i]? = some q → q.dist = d → search d ps = .ok i
  | [], _, _, _, h, _ => by simp at h
  | x :: xs, 0, q, _, h, hd => by
    cases Option.some.inj h
    rw [search_cons, if_neg (by omega), if_pos hd]
  | x :: xs, i+1, q, hs, h, hd => by
    rw [sorted_cons] at hs
    have := hs.1 q (List.mem_of_getElem? h)
    rw [search_cons, if_pos (by omega), search_of_getElem hs.2 h hd]

def insProv (ps : List Prov) (p : Prov) : List Prov :=
  match search p.dist ps with
  | .ok i => ps.set i p
  | .error i => ps.insertIdx i p

theorem insProv_nil (p : Prov) : insProv [] p = [p] := rfl

theorem insProv_cons (x : Prov) (xs : List Prov) (p : Prov) :
    insProv (x :: xs) p =
      if x.dist < p.dist then x :: insProv xs p else if x.dist = p.dist then p :: xs else p :: x :: xs := by
  unfold insProv
  rw [search_cons]
  by_cases h : x.dist < p.dist
  · simp only [h, if_true]
    cases search p.dist xs <;> rfl
  · simp only [h, if_false]
    by_cases h' : x.dist = p.dist
    · simp only [if_pos h']; rfl
    · simp only [if_neg h']; rfl

theorem mem_insProv {ps : List Prov} {p x : Prov} (h : x ∈ insProv ps p) : x = p ∨ x ∈ ps := by
  induction ps with
  | nil => exact Or.inl (List.mem_singleton.1 h)
  | cons y ys ih =>
    rw [insProv_cons] at h
    split at h
    · rcases List.mem_cons.1 h with h | h
      · exact Or.inr (h ▸ List.mem_cons_self ..)
      · exact (ih h).imp_right (List.mem_cons_of_mem _)
    · split at h
      · exact (List.mem_cons.1 h).imp_right (List.mem_cons_of_mem _)
      · exact List.mem_cons.1 h

theorem insProv_sorted {ps : List Prov} {p : Prov} (hs : Sorted ps) : Sorted (insProv ps p) := by
  induction ps with
  | nil => simp [insProv_nil, Sorted]
  | cons y ys ih =>
    rw [insProv_cons]
    have hy := sorted_cons.1 hs
    split
    · next hlt => exact sorted_cons.2 ⟨fun q hq => (mem_insProv hq).elim (· ▸ hlt) (hy.1 q), ih hy.2⟩
    · split
      · next heq => exact sorted_cons.2 ⟨fun q hq => heq ▸ hy.1 q hq, hy.2⟩
      · refine sorted_cons.2 ⟨fun q hq => ?_, hs⟩
        rcases List.mem_cons.1 hq with rfl | hq
        · omega
        · have := hy.1 q hq; omega

theorem insProv_dists {ps : List Prov} {p : Prov} (d : Nat) :
    d ∈ (insProv ps p).map (·.dist) ↔ d = p.dist ∨ d ∈ ps.map (·.dist) := by
  induction ps with
  | nil => simp [insProv_nil]
  | cons y ys ih =>
    rw [insProv_cons]
    split
    · simp only [List.map_cons, List.mem_cons, ih]
      exact or_left_comm
    · split
      · next heq => simp only [List.map_cons, List.mem_cons, heq, or_self_left]
      · simp only [List.map_cons, List.mem_cons]

theorem insProv_ne_nil (ps : List Prov) (p : Prov) : insProv ps p ≠ [] := fun h => by
  simpa [h] using (insProv_dists (ps := ps) (p := p) p.dist).2 (.inl rfl)

theorem take_insProv_take (p : Prov) : ∀ (m : Nat) (ps : List Prov),
    (insProv (ps.take m) p).take m = (insProv ps p).take m
  | 0, _ => rfl
  | _ + 1, [] => rfl
  | m + 1, x :: xs => by
    rw [List.take_succ_cons, insProv_cons, insProv_cons]
    split
    · rw [List.take_succ_cons, List.take_succ_cons, take_insProv_take p m xs]
    · split
      · rw [List.take_succ_cons, List.take_succ_cons, List.take_take, Nat.min_self]
      · cases m with
        | zero => rfl
        | succ k => simp only [List.take_succ_cons, List.take_take, Nat.min_def, Nat.le_succ, if_true]

theorem dropLast_eq_take (l : List Prov) : l.dropLast = l.take (l.length - 1) :=
  List.dropLast_eq_take

theorem take_succ_insertIdx {α : Type} {a : α} : ∀ {l : List α} {m i : Nat}, i ≤ m → i ≤ l.length →
    (l.insertIdx i a).take (m + 1) = (l.take m).insertIdx i a
  | _, _, 0, _, _ => by simp
  | x :: xs, m + 1, i + 1, hm, hi => by
    rw [List.insertIdx_succ_cons, List.take_succ_cons, List.take_succ_cons, List.insertIdx_succ_cons,
      take_succ_insertIdx (Nat.le_of_succ_le_succ hm) (Nat.le_of_succ_le_succ hi)]

theorem take_set_lt {α : Type} {l : List α} {m i : Nat} {a : α} :
    (l.set i a).take m = (l.take m).set i a :=
  List.take_set

theorem putProvList_eq {m : Nat} {ps : List Prov} (p : Prov) (hlen : ps.length ≤ m) :
    (putProvList m ps p).1 = (insProv ps p).take m := by
  unfold putProvList insProv
  cases hsr : search p.dist ps with
  | ok i => exact (List.take_of_length_le (by rw [List.length_set]; exact hlen)).symm
  | error i =>
    obtain ⟨rfl, _⟩ := search_error hsr
    have hle := lowerBound_le p.dist ps
    have hins := List.length_insertIdx_of_le_length hle p
    simp only
    split
    · next hmax =>
      obtain rfl : ps.length = m := by omega
      rw [hmax, List.insertIdx_length_self, List.take_left']
      rfl
    · split
      · next hl =>
        obtain ⟨k, rfl⟩ : ∃ k, m = k + 1 := ⟨m - 1, by omega⟩
        rw [take_succ_insertIdx (by omega) hle, List.dropLast_eq_take, hl, Nat.add_sub_cancel]
      · exact (List.take_of_length_le (l := ps.insertIdx _ p) (by omega)).symm

theorem foldl_putProvList_take (m : Nat) (anns : List Prov) : ∀ (ps : List Prov),
    anns.foldl (fun l p => (putProvList m l p).1) (ps.take m) = (anns.foldl insProv ps).take m := by
  induction anns with
  | nil => intro ps; rfl
  | cons a as ih =>
    intro ps
    simp only [List.foldl_cons]
    rw [putProvList_eq a (List.length_take_le ..), take_insProv_take]
    exact ih _

theorem foldl_insProv_sorted (anns : List Prov) {ps : List Prov} (h : Sorted ps) : Sorted (anns.foldl insProv ps) :=
  List.foldlRecOn anns _ h fun _ hs _ _ => insProv_sorted hs

theorem foldl_insProv_dists (anns : List Prov) : ∀ (ps : List Prov) (d : Nat),
    d ∈ (anns.foldl insProv ps).map (·.dist) ↔ d ∈ anns.map (·.dist) ∨ d ∈ ps.map (·.dist) := by
  induction anns with
  | nil => intro ps d; simp
  | cons a as ih =>
    intro ps d
    simp only [List.foldl_cons, List.map_cons, List.mem_cons]
    rw [ih, insProv_dists, or_left_comm, or_assoc]

structure ProvListInv (cfg : Cfg) (ps : List Prov) : Prop where
  len : ps.length ≤ cfg.maxProvidersPerKey
  sorted : Sorted ps
  addrs : ∀ p ∈ ps, p.addrs.length ≤ cfg.maxProviderAddrs
  nonempty : ps ≠ []

theorem ProvListInv.sublist {cfg : Cfg} {ps qs : List Prov} (h : ProvListInv cfg ps) (hsub : qs.Sublist ps)
    (hne : qs ≠ []) : ProvListInv cfg qs :=
  ⟨Nat.le_trans hsub.length_le h.len, h.sorted.sublist hsub, fun p hp => h.addrs p (hsub.subset hp), hne⟩

theorem putProvList_inv {cfg : Cfg} {ps : List Prov} {p : Prov}
    (hi : ProvListInv cfg ps) (hp : p.addrs.length ≤ cfg.maxProviderAddrs) :
    ProvListInv cfg (putProvList cfg.maxProvidersPerKey ps p).1 := by
  rw [putProvList_eq p hi.len]
  have hm : cfg.maxProvidersPerKey ≠ 0 := fun h =>
    hi.nonempty (List.eq_nil_of_length_eq_zero (Nat.le_zero.1 (h ▸ hi.len)))
  refine ⟨List.length_take_le .., (insProv_sorted hi.sorted).sublist (List.take_sublist ..), fun r hr => ?_,
    fun h => ?_⟩
  · rcases mem_insProv (List.mem_of_mem_take hr) with rfl | hr
    · exact hp
    · exact hi.addrs r hr
  · rcases List.take_eq_nil_iff.1 h with h | h
    · exact hm h
    · exact insProv_ne_nil ps p h

/-- The store invariant (C17 bounds + the representation invariants they rest on). -/
structure Inv (cfg : Cfg) (s : Store) : Prop where
  recLen : s.records.length ≤ cfg.maxRecords
  recSize : ∀ r ∈ s.records, r.value.length < cfg.maxRecordSize
  recKeys : (s.records.map (·.key)).Nodup
  provLen : s.providerKeys.length ≤ cfg.maxProviderKeys
  provKeys : (s.providerKeys.map (·.1)).Nodup
  provLists : ∀ kv ∈ s.providerKeys, ProvListInv cfg kv.2

theorem inv_empty (cfg : Cfg) : Inv cfg Store.empty := by
  constructor <;> simp [Store.empty]

theorem put_inv {cfg : Cfg} {s : Store} (r : Rec) (h : Inv cfg s) : Inv cfg (put cfg s r) := by
  rw [put_eq]
  split
  · next ha =>
    unfold putAccepts at ha
    obtain ⟨hsz, ha⟩ := Bool.and_eq_true_iff.1 ha
    have hsz := of_decide_eq_true hsz
    cases hl : lookupRec r.key s.records with
    | some old =>
      refine { h with recLen := ?_, recSize := fun x hx => ?_, recKeys := ?_ }
      · simpa [replaceRec_length] using h.recLen
      · rcases mem_replaceRec (by simpa using hx) with rfl | hx
        · exact hsz
        · exact h.recSize x hx
      · simpa [replaceRec_keys] using h.recKeys
    | none =>
      rw [hl] at ha
      refine { h with recLen := ?_, recSize := fun x hx => ?_, recKeys := ?_ }
      · exact of_decide_eq_true ha
      · rcases List.mem_cons.1 (by simpa using hx) with rfl | hx
        · exact hsz
        · exact h.recSize x hx
      · exact List.nodup_cons.2 ⟨lookupRec_none.1 hl, h.recKeys⟩
  · exact h

theorem get_inv {cfg : Cfg} {s : Store} (k now : Nat) (h : Inv cfg s) : Inv cfg (getRecord s k now).1 := by
  unfold getRecord
  split
  · exact h
  · split
    · have hsub := eraseRec_sublist k s.records
      refine { h with recLen := ?_, recSize := ?_, recKeys := ?_ }
      · exact Nat.le_trans hsub.length_le h.recLen
      · intro x hx; exact h.recSize x (hsub.subset hx)
      · exact List.Nodup.sublist (hsub.map _) h.recKeys
    · exact h

theorem setProvKey_inv {cfg : Cfg} {s : Store} {k : Nat} {ps : List Prov} (h : Inv cfg s)
    (hps : ProvListInv cfg ps) : Inv cfg { s with providerKeys := setProvKey k ps s.providerKeys } := by
  refine { h with provLen := ?_, provKeys := ?_, provLists := ?_ }
  · simpa [setProvKey_length] using h.provLen
  · simpa [setProvKey_keys] using h.provKeys
  · intro kv hkv
    rcases mem_setProvKey hkv with e | e
    · subst e; exact hps
    · exact h.provLists kv e

theorem eraseProvKey_inv {cfg : Cfg} {s : Store} {k : Nat} (h : Inv cfg s) :
    Inv cfg { s with providerKeys := eraseProvKey k s.providerKeys } := by
  have hsub := eraseProvKey_sublist k s.providerKeys
  refine { h with provLen := ?_, provKeys := ?_, provLists := ?_ }
  · exact Nat.le_trans hsub.length_le h.provLen
  · exact List.Nodup.sublist (hsub.map _) h.provKeys
  · intro kv hkv; exact h.provLists kv (hsub.subset hkv)

theorem putProvider_inv {cfg : Cfg} {s : Store} (h1 : 1 ≤ cfg.maxProvidersPerKey)
    (k peer dist : Nat) (addrs : List Nat) (now : Nat) (h : Inv cfg s) :
    Inv cfg (putProvider cfg s k peer dist addrs now).1 := by
  unfold putProvider
  simp only
  have hp : (addrs.take cfg.maxProviderAddrs).length ≤ cfg.maxProviderAddrs := by
    simp [List.length_take]; omega
  split
  · rename_i hnone
    split
    · rename_i hlt
      refine { h with provLen := ?_, provKeys := ?_, provLists := ?_ }
      · simp; omega
      · simp only [List.map_cons, List.nodup_cons]
        exact ⟨lookupProv_none.1 hnone, h.provKeys⟩
      · intro kv hkv
        rcases List.mem_cons.1 hkv with e | e
        · subst e
          exact ⟨by simpa using h1, by simp [Sorted], by intro p hp'; simp at hp'; subst hp'; exact hp, by simp⟩
        · exact h.provLists kv e
    · exact h
  · rename_i ps hsome
    have hps := h.provLists _ (lookupProv_some hsome)
    exact setProvKey_inv h (putProvList_inv hps hp)

theorem getProviders_result (s : Store) (k now : Nat) :
    (getProviders s k now).2 = ((lookupProv k s.providerKeys).getD []).filter (fun p => !p.expiredAt now) := by
  unfold getProviders
  cases lookupProv k s.providerKeys with
  | none => rfl
  | some ps =>
    simp only [Option.getD_some]
    split
    · next he => exact (List.isEmpty_iff.1 he).symm
    · rfl

theorem getProviders_inv {cfg : Cfg} {s : Store} (k now : Nat) (h : Inv cfg s) :
    Inv cfg (getProviders s k now).1 := by
  unfold getProviders
  split
  · exact h
  · rename_i ps hsome
    have hps := h.provLists _ (lookupProv_some hsome)
    simp only
    split
    · exact eraseProvKey_inv h
    · rename_i hne
      exact setProvKey_inv h (hps.sublist List.filter_sublist (fun e => hne (e ▸ rfl)))

theorem putLocalProvider_inv {cfg : Cfg} {s : Store} (h1 : 1 ≤ cfg.maxProvidersPerKey)
    (k lp ld now : Nat) (h : Inv cfg s) : Inv cfg (putLocalProvider cfg s k lp ld now).1 := by
  unfold putLocalProvider
  have := putProvider_inv h1 k lp ld [] now h
  split
  rename_i s' ok heq
  rw [heq] at this
  split
  · exact { this with }
  · exact this

theorem removeLocalProvider_inv {cfg : Cfg} {s : Store} (k ld : Nat) (h : Inv cfg s) :
    Inv cfg (removeLocalProvider s k ld).1 := by
  unfold removeLocalProvider
  split
  · exact h
  · have h' : Inv cfg { s with localProviders := s.localProviders.erase k } := { h with }
    simp only
    split
    · exact h'
    · rename_i ps hsome
      have hps := h'.provLists _ (lookupProv_some hsome)
      split
      · rename_i i hs
        split
        · exact eraseProvKey_inv h'
        · rename_i hne
          exact setProvKey_inv h' (hps.sublist (List.eraseIdx_sublist ..) (fun e => hne (e ▸ rfl)))
      · exact h'

theorem apply_inv {cfg : Cfg} (h1 : 1 ≤ cfg.maxProvidersPerKey) {s : Store} (op : Op) (h : Inv cfg s) :
    Inv cfg (apply cfg s op) := by
  cases op with
  | put r => exact put_inv r h
  | get k now => exact get_inv k now h
  | putProvider k peer dist addrs now => exact putProvider_inv h1 k peer dist addrs now h
  | getProviders k now => exact getProviders_inv k now h
  | putLocal k lp ld now => exact putLocalProvider_inv h1 k lp ld now h
  | removeLocal k ld => exact removeLocalProvider_inv k ld h

theorem foldl_inv {cfg : Cfg} (h1 : 1 ≤ cfg.maxProvidersPerKey) (ops : List Op) {s : Store} (h : Inv cfg s) :
    Inv cfg (ops.foldl (apply cfg) s) :=
  List.foldlRecOn ops _ h fun _ hs op _ => apply_inv h1 op hs

theorem lookupProv_setProvKey {k : Nat} {v ps : List Prov} : ∀ {l : List (Nat × List Prov)},
    lookupProv k l = some ps → lookupProv k (setProvKey k v l) = some v
  | [], h => by simp [lookupProv] at h
  | (k', ps') :: rest, h => by
    unfold lookupProv at h
    unfold setProvKey
    split at h
    · rename_i hk; simp [hk, lookupProv]
    · rename_i hk; simp only [hk, if_false, lookupProv]; exact lookupProv_setProvKey h

end Litep2pVerif.Kad.Store
