import Litep2pVerif.Model.Manager.Proto
import Litep2pVerif.Proofs.Manager.LedgerStep
/-! Invariant of the protocol layer (`Model/Manager/Proto.lean`): what every protocol was or is being
sent is exactly what was decided to be broadcast; the broadcast mirrors the events `next()`
returns; every accepted request is queued or processed exactly once. -/
namespace Litep2pVerif.Manager

theorem pend_cons (x : Nat × PEv) (t : List (Nat × PEv)) (j : Nat) :
    pend (x :: t) j = if x.1 = j then x.2 :: pend t j else pend t j := by
  unfold pend
  by_cases h : x.1 = j <;> simp [h]

theorem pend_append (l l' : List (Nat × PEv)) (j : Nat) : pend (l ++ l') j = pend l j ++ pend l' j := by
  simp [pend, List.filter_append]

theorem pend_row (e : PEv) (j : Nat) : ∀ (order : List Nat), order.Nodup →
    pend (order.map (fun i => (i, e))) j = if j ∈ order then [e] else []
  | [], _ => by simp [pend]
  | i :: t, h => by
    rw [List.map_cons, pend_cons, pend_row e j t (List.nodup_cons.1 h).2]
    by_cases hij : i = j
    · subst hij
      have := (List.nodup_cons.1 h).1
      simp [this]
    · have : ¬ j = i := fun h => hij h.symm
      simp [hij, this]

theorem pend_sendsOf (order : List Nat) (h : order.Nodup) (j : Nat) (hj : j ∈ order) :
    ∀ evs : List PEv, pend (sendsOf order evs) j = evs
  | [] => by simp [sendsOf, pend]
  | e :: es => by
    have ih := pend_sendsOf order h j hj es
    unfold sendsOf at ih ⊢
    rw [List.flatMap_cons, pend_append, pend_row e j order h, if_pos hj, ih]
    rfl

theorem pend_pushAt (st : Nat → List PEv) (i : Nat) (e : PEv) (t : List (Nat × PEv)) (j : Nat) :
    pushAt st i e j ++ pend t j = st j ++ pend ((i, e) :: t) j := by
  rw [pend_cons]
  by_cases hij : i = j <;> simp [pushAt, hij]
  intro h; exact absurd h.symm hij

theorem runSends_tied (cap : Nat) : ∀ (l : List (Nat × PEv)) (ch : Nat → List Slot) (st : Nat → List PEv) (j : Nat),
    (runSends cap ch st l).2.1 j ++ pend (runSends cap ch st l).2.2 j = st j ++ pend l j
  | [], ch, st, j => by simp [runSends]
  | (i, e) :: t, ch, st, j => by
    simp only [runSends]
    split
    · rw [runSends_tied cap t, pend_pushAt]
    · rfl

theorem runSends_split (cap : Nat) (r : Nat → List PEv) : ∀ (l : List (Nat × PEv)) (ch : Nat → List Slot)
    (st : Nat → List PEv), (∀ j, st j = r j ++ (ch j).filterMap slotEv) →
    ∀ j, (runSends cap ch st l).2.1 j = r j ++ ((runSends cap ch st l).1 j).filterMap slotEv
  | [], ch, st, h => by simpa [runSends] using h
  | (i, e) :: t, ch, st, h => by
    simp only [runSends]
    split
    · apply runSends_split cap r t
      intro j
      by_cases hij : j = i <;> simp [pushAt, hij, h, slotEv]
    · exact h

theorem deliver_shape (ps : PS) (g' : G) (evs : List PEv) (held : List Ev) (hidle : ps.todo = []) :
    (deliver ps g' evs held).1.g = g' ∧ (deliver ps g' evs held).1.order = ps.order ∧
    (deliver ps g' evs held).1.cmds = ps.cmds ∧ (deliver ps g' evs held).1.nextReq = ps.nextReq ∧
    (deliver ps g' evs held).1.done = ps.done ∧ (deliver ps g' evs held).1.recv = ps.recv ∧
    (deliver ps g' evs held).1.bcast = ps.bcast ++ evs ∧
    (deliver ps g' evs held).1.chans = (runSends ps.cap ps.chans ps.sent (sendsOf ps.order evs)).1 ∧
    (deliver ps g' evs held).1.sent = (runSends ps.cap ps.chans ps.sent (sendsOf ps.order evs)).2.1 ∧
    (deliver ps g' evs held).1.todo = (runSends ps.cap ps.chans ps.sent (sendsOf ps.order evs)).2.2 := by
  unfold deliver
  split <;> rename_i heq <;> simp [heq, hidle]

def preportsOf (a : Attempt) (l : List PEv) : Nat := (l.map (preports a)).sum

theorem preportsOf_append (a : Attempt) (l l' : List PEv) :
    preportsOf a (l ++ l') = preportsOf a l + preportsOf a l' := by
  simp [preportsOf, List.map_append, List.sum_append]

theorem preportsOf_notes (a : Attempt) (s : Mgr) (i : In) (evs : List Ev) :
    preportsOf a (evs.filterMap (toPEv s i)) = reportsOf a evs := by
  induction evs with
  | nil => rfl
  | cons e t ih =>
    have h : preportsOf a (toPEv s i e).toList = reports a e := by
      cases e <;> simp [toPEv, preportsOf, preports, reports]
    rw [show reportsOf a (e :: t) = reports a e + reportsOf a t from by simp [reportsOf]]
    rw [← h, ← ih, List.filterMap_cons]
    cases toPEv s i e <;> simp [preportsOf]

theorem notes_src (s : Mgr) (i : In) (out : Out) : ∀ e ∈ notes s i out, ∃ c, e.src = .conn c := by
  intro e he
  unfold notes at he
  obtain ⟨ev, _, hev⟩ := List.mem_filterMap.1 he
  cases ev <;> simp [toPEv] at hev <;> subst hev <;> exact ⟨_, rfl⟩

theorem gstep_log (g : G) (i : In) : (gstep g i).1.log = g.log ++ (gstep g i).2.events := by
  rw [gstep_fst]; exact outcome_ghost g i _ _

def cmdPeer : Cmd → Peer
  | .dialPeer _ _ p => p
  | .dialAddress _ _ a => (lastPeer a).getD 0

def cmdAddrs : Cmd → List Multiaddr
  | .dialPeer _ _ _ => []
  | .dialAddress _ _ a => [a]

/-- The failure notification of a failed queued dial: `DialFailure{peer, []}` for `DialPeer`,
`DialFailure{peer, [address]}` for `DialAddress`. -/
def failEv (d : Done) : PEv := ⟨.df, cmdPeer d.cmd, 0, cmdAddrs d.cmd, .cmd d.cmd.k⟩

theorem gstep_dial_events (g : G) (p : Peer) (ch : List Multiaddr) : (gstep g (.dial p ch)).2.events = [] := by
  show (dial g.m p ch).2.events = []
  rcases dial_cases g.m p ch with ⟨_, _, h⟩ | ⟨cap, _, _, h⟩
  · exact h
  · rw [h]

theorem gstep_dialAddress_events (g : G) (a : Multiaddr) : (gstep g (.dialAddress a)).2.events = [] := by
  cases dialAddress_shape g.m a with
  | quiet _ _ hev _ _ _ _ _ => exact hev
  | started _ _ _ hev _ _ _ _ _ _ _ _ => exact hev

/-- Attempts stay in the ledger (only their carrier may change). -/
theorem Move.ledger_persist {g g' : G} {a : Attempt} (ha : a ∈ g.ledger) :
    Move g g' → ∃ a' ∈ g'.ledger, a'.conn = a.conn ∧ a'.peer = a.peer
  | .frame _ m | .opened _ _ m | .drop _ _ _ m | .accepted _ _ _ m => ⟨a, m.ledger ▸ ha, rfl, rfl⟩
  | .new _ _ _ _ m => ⟨a, m.ledger ▸ List.mem_cons_of_mem _ ha, rfl, rfl⟩
  | .accept _ _ _ _ _ m => ⟨_, m.ledger ▸ mem_recarry.2 ⟨a, ha, rfl⟩, by split <;> simp⟩

theorem dial_started (g : G) (p : Peer) (ch : List Multiaddr) (c : ConnId)
    (h : startedConn (gstep g (.dial p ch)).2 = some c) : ⟨p, c, c⟩ ∈ (gstep g (.dial p ch)).1.ledger := by
  rw [gstep_fst]
  show _ ∈ (ghost g _ (dial g.m p ch).1 (dial g.m p ch).2).ledger
  have h' : startedConn (dial g.m p ch).2 = some c := h
  rcases dial_cases g.m p ch with ⟨_, h0, _⟩ | ⟨cap, _, _, h1⟩
  · rw [startedConn, h0] at h'; cases h'
  · rw [h1] at h' ⊢
    cases h'
    simp [ghost]

theorem dialAddress_started (g : G) (a : Multiaddr) (c : ConnId)
    (h : startedConn (gstep g (.dialAddress a)).2 = some c) :
    ⟨(lastPeer a).getD 0, c, c⟩ ∈ (gstep g (.dialAddress a)).1.ledger := by
  rw [gstep_fst]
  show _ ∈ (ghost g _ (dialAddress g.m a).1 (dialAddress g.m a).2).ledger
  have h' : startedConn (dialAddress g.m a).2 = some c := h
  cases dialAddress_shape g.m a with
  | quiet _ hc _ _ _ _ _ _ => rw [startedConn, hc] at h'; cases h'
  | started _ _ hc _ _ _ _ _ _ _ _ _ =>
    rw [startedConn, hc] at h'
    cases h'
    simp [ghost, hc]

structure PInv (ps : PS) : Prop where
  reach : Reach ps.g
  nodup : ps.order.Nodup
  /-- what protocol `j` was sent plus what it is still being sent = what was broadcast -/
  tied : ∀ j ∈ ps.order, ps.sent j ++ pend ps.todo j = ps.bcast
  /-- the broadcast reports what the events returned by `next()` report -/
  rep : ∀ a : Attempt, preportsOf a ps.bcast = outcome ps.g a
  split : ∀ j, ps.sent j = ps.recv j ++ (ps.chans j).filterMap slotEv
  /-- every accepted request is queued or processed, once -/
  acct : ∀ k, (ps.done.filter (fun d => d.cmd.k == k)).length + (ps.cmds.filter (fun c => c.k == k)).length =
    if k < ps.nextReq then 1 else 0
  failedEv : ∀ k, ps.bcast.filter (fun e => e.src == .cmd k) =
    (ps.done.filter (fun d => d.cmd.k == k && d.fate == .failed)).map failEv
  started : ∀ d ∈ ps.done, ∀ c, d.fate = .started c → ∃ a ∈ ps.g.ledger, a.conn = c ∧ a.peer = cmdPeer d.cmd
  /-- the handle only queues addresses that end in `/p2p` -/
  cmdsPeer : ∀ k j a, Cmd.dialAddress k j a ∈ ps.cmds → (lastPeer a).isSome = true
  /-- so no failed command goes unreported -/
  noSilent : ∀ d ∈ ps.done, d.fate ≠ .silent

theorem PInv.started_step {ps : PS} (h : PInv ps) (i : In) (hal : allowed ps.g i = true) (d : Done) (hd : d ∈ ps.done)
    (c : ConnId) (hc : d.fate = .started c) : ∃ a ∈ (gstep ps.g i).1.ledger, a.conn = c ∧ a.peer = cmdPeer d.cmd := by
  obtain ⟨a, ha, h1, h2⟩ := h.started d hd c hc
  obtain ⟨a', ha', h3, h4⟩ := (gstep_move (inv05_reach h.reach) i hal).ledger_persist ha
  exact ⟨a', ha', h3.trans h1, h4.trans h2⟩

theorem pinv_init (cfg : LimitsCfg) (cap : Nat) (order : List Nat) (h : order.Nodup) :
    PInv (PS.init cfg cap order) := by
  refine ⟨Reach.init cfg, h, ?_, ?_, ?_, ?_, ?_, ?_, ?_, ?_⟩ <;> simp [PS.init, pend, preportsOf, outcome, G.init]

theorem filter_src_conn (l : List PEv) (h : ∀ e ∈ l, ∃ c, e.src = .conn c) (k : Nat) :
    l.filter (fun e => e.src == .cmd k) = [] := by
  apply List.filter_eq_nil_iff.2
  intro e he
  obtain ⟨c, hc⟩ := h e he
  simp [hc]

theorem acct_move (done : List Done) (c : Cmd) (rest : List Cmd) (f : Fate) (n : Nat)
    (h : ∀ k, (done.filter (fun d : Done => d.cmd.k == k)).length + ((c :: rest).filter (fun c => c.k == k)).length =
      if k < n then 1 else 0) (k : Nat) :
    ((done ++ [(⟨c, f⟩ : Done)]).filter (fun d : Done => d.cmd.k == k)).length + (rest.filter (fun c => c.k == k)).length =
      if k < n then 1 else 0 := by
  have := h k
  simp only [List.filter_append, List.length_append, List.filter_cons] at this ⊢
  by_cases hk : c.k = k <;> simp [hk] at this ⊢ <;> omega

/-- The clauses of `PInv` are taken one by one, so that `pinv_finish` can apply this to a state whose head command
has already moved to `done`. -/
theorem pinv_deliver (ps : PS) (hidle : ps.todo = []) (hnd : ps.order.Nodup)
    (htied : ∀ j ∈ ps.order, ps.sent j ++ pend ps.todo j = ps.bcast)
    (hsplit : ∀ j, ps.sent j = ps.recv j ++ (ps.chans j).filterMap slotEv)
    (hacct : ∀ k, (ps.done.filter (fun d => d.cmd.k == k)).length + (ps.cmds.filter (fun c => c.k == k)).length =
      if k < ps.nextReq then 1 else 0)
    (g' : G) (hg' : Reach g') (evs : List PEv) (held : List Ev)
    (hrep : ∀ a, preportsOf a (ps.bcast ++ evs) = outcome g' a)
    (hfail : ∀ k, (ps.bcast ++ evs).filter (fun e => e.src == .cmd k) =
      (ps.done.filter (fun d => d.cmd.k == k && d.fate == .failed)).map failEv)
    (hstart : ∀ d ∈ ps.done, ∀ c, d.fate = .started c → ∃ a ∈ g'.ledger, a.conn = c ∧ a.peer = cmdPeer d.cmd)
    (hcp : ∀ k j a, Cmd.dialAddress k j a ∈ ps.cmds → (lastPeer a).isSome = true)
    (hns : ∀ d ∈ ps.done, d.fate ≠ .silent) :
    PInv (deliver ps g' evs held).1 := by
  obtain ⟨f1, f2, f4, f5, f6, f7, f8, fc, fs, ft⟩ := deliver_shape ps g' evs held hidle
  refine ⟨by rw [f1]; exact hg', by rw [f2]; exact hnd, ?_, ?_, ?_, ?_, ?_, ?_, by rw [f4]; exact hcp,
    by rw [f6]; exact hns⟩
  · intro j hj
    rw [f2] at hj
    rw [fs, ft, runSends_tied, pend_sendsOf ps.order hnd j hj, f8, ← htied j hj, hidle]
    simp [pend]
  · intro a; rw [f8, f1]; exact hrep a
  · rw [fs, f7, fc]; exact runSends_split ps.cap ps.recv _ ps.chans ps.sent hsplit
  · intro k; rw [f6, f4, f5]; exact hacct k
  · intro k; rw [f8, f6]; exact hfail k
  · intro d hd c hc
    rw [f6] at hd
    rw [f1]
    exact hstart d hd c hc

theorem pinv_base {ps : PS} (h : PInv ps) (i : In) (hal : allowed ps.g i = true) : PInv (pbase ps i).1 := by
  unfold pbase
  split
  · exact h
  · split
    · exact h
    · rename_i hidle _
      have hidle' : ps.todo = [] := by simpa using hidle
      refine pinv_deliver ps hidle' h.nodup h.tied h.split h.acct _ (Reach.step i h.reach hal) _ _ ?_ ?_
        (h.started_step i hal) h.cmdsPeer h.noSilent
      · intro a
        rw [preportsOf_append, h.rep, outcome_of_log a _ (gstep_log ps.g i)]
        unfold notes
        rw [preportsOf_notes]
      · intro k
        rw [List.filter_append, filter_src_conn _ (notes_src _ _ _), List.append_nil]; exact h.failedEv k

theorem pinv_queue {ps : PS} (h : PInv ps) (c : Cmd) (hk : c.k = ps.nextReq)
    (hp : ∀ k j a, c = .dialAddress k j a → (lastPeer a).isSome = true) :
    PInv { ps with cmds := ps.cmds ++ [c], nextReq := ps.nextReq + 1 } := by
  refine ⟨h.reach, h.nodup, h.tied, h.rep, h.split, ?_, h.failedEv, h.started, ?_, h.noSilent⟩
  rotate_left
  · intro k j a hm
    rcases List.mem_append.1 hm with hm | hm
    · exact h.cmdsPeer k j a hm
    · exact hp k j a (by have := List.mem_singleton.1 hm; exact this.symm)
  intro k
  have := h.acct k
  show (ps.done.filter _).length + ((ps.cmds ++ [c]).filter _).length = if k < ps.nextReq + 1 then 1 else 0
  rw [List.filter_append, List.length_append]
  have h1 : ([c].filter (fun c => c.k == k)).length = if ps.nextReq = k then 1 else 0 := by
    by_cases hkk : ps.nextReq = k <;> simp [hk, hkk]
  rw [h1]
  split at this <;> split <;> split <;> omega

theorem pinv_handleDial {ps : PS} (h : PInv ps) (j : Nat) (p : Peer) : PInv (handleDial ps j p).1 := by
  unfold handleDial
  repeat' split
  all_goals first | exact h | exact pinv_queue h _ rfl (by intro k j a hc; cases hc)

theorem pinv_handleDialAddress {ps : PS} (h : PInv ps) (j : Nat) (a : Multiaddr) :
    PInv (handleDialAddress ps j a).1 := by
  unfold handleDialAddress
  split
  · exact h
  · rename_i hsome
    refine pinv_queue h _ rfl ?_
    intro k j' a' hc
    cases hc
    cases hl : lastPeer a <;> simp [hl] at hsome ⊢

theorem deliver_nil (ps : PS) (g' : G) (held : List Ev) : (deliver ps g' [] held).1 = { ps with g := g' } := by
  simp [deliver, sendsOf, runSends]

theorem pinv_finish {ps : PS} (h : PInv ps) (hidle : ps.todo = []) (c : Cmd) (rest : List Cmd)
    (hc : ps.cmds = c :: rest) (i : In) (hal : allowed ps.g i = true) (hev : (gstep ps.g i).2.events = [])
    (f : Fate) (hf' : f ≠ .silent)
    (hst : ∀ x, f = .started x → ∃ a ∈ (gstep ps.g i).1.ledger, a.conn = x ∧ a.peer = cmdPeer c) :
    PInv (deliver { ps with cmds := rest, done := ps.done ++ [⟨c, f⟩] } (gstep ps.g i).1
      (if f = .failed then [failEv ⟨c, f⟩] else []) []).1 := by
  refine pinv_deliver { ps with cmds := rest, done := ps.done ++ [⟨c, f⟩] } hidle h.nodup
    h.tied h.split
    (acct_move ps.done _ rest f ps.nextReq (by intro k; have := h.acct k; rwa [hc] at this))
    _ (Reach.step i h.reach hal) _ _ ?_ ?_ ?_ ?_ ?_
  · intro a
    have : outcome (gstep ps.g i).1 a = outcome ps.g a := by
      rw [outcome_eq, outcome_eq, gstep_log, hev, List.append_nil]
    show preportsOf a (ps.bcast ++ _) = _
    rw [preportsOf_append, this, h.rep a]
    split <;> simp [preportsOf, preports, failEv]
  · intro k'
    show (ps.bcast ++ _).filter _ = ((ps.done ++ _).filter _).map failEv
    rw [List.filter_append, List.filter_append, List.map_append, h.failedEv k']
    by_cases hk : c.k = k' <;> by_cases hff : f = .failed <;> simp [hk, hff, failEv]
  · intro d hd x hx
    rcases List.mem_append.1 hd with hd | hd
    · exact h.started_step i hal d hd x hx
    · have : d = ⟨c, f⟩ := by simpa using hd
      subst this; exact hst x hx
  · intro k j a hm
    exact h.cmdsPeer k j a (by rw [hc]; exact List.mem_cons_of_mem _ hm)
  · intro d hd
    rcases List.mem_append.1 hd with hd | hd
    · exact h.noSilent d hd
    · have : d = ⟨c, f⟩ := by simpa using hd
      subst this; exact hf'

theorem pinv_afterDialPeer {ps : PS} (h : PInv ps) (hidle : ps.todo = []) (k j : Nat) (p : Peer)
    (rest : List Cmd) (hc : ps.cmds = .dialPeer k j p :: rest) (ch : List Multiaddr) :
    PInv (afterDialPeer ps k j p rest (gstep ps.g (.dial p ch))).1 := by
  have fin := pinv_finish h hidle _ rest hc (.dial p ch) rfl (gstep_dial_events ..)
  unfold afterDialPeer
  split
  · simpa only [reduceCtorEq, ↓reduceIte, deliver_nil] using fin .connected (by simp) (by intro x hx; cases hx)
  · simpa [failEv, cmdPeer, cmdAddrs, Cmd.k] using fin .failed (by simp) (by intro x hx; cases hx)
  · split
    · rename_i c hs
      simpa only [reduceCtorEq, ↓reduceIte, deliver_nil] using fin (.started c) (by simp)
        (by intro x hx; cases hx; exact ⟨_, dial_started ps.g p ch _ hs, rfl, rfl⟩)
    · simpa only [reduceCtorEq, ↓reduceIte, deliver_nil] using fin .joined (by simp) (by intro x hx; cases hx)

theorem pinv_afterDialAddress {ps : PS} (h : PInv ps) (hidle : ps.todo = []) (k j : Nat) (a : Multiaddr)
    (rest : List Cmd) (hc : ps.cmds = .dialAddress k j a :: rest) :
    PInv (afterDialAddress ps k j a rest (gstep ps.g (.dialAddress a))).1 := by
  have fin := pinv_finish h hidle _ rest hc (.dialAddress a) rfl (gstep_dialAddress_events ..)
  have hsome := h.cmdsPeer k j a (by rw [hc]; exact List.mem_cons_self)
  unfold afterDialAddress
  split
  · simpa only [reduceCtorEq, ↓reduceIte, deliver_nil] using fin .connected (by simp) (by intro x hx; cases hx)
  · split
    · rename_i p hp
      simpa [failEv, cmdPeer, cmdAddrs, Cmd.k, hp] using fin .failed (by simp) (by intro x hx; cases hx)
    · rename_i hn; rw [hn] at hsome; cases hsome
  · split
    · rename_i c hs
      simpa only [reduceCtorEq, ↓reduceIte, deliver_nil] using fin (.started c) (by simp)
        (by intro x hx; cases hx; exact ⟨_, dialAddress_started ps.g a _ hs, rfl, rfl⟩)
    · simpa only [reduceCtorEq, ↓reduceIte, deliver_nil] using fin .joined (by simp) (by intro x hx; cases hx)

theorem pinv_runCmd {ps : PS} (h : PInv ps) (ch : List Multiaddr) : PInv (runCmd ps ch).1 := by
  unfold runCmd
  split
  · exact h
  · rename_i hidle
    have hidle' : ps.todo = [] := by simpa using hidle
    split
    · exact h
    · rename_i k j p rest hc; exact pinv_afterDialPeer h hidle' k j p rest hc ch
    · rename_i k j a rest hc; exact pinv_afterDialAddress h hidle' k j a rest hc

theorem pinv_resume {ps : PS} (h : PInv ps) : PInv (resume ps).1 := by
  unfold resume
  split
  · exact h
  · rename_i j e t htodo
    split
    · have htied := fun j' => runSends_tied ps.cap t (pushAt ps.chans j (.ev e)) (pushAt ps.sent j e) j'
      have hsplit := runSends_split ps.cap ps.recv t (pushAt ps.chans j (.ev e)) (pushAt ps.sent j e) (by
        intro j'
        by_cases hij : j' = j <;> simp [pushAt, hij, h.split, slotEv])
      have hold : ∀ j', pushAt ps.sent j e j' ++ pend t j' = ps.sent j' ++ pend ps.todo j' := by
        intro j'; rw [htodo, pend_pushAt]
      split <;> rename_i heq <;> rw [heq] at htied hsplit
      all_goals
        refine ⟨h.reach, h.nodup, fun j' hj' => ?_, h.rep, fun j' => by simpa using hsplit j', h.acct, h.failedEv,
          h.started, h.cmdsPeer, h.noSilent⟩
        dsimp only
        rw [← h.tied j' hj', ← hold j']
        simpa using htied j'
    · exact h

theorem pinv_pfill {ps : PS} (h : PInv ps) (j : Nat) : PInv (pfill ps j).1 := by
  unfold pfill
  refine ⟨h.reach, h.nodup, h.tied, h.rep, ?_, h.acct, h.failedEv, h.started, h.cmdsPeer, h.noSilent⟩
  intro i
  show ps.sent i = ps.recv i ++ _
  by_cases hij : i = j <;> simp [hij, List.filterMap_append, List.filterMap_replicate, slotEv, h.split]

theorem pinv_pdrain {ps : PS} (h : PInv ps) (j : Nat) : PInv (pdrain ps j).1 := by
  unfold pdrain
  refine ⟨h.reach, h.nodup, h.tied, h.rep, ?_, h.acct, h.failedEv, h.started, h.cmdsPeer, h.noSilent⟩
  intro i
  show ps.sent i = _
  by_cases hij : i = j <;> simp [hij, h.split]

theorem pinv_step {ps : PS} (h : PInv ps) (i : PIn) (hal : pallowed ps i = true) : PInv (pstep ps i).1 := by
  cases i with
  | base i => exact pinv_base h i hal
  | pdial j p => exact pinv_handleDial h j p
  | pdialAddr j a => exact pinv_handleDialAddress h j a
  | pfill j => exact pinv_pfill h j
  | pdrain j => exact pinv_pdrain h j
  | runCmd ch => exact pinv_runCmd h ch
  | resume => exact pinv_resume h

theorem pinv_reach {ps : PS} (h : PReach ps) : PInv ps := by
  induction h with
  | init cfg cap order hn => exact pinv_init cfg cap order hn
  | step i _ hal ih => exact pinv_step ih i hal

end Litep2pVerif.Manager
