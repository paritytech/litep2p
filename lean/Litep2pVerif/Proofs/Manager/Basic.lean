import Litep2pVerif.Model.Manager.Dial
/-! The connection-manager model, operation by operation: association lists, the fields every update leaves alone,
what each `PeerState` transition does to the connection slots, the dial record and the `Opening` state, and what each
event handler does to the state of every peer. Shared by the C05 and C06 proofs. -/
namespace Litep2pVerif.Manager

theorem alookup_ainsert {β : Type} (k k' : Nat) (v : β) (l : List (Nat × β)) :
    alookup k' (ainsert k v l) = if k = k' then some v else alookup k' l := by
  induction l with
  | nil => simp [ainsert, alookup]
  | cons h t ih =>
    by_cases h1 : h.1 = k <;> by_cases h2 : h.1 = k' <;> by_cases h3 : k = k' <;>
      simp_all [ainsert, alookup]

theorem alookup_aerase {β : Type} (k k' : Nat) (l : List (Nat × β)) :
    alookup k' (aerase k l) = if k = k' then none else alookup k' l := by
  induction l with
  | nil => simp [aerase, alookup]
  | cons h t ih =>
    by_cases h1 : h.1 = k <;> by_cases h2 : h.1 = k' <;> by_cases h3 : k = k' <;>
      simp_all [aerase, alookup]

theorem findAccept_eq_find? (c : ConnId) (l : List (Peer × Endpoint)) :
    findAccept c l = l.find? (fun x => x.2.conn = c) := by
  induction l with
  | nil => rfl
  | cons x t ih => obtain ⟨p, ep⟩ := x; by_cases h : ep.conn = c <;> simp [findAccept, h, ih]

theorem findAccept_conn {c : ConnId} {l : List (Peer × Endpoint)} {p : Peer} {ep : Endpoint}
    (h : findAccept c l = some (p, ep)) : ep.conn = c := by
  rw [findAccept_eq_find?] at h
  simpa using List.find?_some h

@[simp] theorem stateOf_setState (s : Mgr) (p q : Peer) (st : PeerState) :
    stateOf (setState s p st) q = if q = p then st else stateOf s q := by
  simp only [stateOf, setState]; split <;> rfl

@[simp] theorem stateOf_updAddr (s : Mgr) (p q : Peer) (a : Multiaddr) (sc : Int) :
    stateOf (updAddr s p a sc) q = stateOf s q := by
  simp only [stateOf, updAddr]; split
  · rename_i h; subst h; rfl
  · rfl

@[simp] theorem limits_setState (s : Mgr) (p : Peer) (st : PeerState) : (setState s p st).limits = s.limits := rfl
@[simp] theorem limits_updAddr (s : Mgr) (p : Peer) (a : Multiaddr) (sc : Int) : (updAddr s p a sc).limits = s.limits := rfl
@[simp] theorem pending_setState (s : Mgr) (p : Peer) (st : PeerState) : (setState s p st).pending = s.pending := rfl
@[simp] theorem pending_updAddr (s : Mgr) (p : Peer) (a : Multiaddr) (sc : Int) : (updAddr s p a sc).pending = s.pending := rfl
@[simp] theorem pa_setState (s : Mgr) (p : Peer) (st : PeerState) : (setState s p st).pendingAccept = s.pendingAccept := rfl
@[simp] theorem pa_updAddr (s : Mgr) (p : Peer) (a : Multiaddr) (sc : Int) : (updAddr s p a sc).pendingAccept = s.pendingAccept := rfl
@[simp] theorem nc_setState (s : Mgr) (p : Peer) (st : PeerState) : (setState s p st).nextConn = s.nextConn := rfl
@[simp] theorem nc_updAddr (s : Mgr) (p : Peer) (a : Multiaddr) (sc : Int) : (updAddr s p a sc).nextConn = s.nextConn := rfl

theorem updAddrFail_frame (s : Mgr) (a : Multiaddr) (e : DialErr) :
    (∀ q, stateOf (updAddrFail s a e) q = stateOf s q) ∧ (updAddrFail s a e).limits = s.limits ∧
    (updAddrFail s a e).pending = s.pending ∧ (updAddrFail s a e).pendingAccept = s.pendingAccept ∧
    (updAddrFail s a e).nextConn = s.nextConn := by
  unfold updAddrFail; split <;> simp

theorem updAddrFails_frame (errs : List (Multiaddr × DialErr)) (s : Mgr) :
    (∀ q, stateOf (updAddrFails s errs) q = stateOf s q) ∧ (updAddrFails s errs).limits = s.limits ∧
    (updAddrFails s errs).pending = s.pending ∧ (updAddrFails s errs).pendingAccept = s.pendingAccept ∧
    (updAddrFails s errs).nextConn = s.nextConn := by
  induction errs generalizing s with
  | nil => simp [updAddrFails]
  | cons h t ih => obtain ⟨a, e⟩ := h; simp [updAddrFails, ih, updAddrFail_frame]

theorem addAddrs_frame (as : List Multiaddr) (s : Mgr) (p : Peer) :
    (∀ q, stateOf (addAddrs s p as) q = stateOf s q) ∧ (addAddrs s p as).limits = s.limits ∧
    (addAddrs s p as).pending = s.pending ∧ (addAddrs s p as).pendingAccept = s.pendingAccept ∧
    (addAddrs s p as).nextConn = s.nextConn := by
  induction as generalizing s with
  | nil => simp [addAddrs]
  | cons h t ih => simp [addAddrs, ih]

@[simp] theorem stateOf_updAddrFail (s : Mgr) (a : Multiaddr) (e : DialErr) (q : Peer) :
    stateOf (updAddrFail s a e) q = stateOf s q := (updAddrFail_frame s a e).1 q
@[simp] theorem limits_updAddrFail (s : Mgr) (a : Multiaddr) (e : DialErr) : (updAddrFail s a e).limits = s.limits :=
  (updAddrFail_frame s a e).2.1
@[simp] theorem pending_updAddrFail (s : Mgr) (a : Multiaddr) (e : DialErr) : (updAddrFail s a e).pending = s.pending :=
  (updAddrFail_frame s a e).2.2.1
@[simp] theorem pa_updAddrFail (s : Mgr) (a : Multiaddr) (e : DialErr) :
    (updAddrFail s a e).pendingAccept = s.pendingAccept := (updAddrFail_frame s a e).2.2.2.1
@[simp] theorem nc_updAddrFail (s : Mgr) (a : Multiaddr) (e : DialErr) : (updAddrFail s a e).nextConn = s.nextConn :=
  (updAddrFail_frame s a e).2.2.2.2

@[simp] theorem stateOf_updAddrFails (errs : List (Multiaddr × DialErr)) (s : Mgr) (q : Peer) :
    stateOf (updAddrFails s errs) q = stateOf s q := (updAddrFails_frame errs s).1 q
@[simp] theorem limits_updAddrFails (errs : List (Multiaddr × DialErr)) (s : Mgr) :
    (updAddrFails s errs).limits = s.limits := (updAddrFails_frame errs s).2.1
@[simp] theorem pending_updAddrFails (errs : List (Multiaddr × DialErr)) (s : Mgr) :
    (updAddrFails s errs).pending = s.pending := (updAddrFails_frame errs s).2.2.1
@[simp] theorem pa_updAddrFails (errs : List (Multiaddr × DialErr)) (s : Mgr) :
    (updAddrFails s errs).pendingAccept = s.pendingAccept := (updAddrFails_frame errs s).2.2.2.1
@[simp] theorem nc_updAddrFails (errs : List (Multiaddr × DialErr)) (s : Mgr) :
    (updAddrFails s errs).nextConn = s.nextConn := (updAddrFails_frame errs s).2.2.2.2

@[simp] theorem stateOf_addAddrs (as : List Multiaddr) (s : Mgr) (p q : Peer) :
    stateOf (addAddrs s p as) q = stateOf s q := (addAddrs_frame as s p).1 q
@[simp] theorem limits_addAddrs (as : List Multiaddr) (s : Mgr) (p : Peer) : (addAddrs s p as).limits = s.limits :=
  (addAddrs_frame as s p).2.1
@[simp] theorem pending_addAddrs (as : List Multiaddr) (s : Mgr) (p : Peer) : (addAddrs s p as).pending = s.pending :=
  (addAddrs_frame as s p).2.2.1
@[simp] theorem pa_addAddrs (as : List Multiaddr) (s : Mgr) (p : Peer) :
    (addAddrs s p as).pendingAccept = s.pendingAccept := (addAddrs_frame as s p).2.2.2.1
@[simp] theorem nc_addAddrs (as : List Multiaddr) (s : Mgr) (p : Peer) : (addAddrs s p as).nextConn = s.nextConn :=
  (addAddrs_frame as s p).2.2.2.2

@[simp] theorem estPre_limits (s : Mgr) (p : Peer) (ep : Endpoint) : (estPre s p ep).limits = s.limits := by
  unfold estPre; split <;> rfl

@[simp] theorem estPre_state (s : Mgr) (p : Peer) (ep : Endpoint) (q : Peer) :
    stateOf (estPre s p ep) q = stateOf s q := by
  unfold estPre; split
  · rfl
  · exact stateOf_updAddr ..

@[simp] theorem estPre_pa (s : Mgr) (p : Peer) (ep : Endpoint) : (estPre s p ep).pendingAccept = s.pendingAccept := by
  unfold estPre; split <;> rfl

@[simp] theorem estPre_nc (s : Mgr) (p : Peer) (ep : Endpoint) : (estPre s p ep).nextConn = s.nextConn := by
  unfold estPre; split <;> rfl

theorem estPre_pending (s : Mgr) (p : Peer) (ep : Endpoint) : (estPre s p ep).pending = aerase ep.conn s.pending := by
  unfold estPre; split <;> rfl

namespace PeerState

theorem canDial_ok {s : PeerState} (h : s.canDial = .ok) : s = .disconnected none := by
  unfold canDial at h; split at h <;> simp_all

theorem slots_ne_nil_of_connected {s : PeerState} (h : s.canDial = .alreadyConnected) : s.slots ≠ [] := by
  rcases s with ⟨r, _ | ⟨_ | _⟩⟩ | _ | _ | _ | _ <;> simp_all [canDial, slots]

theorem slots_length_le (s : PeerState) : s.slots.length ≤ 2 := by
  unfold slots; split <;> simp

theorem est_accept_mem (s : PeerState) (x : ConnRecord) (h : (s.onConnectionEstablished x).2 = true) :
    x.conn ∈ (s.onConnectionEstablished x).1.slots := by
  unfold onConnectionEstablished at *
  split at h <;> (try split at h) <;> simp_all [slots] <;> (split <;> simp_all [slots])

theorem est_slots_mono (s : PeerState) (x : ConnRecord) (y : ConnId) (hy : y ∈ s.slots) :
    y ∈ (s.onConnectionEstablished x).1.slots := by
  unfold onConnectionEstablished
  split <;> (try split) <;> simp_all [slots]

theorem est_reject_eq (s : PeerState) (x : ConnRecord) (h : (s.onConnectionEstablished x).2 = false) :
    (s.onConnectionEstablished x).1 = s := by
  unfold onConnectionEstablished at *
  split at h <;> (try split at h) <;> simp_all

theorem est_of_no_slots (s : PeerState) (x : ConnRecord) (h : s.slots = []) :
    (s.onConnectionEstablished x).2 = true := by
  unfold onConnectionEstablished
  split <;> (try split) <;> simp_all [slots]

theorem closed_slots (s : PeerState) (c y : ConnId) (hy : y ∈ s.slots) (hne : y ≠ c) :
    y ∈ (s.onConnectionClosed c).1.slots := by
  unfold onConnectionClosed
  repeat' split
  all_goals simp_all [slots]
  all_goals omega

theorem slots_onDialFailure (s : PeerState) (c : ConnId) : (s.onDialFailure c).1.slots = s.slots := by
  unfold onDialFailure
  split <;> (try split) <;> simp_all [slots]

theorem slots_onOpenFailure (s : PeerState) (t : Transport) : (s.onOpenFailure t).1.slots = s.slots := by
  unfold onOpenFailure
  split
  · simp only []; split <;> simp [slots]
  · rfl

theorem slots_onConnectionOpened (s : PeerState) (r : ConnRecord) : (s.onConnectionOpened r).1.slots = s.slots := by
  unfold onConnectionOpened; split <;> rfl

def attempt : PeerState → Option (ConnId × Phase)
  | .opening _ c _ => some (c, .opening)
  | .dialing d | .connected _ (some (.dialing d)) | .disconnected (some d) => some (d.conn, .dialing)
  | _ => none

theorem attempt_eq_some {s : PeerState} {c : ConnId} {ph : Phase} :
    s.attempt = some (c, ph) ↔
      (ph = .opening ∧ ∃ as ts, s = .opening as c ts) ∨ (ph = .dialing ∧ s.holdsDial c = true) := by
  rcases s with ⟨r, _ | ⟨_ | d⟩⟩ | _ | d | _ | d <;> cases ph <;> simp [attempt, holdsDial]

theorem holdsDial_unique {s : PeerState} {c c' : ConnId} (h : s.holdsDial c = true)
    (h' : s.holdsDial c' = true) : c = c' := by
  unfold holdsDial at h h'
  split at h <;> simp_all

theorem attempt_onDialFailure (s : PeerState) (c : ConnId) :
    (s.onDialFailure c).1.attempt = if s.holdsDial c = true then none else s.attempt := by
  rcases s with ⟨r, _ | ⟨_ | d⟩⟩ | _ | d | _ | d <;> simp [onDialFailure, holdsDial, attempt]
  all_goals by_cases h : d.conn = c <;> simp [h]

theorem holdsDial_onConnectionEstablished (s : PeerState) (x : ConnRecord) (y : ConnId) :
    (s.onConnectionEstablished x).1.holdsDial y = (s.holdsDial y && !(y == x.conn)) := by
  rcases s with ⟨r, _ | ⟨_ | d⟩⟩ | _ | d | _ | d <;> simp [onConnectionEstablished, holdsDial]
  all_goals by_cases h : d.conn = x.conn <;> simp [h]
  all_goals rintro rfl; simp_all

theorem holdsDial_onConnectionClosed (s : PeerState) (c y : ConnId) :
    (s.onConnectionClosed c).1.holdsDial y = s.holdsDial y := by
  rcases s with ⟨r, _ | ⟨x | d⟩⟩ | _ | d | _ | d <;> simp only [onConnectionClosed]
  all_goals repeat' split
  all_goals simp [holdsDial]

theorem est_of_holdsDial (s : PeerState) (x : ConnRecord) (h : s.holdsDial x.conn = true) :
    (s.onConnectionEstablished x).2 = true := by
  unfold holdsDial at h
  unfold onConnectionEstablished
  split at h <;> simp_all

theorem onConnectionClosed_opening_iff (s : PeerState) (c : ConnId) (as : List Multiaddr) (x : ConnId)
    (ts : List Transport) : (s.onConnectionClosed c).1 = .opening as x ts ↔ s = .opening as x ts := by
  unfold onConnectionClosed; repeat' split
  all_goals simp

theorem onConnectionEstablished_ne_opening (s : PeerState) (x : ConnRecord) (as : List Multiaddr) (y : ConnId)
    (ts : List Transport) : (s.onConnectionEstablished x).1 ≠ .opening as y ts := by
  unfold onConnectionEstablished; repeat' split
  all_goals simp

end PeerState

theorem closeConn_state (s : Mgr) (p : Peer) (c : ConnId) (q : Peer) :
    stateOf (closeConn s p c).1 q =
      if q = p then ((stateOf s p).onConnectionClosed c).1 else stateOf s q :=
  stateOf_setState ..

theorem onDialFailure_state (s : Mgr) (c : ConnId) (a : Multiaddr) (e : DialErr) (q : Peer) :
    stateOf (onDialFailure s c a e).1 q =
      if alookup c s.pending = some q then ((stateOf s q).onDialFailure c).1 else stateOf s q := by
  unfold onDialFailure; split
  · simp [*]
  · rename_i p hp
    show stateOf (setState _ p _) q = _
    simp only [stateOf_setState, stateOf_updAddrFail, hp, Option.some.injEq, eq_comm]
    split <;> simp_all

theorem onOpenFailure_state (s : Mgr) (c : ConnId) (errs : List (Multiaddr × DialErr)) (q : Peer) :
    stateOf (onOpenFailure s c errs).1 q =
      if alookup c s.pending = some q then ((stateOf s q).onOpenFailure .tcp).1 else stateOf s q := by
  unfold onOpenFailure; split
  · simp [*]
  · rename_i p hp
    simp only [stateOf_updAddrFails, hp, Option.some.injEq]
    split
    · split <;> simp_all
    · split <;>
        (show stateOf (setState _ p _) q = _
         simp only [stateOf_setState, stateOf_updAddrFails, eq_comm]; split <;> simp_all)

theorem onOpened_state (s : Mgr) (c : ConnId) (a : Multiaddr) (errs : List (Multiaddr × DialErr)) (q : Peer) :
    stateOf (onOpened s c a errs).1 q =
      if alookup c s.pending = some q then ((stateOf s q).onConnectionOpened (ConnRecord.new q a c)).1
      else stateOf s q := by
  unfold onOpened openedPre; split
  · simp only [*, reduceCtorEq, if_false]; exact stateOf_updAddrFails ..
  · rename_i p hp
    simp only [stateOf_updAddrFails, hp, Option.some.injEq]
    split <;> rename_i hs
    · show stateOf (setState _ p _) q = _
      simp only [stateOf_setState, stateOf_updAddr, stateOf_updAddrFails, eq_comm]
      split
      · rename_i hq; subst hq; rw [show stateOf s _ = _ from hs]; rfl
      · rfl
    · show stateOf (updAddr _ p _ _) q = _
      simp only [stateOf_updAddr, stateOf_updAddrFails]
      split
      · rename_i hq; subst hq; unfold PeerState.onConnectionOpened; split
        · rename_i heq; exact absurd heq (hs _ _ _)
        · rfl
      · rfl

end Litep2pVerif.Manager
