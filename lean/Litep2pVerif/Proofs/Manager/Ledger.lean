import Litep2pVerif.Proofs.Manager.Caps
/-! The ghost-ledger invariant behind C05 (contract-abiding environments), and the six ways a step moves the ghost state
(`Move`), each of which keeps it. -/
namespace Litep2pVerif.Manager

def conns (l : List Owed) : List ConnId := l.map (·.conn)

def evConn : Ev → Option ConnId
  | .established _ ep => some ep.conn
  | .dialFailure c _ _ => some c
  | .openFailure c _ => some c
  | .closed _ _ => none

theorem mem_dropOwed {c : ConnId} {o : Owed} {l : List Owed} : o ∈ dropOwed c l ↔ o ∈ l ∧ o.conn ≠ c := by
  simp [dropOwed]

theorem mem_conns {x : ConnId} {l : List Owed} : x ∈ conns l ↔ ∃ o ∈ l, o.conn = x := by
  simp [conns]

theorem mem_conns_dropOwed {c x : ConnId} {l : List Owed} : x ∈ conns (dropOwed c l) ↔ x ∈ conns l ∧ x ≠ c := by
  simp only [mem_conns, mem_dropOwed]
  constructor
  · rintro ⟨o, ⟨h1, h2⟩, h3⟩; exact ⟨⟨o, h1, h3⟩, h3 ▸ h2⟩
  · rintro ⟨⟨o, h1, h3⟩, h2⟩; exact ⟨o, ⟨h1, h3 ▸ h2⟩, h3⟩

theorem nodup_conns_dropOwed {c : ConnId} {l : List Owed} (h : (conns l).Nodup) : (conns (dropOwed c l)).Nodup :=
  List.Nodup.sublist (List.filter_sublist.map _) h

theorem dropOwed_of_not_mem {c : ConnId} {l : List Owed} (h : c ∉ conns l) : dropOwed c l = l := by
  simp only [dropOwed]
  apply List.filter_eq_self.2
  intro o ho
  simp only [decide_eq_true_eq]
  intro he; exact h (mem_conns.2 ⟨o, ho, he⟩)

theorem owed_unique {l : List Owed} (h : (conns l).Nodup) {o o' : Owed} (ho : o ∈ l) (ho' : o' ∈ l)
    (hc : o.conn = o'.conn) : o = o' :=
  eq_of_nodup_map _ _ h o ho o' ho' hc

theorem mem_dropOwed_of_ne {l : List Owed} (h : (conns l).Nodup) {o x : Owed} (ho : o ∈ l) (hx : x ∈ l)
    (hne : x ≠ o) : x ∈ dropOwed o.conn l :=
  mem_dropOwed.2 ⟨hx, fun hc => hne (owed_unique h hx ho hc)⟩

theorem owedPeer_of_mem {l : List Owed} (h : (conns l).Nodup) {o : Owed} (ho : o ∈ l) :
    owedPeer o.conn l = o.peer := by
  unfold owedPeer
  cases hf : l.find? (fun x => decide (x.conn = o.conn)) with
  | none => simpa using List.find?_eq_none.1 hf o ho
  | some o' =>
    have hp := List.find?_some hf
    simp only [decide_eq_true_eq] at hp
    rw [owed_unique h (List.mem_of_find?_eq_some hf) ho hp]

theorem any_conn_iff {l : List Owed} {c : ConnId} : l.any (fun o => o.conn == c) = true ↔ c ∈ conns l := by
  simp [conns, List.any_eq_true]

theorem findAccept_append_isSome {c : ConnId} {l : List (Peer × Endpoint)} (x : Peer × Endpoint)
    (h : (findAccept c l).isSome = true) : (findAccept c (l ++ [x])).isSome = true := by
  rw [findAccept_eq_find?] at h ⊢
  simp [List.find?_append, h]

theorem findAccept_append_self (l : List (Peer × Endpoint)) (p : Peer) (ep : Endpoint) :
    (findAccept ep.conn (l ++ [(p, ep)])).isSome = true := by
  simp [findAccept_eq_find?]

theorem findAccept_eraseAccept {c c' : ConnId} {l : List (Peer × Endpoint)} (h : c' ≠ c) :
    findAccept c' (eraseAccept c l) = findAccept c' l := by
  induction l with
  | nil => rfl
  | cons y t ih =>
    obtain ⟨q, e⟩ := y
    by_cases he : e.conn = c
    · simp [eraseAccept, findAccept, he, Ne.symm h]
    · simp [eraseAccept, findAccept, he, ih]

theorem outcome_ghost (g : G) (i : In) (m' : Mgr) (out : Out) :
    (ghost g i m' out).log = g.log ++ out.events := by
  cases i <;> simp only [ghost] <;> (repeat' split) <;> rfl

def reportsOf (a : Attempt) (l : List Ev) : Nat := (l.map (reports a)).sum

theorem outcome_eq (g : G) (a : Attempt) : outcome g a = reportsOf a g.log := rfl

theorem reportsOf_append (a : Attempt) (l l' : List Ev) : reportsOf a (l ++ l') = reportsOf a l + reportsOf a l' := by
  simp [reportsOf, List.map_append, List.sum_append]

theorem reportsOf_eq_zero {a : Attempt} {l : List Ev} : reportsOf a l = 0 ↔ ∀ e ∈ l, reports a e = 0 := by
  simp [reportsOf, List.sum_eq_zero_iff_forall_eq_nat]

theorem reportsOf_zero (a : Attempt) (l : List Ev)
    (h : ∀ e ∈ l, ∀ c, evConn e = some c → c ≠ a.conn ∧ c ≠ a.carrier) : reportsOf a l = 0 := by
  refine reportsOf_eq_zero.2 fun e he => ?_
  cases e with
  | established _ ep => exact if_neg (h _ he _ rfl).2
  | dialFailure c _ _ | openFailure c _ => exact if_neg (h _ he _ rfl).1
  | closed _ _ => rfl

/-- Changing the carrier to an id that never occurs in the log keeps the failure reports only. -/
theorem reportsOf_recarry (a : Attempt) (c : ConnId) (l : List Ev)
    (h : ∀ e ∈ l, ∀ x, evConn e = some x → x ≠ c) (h0 : reportsOf a l = 0) :
    reportsOf { a with carrier := c } l = 0 := by
  rw [reportsOf_eq_zero] at h0 ⊢
  intro e he
  cases e with
  | established _ ep => exact if_neg (h _ he _ rfl)
  | _ => exact h0 _ he

structure Inv05 (g : G) : Prop where
  /-- `[.tcp]`: the one transport compiled in. -/
  trackOpen : ∀ o ∈ g.owed, o.phase = .opening →
    alookup o.conn g.m.pending = some o.peer ∧ ∃ as, stateOf g.m o.peer = .opening as o.conn [.tcp]
  trackDial : ∀ o ∈ g.owed, o.phase = .dialing →
    alookup o.conn g.m.pending = some o.peer ∧ (stateOf g.m o.peer).holdsDial o.conn = true
  trackAcc : ∀ o ∈ g.owed, o.phase = .accepting → (findAccept o.conn g.m.pendingAccept).isSome = true
  /-- `pending_connections` holds nothing but dial attempts the transport still owes an event for. -/
  pendOwed : ∀ c p, alookup c g.m.pending = some p → ∃ o ∈ g.owed, o.conn = c ∧ o.phase ≠ .accepting
  openTracked : ∀ p as c ts, stateOf g.m p = .opening as c ts → ⟨c, .opening, p⟩ ∈ g.owed
  dialTracked : ∀ p c, (stateOf g.m p).holdsDial c = true → ⟨c, .dialing, p⟩ ∈ g.owed
  nodup : (conns g.owed).Nodup
  bOwed : ∀ o ∈ g.owed, o.conn < g.m.nextConn
  bFresh : ∀ c ∈ g.fresh, c < g.m.nextConn
  bLedger : ∀ a ∈ g.ledger, a.conn < g.m.nextConn ∧ a.carrier < g.m.nextConn
  /-- A reported id is neither owed nor fresh, so no later `Move.Accept` (whose `src` is one or the other) can make it the
  carrier of an attempt that has no report yet. -/
  bLog : ∀ e ∈ g.log, ∀ c, evConn e = some c → c < g.m.nextConn ∧ c ∉ conns g.owed ∧ c ∉ g.fresh
  freshOwed : ∀ c ∈ g.fresh, c ∉ conns g.owed
  ledFresh : ∀ a ∈ g.ledger, a.conn ∉ g.fresh ∧ a.carrier ∉ g.fresh
  /-- `carrier ≠ conn` only for an attempt superseded while `Opening` (`recarry` in `Move.Accept`): its carrier is the
  connection accepted in its place, for which nothing but that `accept` can be owed. The first part of `ledger` is the
  converse: an attempt whose own id is still owed has not been superseded. -/
  carrierAcc : ∀ a ∈ g.ledger, a.carrier ≠ a.conn → ∀ o ∈ g.owed, o.conn = a.carrier → o.phase = .accepting
  ledger : ∀ a ∈ g.ledger, (a.conn ∈ conns g.owed → a.carrier = a.conn) ∧
    ((a.carrier ∈ conns g.owed ∧ outcome g a = 0) ∨ (a.carrier ∉ conns g.owed ∧ outcome g a = 1))

theorem ledger_iff {P : Prop} [Decidable P] {n : Nat} : (P ∧ n = 0 ∨ ¬P ∧ n = 1) ↔ n = if P then 0 else 1 := by
  by_cases h : P <;> simp [h]

theorem Inv05.ledger_eq {g : G} (h : Inv05 g) (a : Attempt) (ha : a ∈ g.ledger) :
    (a.conn ∈ conns g.owed → a.carrier = a.conn) ∧ outcome g a = if a.carrier ∈ conns g.owed then 0 else 1 :=
  ⟨(h.ledger a ha).1, ledger_iff.1 (h.ledger a ha).2⟩

theorem inv05_init (cfg : LimitsCfg) : Inv05 (G.init cfg) := by
  constructor <;> simp [G.init, Mgr.init, conns, stateOf, alookup, PeerState.holdsDial]

/-- The three tracking clauses of `Inv05` for one obligation. -/
def Tracked (m : Mgr) (o : Owed) : Prop :=
  (o.phase = .opening →
    alookup o.conn m.pending = some o.peer ∧ ∃ as, stateOf m o.peer = .opening as o.conn [.tcp]) ∧
  (o.phase = .dialing → alookup o.conn m.pending = some o.peer ∧ (stateOf m o.peer).holdsDial o.conn = true) ∧
  (o.phase = .accepting → (findAccept o.conn m.pendingAccept).isSome = true)

theorem Inv05.tracked {g : G} (h : Inv05 g) {o : Owed} (ho : o ∈ g.owed) : Tracked g.m o :=
  ⟨h.trackOpen o ho, h.trackDial o ho, h.trackAcc o ho⟩

theorem Tracked.congr {m m' : Mgr} {o : Owed} (ht : Tracked m o)
    (hp : alookup o.conn m'.pending = alookup o.conn m.pending)
    (hs : o.phase ≠ .accepting → stateOf m' o.peer = stateOf m o.peer)
    (ha : (findAccept o.conn m.pendingAccept).isSome = true → (findAccept o.conn m'.pendingAccept).isSome = true) :
    Tracked m' o :=
  ⟨fun e => by rw [hp, hs (by rw [e]; simp)]; exact ht.1 e, fun e => by rw [hp, hs (by rw [e]; simp)]; exact ht.2.1 e,
    fun e => ha (ht.2.2 e)⟩

theorem Tracked.attempt {m : Mgr} {o : Owed} (t : Tracked m o) (hp : o.phase ≠ .accepting) :
    (stateOf m o.peer).attempt = some (o.conn, o.phase) := by
  obtain ⟨c, ph, p⟩ := o
  cases ph with
  | opening => obtain ⟨as, hs⟩ := (t.1 rfl).2; exact PeerState.attempt_eq_some.2 (Or.inl ⟨rfl, as, _, hs⟩)
  | dialing => exact PeerState.attempt_eq_some.2 (Or.inr ⟨rfl, (t.2.1 rfl).2⟩)
  | accepting => exact absurd rfl hp

theorem Inv05.same_peer {g : G} (h : Inv05 g) {o o' : Owed} (ho : o ∈ g.owed) (ho' : o' ∈ g.owed)
    (hp : o.phase ≠ .accepting) (hp' : o'.phase ≠ .accepting) (hpeer : o.peer = o'.peer) : o.conn = o'.conn := by
  have t := (h.tracked ho).attempt hp
  rw [hpeer, (h.tracked ho').attempt hp'] at t
  injection t with t; injection t with t; exact t.symm

theorem Inv05.of_attempt {g : G} (h : Inv05 g) {p : Peer} {c : ConnId} {ph : Phase}
    (hs : (stateOf g.m p).attempt = some (c, ph)) : ⟨c, ph, p⟩ ∈ g.owed ∧ ph ≠ .accepting := by
  rcases PeerState.attempt_eq_some.1 hs with ⟨rfl, as, ts, e⟩ | ⟨rfl, e⟩
  · exact ⟨h.openTracked p as c ts e, by simp⟩
  · exact ⟨h.dialTracked p c e, by simp⟩

theorem held_fields {m : Mgr} {owed : List Owed}
    (h : ∀ p c ph, (stateOf m p).attempt = some (c, ph) → (⟨c, ph, p⟩ : Owed) ∈ owed) :
    (∀ p as c ts, stateOf m p = .opening as c ts → ⟨c, .opening, p⟩ ∈ owed) ∧
    (∀ p c, (stateOf m p).holdsDial c = true → ⟨c, .dialing, p⟩ ∈ owed) :=
  ⟨fun p as c ts hs => h p c _ (PeerState.attempt_eq_some.2 (Or.inl ⟨rfl, as, ts, hs⟩)),
   fun p c hs => h p c _ (PeerState.attempt_eq_some.2 (Or.inr ⟨rfl, hs⟩))⟩

theorem Inv05.opening_tcp {g : G} (h : Inv05 g) {p : Peer} {as : List Multiaddr} {c : ConnId} {ts : List Transport}
    (hs : stateOf g.m p = .opening as c ts) : ts = [.tcp] := by
  obtain ⟨_, as', hs'⟩ := h.trackOpen _ (h.openTracked p as c ts hs) rfl
  have : stateOf g.m p = .opening as' c [.tcp] := hs'
  rw [hs] at this; injection this

theorem Inv05.owed_of_busy {g : G} (h : Inv05 g) {p : Peer}
    (hbusy : (stateOf g.m p).canDial = .dialingInProgress) : ∃ o ∈ g.owed, o.peer = p ∧ o.phase ≠ .accepting := by
  cases hs : stateOf g.m p with
  | connected r sec => rw [hs] at hbusy; cases hbusy
  | opening as c ts => exact ⟨_, h.openTracked p as c ts hs, rfl, by simp⟩
  | dialing d => exact ⟨_, h.dialTracked p d.conn (by rw [hs]; simp [PeerState.holdsDial]), rfl, by simp⟩
  | disconnected d =>
    cases d with
    | none => rw [hs] at hbusy; cases hbusy
    | some d => exact ⟨_, h.dialTracked p d.conn (by rw [hs]; simp [PeerState.holdsDial]), rfl, by simp⟩

theorem stateOf_update {m m' : Mgr} {p : Peer} {s' : PeerState}
    (h : ∀ q, stateOf m' q = if q = p then s' else stateOf m q) :
    stateOf m' p = s' ∧ ∀ q, q ≠ p → stateOf m' q = stateOf m q :=
  ⟨by rw [h, if_pos rfl], fun q hq => by rw [h, if_neg hq]⟩

theorem Inv05.pending_none {g : G} (h : Inv05 g) {c : ConnId} (hc : c ∉ conns g.owed) :
    alookup c g.m.pending = none := by
  cases hl : alookup c g.m.pending with
  | none => rfl
  | some p =>
    obtain ⟨o, ho, hoc, _⟩ := h.pendOwed c p hl
    exact absurd (mem_conns.2 ⟨o, ho, hoc⟩) hc

theorem outcome_of_log {g g' : G} (a : Attempt) (evs : List Ev) (hlog : g'.log = g.log ++ evs) :
    outcome g' a = outcome g a + reportsOf a evs := by
  rw [outcome_eq, outcome_eq, hlog, reportsOf_append]

theorem outcome_same {g g' : G} (hlog : g'.log = g.log) (a : Attempt) : outcome g' a = outcome g a := by
  rw [outcome_eq, outcome_eq, hlog]

theorem reportsOf_none (a : Attempt) (evs : List Ev) (h : ∀ e ∈ evs, evConn e = none) : reportsOf a evs = 0 :=
  reportsOf_zero a evs (fun e he c hc => by rw [h e he] at hc; cases hc)

/-- A step that leaves obligations, ledger and reports alone; `evs` is what it appends to the log. -/
structure Move.Frame (g g' : G) (evs : List Ev) : Prop where
  owed : g'.owed = g.owed
  ledger : g'.ledger = g.ledger
  log : g'.log = g.log ++ evs
  connless : ∀ e ∈ evs, evConn e = none
  nc : g.m.nextConn ≤ g'.m.nextConn
  fresh : ∀ c ∈ g'.fresh, c ∈ g.fresh ∨ (g.m.nextConn ≤ c ∧ c < g'.m.nextConn)
  pend : ∀ c, alookup c g'.m.pending = alookup c g.m.pending
  pa : g'.m.pendingAccept = g.m.pendingAccept
  opening : ∀ q as c ts, stateOf g'.m q = .opening as c ts ↔ stateOf g.m q = .opening as c ts
  holdsDial : ∀ q c, (stateOf g'.m q).holdsDial c = (stateOf g.m q).holdsDial c
  live : ∀ l ∈ g'.live, l ∈ g.live

theorem Move.Frame.inv05 {g g' : G} {evs : List Ev} (h : Inv05 g) (m : Move.Frame g g' evs) : Inv05 g' := by
  have hout : ∀ a, outcome g' a = outcome g a := by
    intro a; rw [outcome_of_log a evs m.log, reportsOf_none a evs m.connless]; rfl
  have hnf : ∀ c, c < g.m.nextConn → c ∉ g.fresh → c ∉ g'.fresh := fun c hlt hn hf =>
    (m.fresh c hf).elim hn fun h1 => Nat.lt_irrefl _ (Nat.lt_of_lt_of_le hlt h1.1)
  constructor
  · intro o ho hp; rw [m.owed] at ho
    obtain ⟨h1, as, h2⟩ := h.trackOpen o ho hp
    exact ⟨by rw [m.pend]; exact h1, as, (m.opening _ _ _ _).2 h2⟩
  · intro o ho hp; rw [m.owed] at ho
    rw [m.pend, m.holdsDial]; exact h.trackDial o ho hp
  · intro o ho hp; rw [m.owed] at ho; rw [m.pa]; exact h.trackAcc o ho hp
  · simp only [m.pend, m.owed]; exact h.pendOwed
  · intro p as c ts hs; rw [m.owed]; exact h.openTracked p as c ts ((m.opening _ _ _ _).1 hs)
  · intro p c hs; rw [m.owed]; rw [m.holdsDial] at hs; exact h.dialTracked p c hs
  · rw [m.owed]; exact h.nodup
  · intro o ho; rw [m.owed] at ho; exact Nat.lt_of_lt_of_le (h.bOwed o ho) m.nc
  · intro c hc
    rcases m.fresh c hc with h1 | h1
    · exact Nat.lt_of_lt_of_le (h.bFresh c h1) m.nc
    · exact h1.2
  · intro a ha; rw [m.ledger] at ha
    exact ⟨Nat.lt_of_lt_of_le (h.bLedger a ha).1 m.nc, Nat.lt_of_lt_of_le (h.bLedger a ha).2 m.nc⟩
  · intro e he c hc
    rw [m.log] at he
    rcases List.mem_append.1 he with he | he
    · obtain ⟨h1, h2, h3⟩ := h.bLog e he c hc
      exact ⟨Nat.lt_of_lt_of_le h1 m.nc, by rw [m.owed]; exact h2, hnf c h1 h3⟩
    · rw [m.connless e he] at hc; cases hc
  · intro c hc hm
    rw [m.owed] at hm
    obtain ⟨o, ho, rfl⟩ := mem_conns.1 hm
    exact hnf _ (h.bOwed o ho) (fun hf => h.freshOwed _ hf hm) hc
  · intro a ha; rw [m.ledger] at ha
    exact ⟨hnf _ (h.bLedger a ha).1 (h.ledFresh a ha).1, hnf _ (h.bLedger a ha).2 (h.ledFresh a ha).2⟩
  · rw [m.ledger, m.owed]; exact h.carrierAcc
  · simp only [m.ledger, m.owed, hout]; exact h.ledger

theorem reportsOf_single (a : Attempt) (e : Ev) : reportsOf a [e] = reports a e := by
  simp [reportsOf]

/-- The common tail of `Move.Drop` and `Move.Accepted`: an obligation ends with the report that concludes it. -/
theorem inv05_end {g g' : G} (h : Inv05 g) (o : Owed) (ho : o ∈ g.owed)
    (howed : g'.owed = dropOwed o.conn g.owed) (hled : g'.ledger = g.ledger) (hfresh : g'.fresh = g.fresh)
    (e : Ev) (hlog : g'.log = g.log ++ [e]) (hevc : evConn e = some o.conn)
    (hrep : ∀ a ∈ g.ledger, reports a e = if o.conn = a.carrier then 1 else 0)
    (hnc : g'.m.nextConn = g.m.nextConn)
    (htr : ∀ x ∈ g'.owed, Tracked g'.m x)
    (hpend : ∀ c p, alookup c g'.m.pending = some p → ∃ x ∈ g'.owed, x.conn = c ∧ x.phase ≠ .accepting)
    (hheld : ∀ p c ph, (stateOf g'.m p).attempt = some (c, ph) → (⟨c, ph, p⟩ : Owed) ∈ g'.owed) : Inv05 g' := by
  have hcin : o.conn ∈ conns g.owed := mem_conns.2 ⟨o, ho, rfl⟩
  obtain ⟨t5, t6⟩ := held_fields hheld
  refine ⟨fun x hx => (htr x hx).1, fun x hx => (htr x hx).2.1, fun x hx => (htr x hx).2.2, hpend, t5, t6,
    ?_, ?_, ?_, ?_, ?_, ?_, ?_, ?_, ?_⟩
  · rw [howed]; exact nodup_conns_dropOwed h.nodup
  · intro x hx; rw [howed] at hx; rw [hnc]; exact h.bOwed x (mem_dropOwed.1 hx).1
  · rw [hfresh, hnc]; exact h.bFresh
  · rw [hled, hnc]; exact h.bLedger
  · intro e' he' c hc
    rw [hlog] at he'; rw [hnc, howed, hfresh]
    rcases List.mem_append.1 he' with he' | he'
    · obtain ⟨h1, h2, h3⟩ := h.bLog e' he' c hc
      exact ⟨h1, fun hm => h2 (mem_conns_dropOwed.1 hm).1, h3⟩
    · rw [List.mem_singleton.1 he', hevc] at hc
      cases hc
      exact ⟨h.bOwed o ho, fun hm => (mem_conns_dropOwed.1 hm).2 rfl, fun hf => h.freshOwed _ hf hcin⟩
  · intro c hc; rw [hfresh] at hc; rw [howed]
    exact fun hm => h.freshOwed c hc (mem_conns_dropOwed.1 hm).1
  · rw [hled, hfresh]; exact h.ledFresh
  · intro a ha hne x hx hxc; rw [hled] at ha; rw [howed] at hx
    exact h.carrierAcc a ha hne x (mem_dropOwed.1 hx).1 hxc
  · intro a ha; rw [hled] at ha
    obtain ⟨hl1, hl2⟩ := h.ledger_eq a ha
    rw [ledger_iff, howed, outcome_of_log a [e] hlog, reportsOf_single, hrep a ha, hl2]
    simp only [mem_conns_dropOwed]
    refine ⟨fun hm => hl1 hm.1, ?_⟩
    by_cases hac : o.conn = a.carrier
    · simp [← hac, hcin]
    · simp [hac, Ne.symm hac]

/-- The opening or dialing obligation `o` ends with the failure report `e` for its connection id; the peer goes on in
state `s'`. -/
structure Move.Drop (g g' : G) (o : Owed) (e : Ev) (s' : PeerState) : Prop where
  mem : o ∈ g.owed
  phase : o.phase ≠ .accepting
  owed : g'.owed = dropOwed o.conn g.owed
  ledger : g'.ledger = g.ledger
  fresh : g'.fresh = g.fresh
  log : g'.log = g.log ++ [e]
  conn : evConn e = some o.conn
  rep : ∀ a, reports a e = if o.conn = a.conn then 1 else 0
  nc : g'.m.nextConn = g.m.nextConn
  pend : ∀ c, alookup c g'.m.pending = if o.conn = c then none else alookup c g.m.pending
  pa : g'.m.pendingAccept = g.m.pendingAccept
  state : ∀ q, stateOf g'.m q = if q = o.peer then s' else stateOf g.m q
  att : s'.attempt = none
  live : g'.live = g.live

theorem Move.Drop.inv05 {g g' : G} {o : Owed} {e : Ev} {s' : PeerState} (h : Inv05 g) (m : Move.Drop g g' o e s') :
    Inv05 g' := by
  obtain ⟨hself, hoth⟩ := stateOf_update m.state
  refine inv05_end h o m.mem m.owed m.ledger m.fresh e m.log m.conn ?_ m.nc ?_ ?_ ?_
  · -- an attempt with its own carrier, or carried by an accepting connection
    intro a ha; rw [m.rep]
    by_cases hac : o.conn = a.conn
    · rw [if_pos hac, if_pos (hac.trans ((h.ledger a ha).1 (hac ▸ mem_conns.2 ⟨o, m.mem, rfl⟩)).symm)]
    · rw [if_neg hac, if_neg]
      intro hc
      exact m.phase (h.carrierAcc a ha (fun e' => hac (hc.trans e')) o m.mem hc)
  · intro x hx; rw [m.owed] at hx
    obtain ⟨hm, hne⟩ := mem_dropOwed.1 hx
    exact (h.tracked hm).congr (by rw [m.pend, if_neg (Ne.symm hne)])
      (fun hp' => hoth _ fun hpe => hne (h.same_peer hm m.mem hp' m.phase hpe)) (fun hs => m.pa ▸ hs)
  · intro c p hc; rw [m.pend] at hc
    split at hc
    · cases hc
    · rename_i hne
      obtain ⟨o', ho', hoc, hp'⟩ := h.pendOwed c p hc
      exact ⟨o', by rw [m.owed]; exact mem_dropOwed.2 ⟨ho', by rw [hoc]; exact fun e => hne e.symm⟩, hoc, hp'⟩
  · intro p c ph hs
    have hp : p ≠ o.peer := fun e => by rw [e, hself, m.att] at hs; cases hs
    rw [hoth p hp] at hs; rw [m.owed]
    exact mem_dropOwed_of_ne h.nodup m.mem (h.of_attempt hs).1 fun e => hp (congrArg Owed.peer e)

theorem mem_conns_replace {c x : ConnId} {o' : Owed} {l : List Owed} (hc : c ∈ conns l) (ho' : o'.conn = c) :
    x ∈ conns (o' :: dropOwed c l) ↔ x ∈ conns l := by
  rw [show conns (o' :: dropOwed c l) = o'.conn :: conns (dropOwed c l) from rfl, List.mem_cons, mem_conns_dropOwed, ho']
  by_cases hx : x = c
  · simp [hx, hc]
  · simp [hx]

/-- The `Opening` attempt `o` gets its connection: the peer is `Dialing` with record `d`, the obligation is for the
negotiation now. -/
structure Move.Opened (g g' : G) (o : Owed) (d : ConnRecord) : Prop where
  mem : o ∈ g.owed
  phase : o.phase = .opening
  conn : d.conn = o.conn
  owed : g'.owed = ⟨o.conn, .dialing, o.peer⟩ :: dropOwed o.conn g.owed
  ledger : g'.ledger = g.ledger
  fresh : g'.fresh = g.fresh
  log : g'.log = g.log
  nc : g'.m.nextConn = g.m.nextConn
  pend : ∀ c, alookup c g'.m.pending = alookup c g.m.pending
  pa : g'.m.pendingAccept = g.m.pendingAccept
  state : ∀ q, stateOf g'.m q = if q = o.peer then .dialing d else stateOf g.m q
  live : g'.live = g.live

theorem Move.Opened.inv05 {g g' : G} {o : Owed} {d : ConnRecord} (h : Inv05 g) (m : Move.Opened g g' o d) :
    Inv05 g' := by
  obtain ⟨hs, hst⟩ := stateOf_update m.state
  have hph' : o.phase ≠ .accepting := by rw [m.phase]; simp
  have hmem : ∀ x, x ∈ conns g'.owed ↔ x ∈ conns g.owed := by
    intro x; rw [m.owed]; exact mem_conns_replace (mem_conns.2 ⟨o, m.mem, rfl⟩) rfl
  have hold : ∀ x ∈ g.owed, x.peer ≠ o.peer → x ∈ g'.owed := by
    intro x hx hp; rw [m.owed]
    exact List.mem_cons_of_mem _ (mem_dropOwed_of_ne h.nodup m.mem hx fun e => hp (congrArg Owed.peer e))
  have htr : ∀ x ∈ g'.owed, Tracked g'.m x := by
    intro x hx; rw [m.owed] at hx
    rcases List.mem_cons.1 hx with rfl | hx
    · exact ⟨nofun, fun _ => ⟨(m.pend _).trans (h.trackOpen o m.mem m.phase).1,
        by rw [hs]; simp [PeerState.holdsDial, m.conn]⟩, nofun⟩
    · obtain ⟨hm, hne⟩ := mem_dropOwed.1 hx
      exact (h.tracked hm).congr (m.pend _) (fun hp' => hst _ fun hpe => hne (h.same_peer hm m.mem hp' hph' hpe))
        (fun hs => m.pa ▸ hs)
  have hheld : ∀ q c ph, (stateOf g'.m q).attempt = some (c, ph) → (⟨c, ph, q⟩ : Owed) ∈ g'.owed := by
    intro q c ph hatt
    by_cases hq : q = o.peer
    · subst hq
      rw [hs] at hatt; cases hatt
      rw [m.owed, m.conn]; exact List.mem_cons_self ..
    · rw [hst q hq] at hatt
      exact hold _ (h.of_attempt hatt).1 hq
  obtain ⟨t5, t6⟩ := held_fields hheld
  refine ⟨fun x hx => (htr x hx).1, fun x hx => (htr x hx).2.1, fun x hx => (htr x hx).2.2, ?_, t5, t6,
    ?_, ?_, ?_, ?_, ?_, ?_, ?_, ?_, ?_⟩
  · intro c p hc
    by_cases hcc : c = o.conn
    · exact ⟨⟨o.conn, .dialing, o.peer⟩, by rw [m.owed]; exact List.mem_cons_self .., hcc.symm, by simp⟩
    · rw [m.pend] at hc
      obtain ⟨x, hx, hxc, hp'⟩ := h.pendOwed c p hc
      exact ⟨x, by rw [m.owed]; exact List.mem_cons_of_mem _ (mem_dropOwed.2 ⟨hx, by rw [hxc]; exact hcc⟩), hxc, hp'⟩
  · rw [m.owed]
    simp only [conns, List.map_cons, List.nodup_cons]
    exact ⟨fun hm => (mem_conns_dropOwed.1 hm).2 rfl, nodup_conns_dropOwed h.nodup⟩
  · intro x hx; rw [m.owed] at hx; rw [m.nc]
    rcases List.mem_cons.1 hx with rfl | hx
    · exact h.bOwed o m.mem
    · exact h.bOwed x (mem_dropOwed.1 hx).1
  · rw [m.fresh, m.nc]; exact h.bFresh
  · rw [m.ledger, m.nc]; exact h.bLedger
  · simp only [m.log, m.nc, m.fresh, hmem]; exact h.bLog
  · simp only [m.fresh, hmem]; exact h.freshOwed
  · rw [m.ledger, m.fresh]; exact h.ledFresh
  · intro a ha hne x hx hxc; rw [m.ledger] at ha; rw [m.owed] at hx
    rcases List.mem_cons.1 hx with rfl | hx
    · exact absurd (h.carrierAcc a ha hne o m.mem hxc) hph'
    · exact h.carrierAcc a ha hne x (mem_dropOwed.1 hx).1 hxc
  · simp only [m.ledger, hmem, outcome_same m.log]; exact h.ledger

/-- A new attempt (phase `ph`, ledger entry for `lp`) starts for the idle peer `p` with the next connection id; the peer
goes on in state `s'`. -/
structure Move.New (g g' : G) (p lp : Peer) (ph : Phase) (s' : PeerState) : Prop where
  phase : ph ≠ .accepting
  idle : stateOf g.m p = .disconnected none
  owed : g'.owed = ⟨g.m.nextConn, ph, p⟩ :: g.owed
  ledger : g'.ledger = ⟨lp, g.m.nextConn, g.m.nextConn⟩ :: g.ledger
  fresh : g'.fresh = g.fresh
  log : g'.log = g.log
  nc : g'.m.nextConn = g.m.nextConn + 1
  pend : g'.m.pending = ainsert g.m.nextConn p g.m.pending
  pa : g'.m.pendingAccept = g.m.pendingAccept
  state : ∀ q, stateOf g'.m q = if q = p then s' else stateOf g.m q
  att : s'.attempt = some (g.m.nextConn, ph)
  tcp : ∀ as c ts, s' = .opening as c ts → ts = [.tcp]
  live : g'.live = g.live

theorem Move.New.inv05 {g g' : G} {p lp : Peer} {ph : Phase} {s' : PeerState} (h : Inv05 g)
    (m : Move.New g g' p lp ph s') : Inv05 g' := by
  obtain ⟨hself, hst⟩ := stateOf_update m.state
  have hother : ∀ x ∈ g.owed, x.phase ≠ .accepting → x.peer ≠ p := by
    intro x hx hp' hpe
    have := (h.tracked hx).attempt hp'
    rw [hpe, m.idle] at this; cases this
  have hlt : ∀ x ∈ g.owed, x.conn ≠ g.m.nextConn := fun x hx => Nat.ne_of_lt (h.bOwed x hx)
  have hnin : g.m.nextConn ∉ conns g.owed := by
    intro hm; obtain ⟨x, hx, hxc⟩ := mem_conns.1 hm; exact hlt x hx hxc
  have hmem : ∀ x, x ∈ conns g'.owed ↔ x = g.m.nextConn ∨ x ∈ conns g.owed := by
    intro x; rw [m.owed]; simp [conns]
  have htr : ∀ x ∈ g'.owed, Tracked g'.m x := by
    intro x hx; rw [m.owed] at hx
    rcases List.mem_cons.1 hx with rfl | hx
    · have hp0 : alookup g.m.nextConn g'.m.pending = some p := by rw [m.pend, alookup_ainsert]; simp
      rcases PeerState.attempt_eq_some.1 m.att with ⟨rfl, as, ts, e⟩ | ⟨rfl, e⟩
      · cases m.tcp as _ ts e; exact ⟨fun _ => ⟨hp0, as, hself.trans e⟩, nofun, nofun⟩
      · exact ⟨nofun, fun _ => ⟨hp0, by rw [hself]; exact e⟩, nofun⟩
    · exact (h.tracked hx).congr (by rw [m.pend, alookup_ainsert, if_neg (fun e => hlt x hx e.symm)])
        (fun hp' => hst _ (hother x hx hp')) (fun hs => m.pa ▸ hs)
  have hheld : ∀ q c ph', (stateOf g'.m q).attempt = some (c, ph') → (⟨c, ph', q⟩ : Owed) ∈ g'.owed := by
    intro q c ph' hs; rw [m.owed]
    by_cases hq : q = p
    · subst hq; rw [hself, m.att] at hs; cases hs; exact List.mem_cons_self ..
    · rw [hst q hq] at hs; exact List.mem_cons_of_mem _ (h.of_attempt hs).1
  obtain ⟨t5, t6⟩ := held_fields hheld
  refine ⟨fun x hx => (htr x hx).1, fun x hx => (htr x hx).2.1, fun x hx => (htr x hx).2.2, ?_, t5, t6,
    ?_, ?_, ?_, ?_, ?_, ?_, ?_, ?_, ?_⟩
  · intro c q hc; rw [m.pend, alookup_ainsert] at hc
    split at hc
    · rename_i hcc
      exact ⟨_, by rw [m.owed]; exact List.mem_cons_self .., hcc, m.phase⟩
    · obtain ⟨x, hx, hxc, hp'⟩ := h.pendOwed c q hc
      exact ⟨x, by rw [m.owed]; exact List.mem_cons_of_mem _ hx, hxc, hp'⟩
  · rw [m.owed]; simp only [conns, List.map_cons, List.nodup_cons]
    exact ⟨hnin, h.nodup⟩
  · intro x hx; rw [m.owed] at hx; rw [m.nc]
    rcases List.mem_cons.1 hx with rfl | hx
    · exact Nat.lt_succ_self _
    · exact Nat.lt_succ_of_lt (h.bOwed x hx)
  · intro c hc; rw [m.fresh] at hc; rw [m.nc]; exact Nat.lt_succ_of_lt (h.bFresh c hc)
  · intro a ha; rw [m.ledger] at ha; rw [m.nc]
    rcases List.mem_cons.1 ha with rfl | ha
    · exact ⟨Nat.lt_succ_self _, Nat.lt_succ_self _⟩
    · exact ⟨Nat.lt_succ_of_lt (h.bLedger a ha).1, Nat.lt_succ_of_lt (h.bLedger a ha).2⟩
  · intro e he c hc; rw [m.log] at he; rw [m.nc, m.fresh, hmem]
    obtain ⟨h1, h2, h3⟩ := h.bLog e he c hc
    refine ⟨Nat.lt_succ_of_lt h1, ?_, h3⟩
    rintro (h4 | h4)
    · exact Nat.ne_of_lt h1 h4
    · exact h2 h4
  · intro c hc; rw [m.fresh] at hc; rw [hmem]
    rintro (h4 | h4)
    · exact Nat.ne_of_lt (h.bFresh c hc) h4
    · exact h.freshOwed c hc h4
  · intro a ha; rw [m.ledger] at ha; rw [m.fresh]
    rcases List.mem_cons.1 ha with rfl | ha
    · have : g.m.nextConn ∉ g.fresh := fun hm => Nat.lt_irrefl _ (h.bFresh _ hm)
      exact ⟨this, this⟩
    · exact h.ledFresh a ha
  · intro a ha hne x hx hxc; rw [m.ledger] at ha; rw [m.owed] at hx
    rcases List.mem_cons.1 ha with rfl | ha
    · exact absurd rfl hne
    · rcases List.mem_cons.1 hx with rfl | hx
      · exact absurd hxc.symm (Nat.ne_of_lt (h.bLedger a ha).2)
      · exact h.carrierAcc a ha hne x hx hxc
  · intro a ha; rw [m.ledger] at ha
    rw [ledger_iff, outcome_same m.log]; simp only [hmem]
    rcases List.mem_cons.1 ha with rfl | ha
    · refine ⟨fun _ => rfl, ?_⟩
      rw [if_pos (Or.inl rfl), outcome_eq]
      exact reportsOf_zero _ _ fun e he c hc => ⟨Nat.ne_of_lt (h.bLog e he c hc).1, Nat.ne_of_lt (h.bLog e he c hc).1⟩
    · have hb := h.bLedger a ha
      simp only [Nat.ne_of_lt hb.1, Nat.ne_of_lt hb.2, false_or]
      exact h.ledger_eq a ha

theorem mem_filter_ne {c x : ConnId} {l : List ConnId} : x ∈ l.filter (· ≠ c) ↔ x ∈ l ∧ x ≠ c := by
  simp

/-- The pending accept `o` resolves: `ConnectionEstablished` is reported for its connection. -/
structure Move.Accepted (g g' : G) (o : Owed) (p : Peer) (ep : Endpoint) : Prop where
  mem : o ∈ g.owed
  phase : o.phase = .accepting
  conn : ep.conn = o.conn
  owed : g'.owed = dropOwed o.conn g.owed
  ledger : g'.ledger = g.ledger
  fresh : g'.fresh = g.fresh
  log : g'.log = g.log ++ [.established p ep]
  nc : g'.m.nextConn = g.m.nextConn
  pend : g'.m.pending = g.m.pending
  pa : ∀ x, x ≠ o.conn → findAccept x g'.m.pendingAccept = findAccept x g.m.pendingAccept
  state : ∀ q, stateOf g'.m q = stateOf g.m q
  live : g'.live = g.live

theorem Move.Accepted.inv05 {g g' : G} {o : Owed} {p : Peer} {ep : Endpoint} (h : Inv05 g)
    (m : Move.Accepted g g' o p ep) : Inv05 g' := by
  have hne : ∀ x : Owed, x.phase ≠ .accepting → x ≠ o := fun x hx e => hx (e ▸ m.phase)
  refine inv05_end h o m.mem m.owed m.ledger m.fresh _ m.log (congrArg some m.conn) (fun a _ => by rw [← m.conn]; rfl) m.nc ?_ ?_ ?_
  · intro x hx; rw [m.owed] at hx
    obtain ⟨hm, hxc⟩ := mem_dropOwed.1 hx
    exact (h.tracked hm).congr (by rw [m.pend]) (fun _ => m.state _) (fun hs => m.pa _ hxc ▸ hs)
  · intro c q hc; rw [m.pend] at hc
    obtain ⟨y, hy, hyc, hp'⟩ := h.pendOwed c q hc
    exact ⟨y, by rw [m.owed]; exact mem_dropOwed_of_ne h.nodup m.mem hy (hne y hp'), hyc, hp'⟩
  · intro q c ph hs; rw [m.state] at hs; rw [m.owed]
    exact mem_dropOwed_of_ne h.nodup m.mem (h.of_attempt hs).1 (hne _ (h.of_attempt hs).2)

theorem mem_recarry {cs : List ConnId} {c : ConnId} {l : List Attempt} {b : Attempt} :
    b ∈ recarry cs c l ↔ ∃ a ∈ l, b = if a.carrier ∈ cs then { a with carrier := c } else a := by
  simp only [recarry, List.mem_map]
  constructor
  · rintro ⟨a, ha, rfl⟩; exact ⟨a, ha, rfl⟩
  · rintro ⟨a, ha, rfl⟩; exact ⟨a, ha, rfl⟩

/-- The manager accepts connection `c` of peer `p` (`src`: an inbound connection with a fresh id, or one the manager
dialed itself). `cs`: the `Opening` attempt of `p` (there is at most one), which the accept cancels and `c` carries from
then on. The peer goes on in state `s'`. -/
structure Move.Accept (g g' : G) (c : ConnId) (cs : List ConnId) (p : Peer) (isL : Bool) (s' : PeerState) : Prop where
  src : c ∈ g.fresh ∨ ⟨c, .dialing, p⟩ ∈ g.owed
  cancelled : ∀ x, x ∈ cs ↔ ∃ as ts, stateOf g.m p = .opening as x ts
  owed : g'.owed = ⟨c, .accepting, p⟩ :: (dropOwed c g.owed).filter (·.conn ∉ cs)
  ledger : g'.ledger = recarry cs c g.ledger
  fresh : g'.fresh = g.fresh.filter (· ≠ c)
  log : g'.log = g.log
  nc : g'.m.nextConn = g.m.nextConn
  pend : ∀ x, alookup x g'.m.pending = if x = c ∨ x ∈ cs then none else alookup x g.m.pending
  paSelf : (findAccept c g'.m.pendingAccept).isSome = true
  paOther : ∀ x, (findAccept x g.m.pendingAccept).isSome = true → (findAccept x g'.m.pendingAccept).isSome = true
  state : ∀ q, stateOf g'.m q = if q = p then s' else stateOf g.m q
  notOpening : ∀ as x ts, s' ≠ .opening as x ts
  holdsDial : ∀ x, s'.holdsDial x = ((stateOf g.m p).holdsDial x && !(x == c))
  live : g'.live = addLive ⟨p, c, isL⟩ g.live

section Accept
variable {g g' : G} {c : ConnId} {cs : List ConnId} {p : Peer} {isL : Bool} {s' : PeerState}

theorem Move.Accept.mem_owed (m : Move.Accept g g' c cs p isL s') (x : Owed) :
    x ∈ g'.owed ↔ x = ⟨c, .accepting, p⟩ ∨ x ∈ g.owed ∧ x.conn ≠ c ∧ x.conn ∉ cs := by
  rw [m.owed]; simp [mem_dropOwed, and_assoc]

theorem Move.Accept.cancelled_owed (h : Inv05 g) (m : Move.Accept g g' c cs p isL s') {x : ConnId} (hx : x ∈ cs) :
    ⟨x, .opening, p⟩ ∈ g.owed := by
  obtain ⟨as, ts, hs⟩ := (m.cancelled x).1 hx; exact h.openTracked p as x ts hs

theorem Move.Accept.inv05 (h : Inv05 g) (m : Move.Accept g g' c cs p isL s') : Inv05 g' := by
  obtain ⟨hself, hst⟩ := stateOf_update m.state
  have hcOwed : ∀ y ∈ g.owed, y.conn = c → y = ⟨c, .dialing, p⟩ := by
    intro y hy hyc
    rcases m.src with hc | hc
    · exact absurd (mem_conns.2 ⟨y, hy, hyc⟩) (h.freshOwed c hc)
    · exact owed_unique h.nodup hy hc hyc
  have hcLed : ∀ a ∈ g.ledger, a.conn = c ∨ a.carrier = c → c ∈ conns g.owed := by
    intro a ha hac
    rcases m.src with hc | hc
    · rcases hac with e | e
      · exact absurd (e ▸ hc) (h.ledFresh a ha).1
      · exact absurd (e ▸ hc) (h.ledFresh a ha).2
    · exact mem_conns.2 ⟨_, hc, rfl⟩
  have hcLog : ∀ e ∈ g.log, ∀ x, evConn e = some x → x ≠ c := by
    intro e he x hx hxc
    rcases m.src with hc | hc
    · exact (h.bLog e he x hx).2.2 (hxc ▸ hc)
    · exact (h.bLog e he x hx).2.1 (hxc ▸ mem_conns.2 ⟨_, hc, rfl⟩)
  have hcLt : c < g.m.nextConn := m.src.elim (h.bFresh c) (h.bOwed _)
  have hccs : c ∉ cs := fun hx => by cases hcOwed _ (m.cancelled_owed h hx) rfl
  have hmem : ∀ x, x ∈ conns g'.owed ↔ x = c ∨ x ∈ conns g.owed ∧ x ∉ cs := by
    intro x; simp only [mem_conns, m.mem_owed]
    constructor
    · rintro ⟨o, rfl | ⟨ho, _, hn⟩, rfl⟩
      · exact Or.inl rfl
      · exact Or.inr ⟨⟨o, ho, rfl⟩, hn⟩
    · rintro (rfl | ⟨⟨o, ho, rfl⟩, hn⟩)
      · exact ⟨_, Or.inl rfl, rfl⟩
      · by_cases hoc : o.conn = c
        · exact ⟨_, Or.inl rfl, hoc.symm⟩
        · exact ⟨o, Or.inr ⟨ho, hoc, hn⟩, rfl⟩
  constructor
  -- an `Opening` obligation that stays belongs to another peer; a dial record of `p` itself survives
  -- `on_connection_established` unless it is `c`'s
  · intro x hx hp'
    rcases (m.mem_owed x).1 hx with rfl | ⟨hx, hxc, hn⟩
    · cases hp'
    · obtain ⟨h1, as, h2⟩ := h.trackOpen x hx hp'
      have hq : x.peer ≠ p := fun e => hn ((m.cancelled _).2 ⟨as, _, e ▸ h2⟩)
      exact ⟨by rw [m.pend, if_neg (not_or.2 ⟨hxc, hn⟩)]; exact h1, as, by rw [hst _ hq]; exact h2⟩
  · intro x hx hp'
    rcases (m.mem_owed x).1 hx with rfl | ⟨hx, hxc, hn⟩
    · cases hp'
    · obtain ⟨h1, h2⟩ := h.trackDial x hx hp'
      refine ⟨by rw [m.pend, if_neg (not_or.2 ⟨hxc, hn⟩)]; exact h1, ?_⟩
      by_cases hq : x.peer = p
      · rw [hq, hself, m.holdsDial, ← hq, h2]; simp [hxc]
      · rw [hst _ hq]; exact h2
  · intro x hx hp'
    rcases (m.mem_owed x).1 hx with rfl | ⟨hx, _⟩
    · exact m.paSelf
    · exact m.paOther _ (h.trackAcc x hx hp')
  · intro x q hx; rw [m.pend] at hx
    split at hx
    · cases hx
    · rename_i hn
      obtain ⟨y, hy, hyc, hp'⟩ := h.pendOwed x q hx
      exact ⟨y, (m.mem_owed y).2 (Or.inr ⟨hy, hyc ▸ (not_or.1 hn).1, hyc ▸ (not_or.1 hn).2⟩), hyc, hp'⟩
  · intro q as x ts hs
    have hq : q ≠ p := fun e => by rw [e, hself] at hs; exact m.notOpening as x ts hs
    rw [hst q hq] at hs
    have ho := h.openTracked q as x ts hs
    refine (m.mem_owed _).2 (Or.inr ⟨ho, fun hx => (by cases hcOwed _ ho hx), fun hx => hq ?_⟩)
    exact congrArg Owed.peer (owed_unique h.nodup ho (m.cancelled_owed h hx) rfl)
  · intro q x hs
    have hs0 : (stateOf g.m q).holdsDial x = true ∧ (q = p → x ≠ c) := by
      by_cases hq : q = p
      · subst hq; rw [hself, m.holdsDial, Bool.and_eq_true] at hs
        exact ⟨hs.1, fun _ => by simpa using hs.2⟩
      · rw [hst q hq] at hs; exact ⟨hs, fun e => absurd e hq⟩
    have ho := h.dialTracked q x hs0.1
    refine (m.mem_owed _).2 (Or.inr ⟨ho, fun hx => ?_,
      fun hx => by cases owed_unique h.nodup ho (m.cancelled_owed h hx) rfl⟩)
    exact hs0.2 (congrArg Owed.peer (hcOwed _ ho hx)) hx
  · rw [m.owed]; simp only [conns, List.map_cons, List.nodup_cons]
    exact ⟨fun hm => (mem_conns_dropOwed.1 ((List.filter_sublist.map _).subset hm)).2 rfl,
      List.Nodup.sublist (List.filter_sublist.map _) (nodup_conns_dropOwed h.nodup)⟩
  · intro x hx; rw [m.nc]
    rcases (m.mem_owed x).1 hx with rfl | ⟨hx, _⟩
    · exact hcLt
    · exact h.bOwed x hx
  · intro x hx; rw [m.fresh] at hx; rw [m.nc]; exact h.bFresh x (mem_filter_ne.1 hx).1
  · intro b hb; rw [m.ledger] at hb; rw [m.nc]
    obtain ⟨a, ha, rfl⟩ := mem_recarry.1 hb
    split
    · exact ⟨(h.bLedger a ha).1, hcLt⟩
    · exact h.bLedger a ha
  · intro e he x hx; rw [m.log] at he; rw [m.nc, m.fresh, hmem]
    obtain ⟨h1, h2, h3⟩ := h.bLog e he x hx
    refine ⟨h1, ?_, fun hm => h3 (mem_filter_ne.1 hm).1⟩
    rintro (h4 | h4)
    · exact hcLog e he x hx h4
    · exact h2 h4.1
  · intro x hx; rw [m.fresh] at hx; rw [hmem]
    obtain ⟨hx1, hx2⟩ := mem_filter_ne.1 hx
    rintro (h4 | h4)
    · exact hx2 h4
    · exact h.freshOwed x hx1 h4.1
  · intro b hb; rw [m.ledger] at hb; rw [m.fresh]
    obtain ⟨a, ha, rfl⟩ := mem_recarry.1 hb
    have hf := h.ledFresh a ha
    split
    · exact ⟨fun hm => hf.1 (mem_filter_ne.1 hm).1, fun hm => (mem_filter_ne.1 hm).2 rfl⟩
    · exact ⟨fun hm => hf.1 (mem_filter_ne.1 hm).1, fun hm => hf.2 (mem_filter_ne.1 hm).1⟩
  -- a recarried attempt is carried by `c`, which is owed its `accept`; the others keep their carrier
  · intro b hb hnec x hx hxc; rw [m.ledger] at hb
    obtain ⟨a, ha, rfl⟩ := mem_recarry.1 hb
    rcases (m.mem_owed x).1 hx with rfl | ⟨hm, hne, _⟩
    · rfl
    · split at hxc
      · exact absurd hxc hne
      · rename_i hcar
        rw [if_neg hcar] at hnec
        exact h.carrierAcc a ha hnec x hm hxc
  · intro b hb; rw [m.ledger] at hb
    obtain ⟨a, ha, rfl⟩ := mem_recarry.1 hb
    obtain ⟨hl1, hl2⟩ := h.ledger_eq a ha
    rw [ledger_iff]; simp only [hmem]
    split
    · rename_i hcar
      -- a superseded attempt: nothing was reported for it, and `c` does not occur in the log
      have ho := m.cancelled_owed h hcar
      have hconn : a.carrier = a.conn := Decidable.byContradiction fun hne' => by
        cases h.carrierAcc a ha hne' _ ho rfl
      refine ⟨?_, ?_⟩
      · rintro (h4 | h4)
        · exact absurd (h4 ▸ hconn ▸ hcar) hccs
        · exact absurd (hconn ▸ hcar) h4.2
      · rw [if_pos (Or.inl rfl), outcome_eq, m.log]
        refine reportsOf_recarry a c g.log hcLog ?_
        rw [← outcome_eq, hl2, if_pos (mem_conns.2 ⟨_, ho, rfl⟩)]
    · rename_i hcar
      -- any other attempt: same reports, and its carrier is owed afterwards iff it was before
      rw [outcome_same m.log, hl2]
      refine ⟨fun hm => hl1 (hm.elim (fun e => e ▸ hcLed a ha (Or.inl e)) (·.1)), ?_⟩
      by_cases hac : a.carrier = c
      · rw [if_pos (Or.inl hac), if_pos (hac ▸ hcLed a ha (Or.inr hac))]
      · simp only [hac, hcar, false_or, not_false_eq_true, and_true]

end Accept

/-- What one step does to the ghost state when the environment keeps its contract. -/
inductive Move (g g' : G) : Prop
  | frame (evs) (m : Move.Frame g g' evs)
  | new (p lp ph s') (m : Move.New g g' p lp ph s')
  | opened (o d) (m : Move.Opened g g' o d)
  | drop (o e s') (m : Move.Drop g g' o e s')
  | accepted (o p ep) (m : Move.Accepted g g' o p ep)
  | accept (c cs p isL s') (m : Move.Accept g g' c cs p isL s')

theorem Move.inv05 {g g' : G} (h : Inv05 g) : Move g g' → Inv05 g'
  | .frame _ m | .new _ _ _ _ m | .opened _ _ m | .drop _ _ _ m | .accepted _ _ _ m | .accept _ _ _ _ _ m => m.inv05 h

theorem Move.same {g : G} (m' : Mgr) (hnc : g.m.nextConn ≤ m'.nextConn) (hpend : m'.pending = g.m.pending)
    (hpa : m'.pendingAccept = g.m.pendingAccept) (hst : ∀ q, stateOf m' q = stateOf g.m q) :
    Move g { g with m := m' } :=
  .frame [] ⟨rfl, rfl, (List.append_nil _).symm, by simp, hnc, fun c hc => Or.inl hc,
    fun c => congrArg (alookup c) hpend, hpa, fun q as c ts => by rw [hst], fun q c => by rw [hst], fun l hl => hl⟩

theorem Move.refl (g : G) : Move g g :=
  .same g.m (Nat.le_refl _) rfl rfl fun _ => rfl

end Litep2pVerif.Manager
