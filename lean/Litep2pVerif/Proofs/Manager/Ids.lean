import Litep2pVerif.Proofs.Manager.LedgerStep
/-! Connection ids (C06 `connection_ids_unique`): one counter (`Mgr.nextConn`) serves the manager's own dials and the ids
the transports take for inbound connections (`In.alloc` = `TransportHandle::next_connection_id`); under the transport
contract the ids of all live connections are pairwise distinct, below the counter, and shared with no inbound socket
still waiting and no dial in flight. -/
namespace Litep2pVerif.Manager

theorem closeConn_nc (s : Mgr) (p : Peer) (c : ConnId) : (closeConn s p c).1.nextConn = s.nextConn := rfl

/-- The ids of the live connections (accepted, not yet closed or rolled back) against the other users of the
counter. -/
structure InvIds (g : G) : Prop where
  /-- The id of a live connection is spent: its `accept` is still owed, or the connection has been reported. -/
  seen : ∀ l ∈ g.live, (∃ o ∈ g.owed, o.conn = l.conn ∧ o.phase = .accepting) ∨ ∃ e ∈ g.log, evConn e = some l.conn
  uniq : ∀ l ∈ g.live, ∀ l' ∈ g.live, l.conn = l'.conn → l = l'

theorem InvIds.spent {g : G} (h : InvIds g) (h5 : Inv05 g) {l : Live} (hl : l ∈ g.live) :
    l.conn < g.m.nextConn ∧ l.conn ∉ g.fresh ∧ ∀ o ∈ g.owed, o.conn = l.conn → o.phase = .accepting := by
  rcases h.seen l hl with ⟨o, ho, hc, hp⟩ | ⟨e, he, hc⟩
  · exact ⟨hc ▸ h5.bOwed o ho, fun hf => h5.freshOwed _ hf (mem_conns.2 ⟨o, ho, hc⟩),
      fun o' ho' hc' => owed_unique h5.nodup ho' ho (hc'.trans hc.symm) ▸ hp⟩
  · obtain ⟨h1, h2, h3⟩ := h5.bLog e he _ hc
    exact ⟨h1, h3, fun o' ho' hc' => absurd (mem_conns.2 ⟨o', ho', hc'⟩) h2⟩

theorem InvIds.of_sub {g g' : G} (h : InvIds g) (hlive : ∀ l ∈ g'.live, l ∈ g.live)
    (hacc : ∀ o ∈ g.owed, o.phase = .accepting → o ∈ g'.owed ∨ ∃ e ∈ g'.log, evConn e = some o.conn)
    (hlog : ∀ e ∈ g.log, e ∈ g'.log) : InvIds g' := by
  refine ⟨fun l hl => ?_, fun l hl l' hl' => h.uniq l (hlive l hl) l' (hlive l' hl')⟩
  rcases h.seen l (hlive l hl) with ⟨o, ho, hc, hp⟩ | ⟨e, he, hc⟩
  · rcases hacc o ho hp with ho' | ⟨e, he, hce⟩
    · exact Or.inl ⟨o, ho', hc, hp⟩
    · exact Or.inr ⟨e, he, hc ▸ hce⟩
  · exact Or.inr ⟨e, hlog e he, hc⟩

theorem Move.Accept.invIds {g g' : G} {c : ConnId} {cs : List ConnId} {p : Peer} {isL : Bool} {s' : PeerState}
    (h : InvIds g) (h5 : Inv05 g) (m : Move.Accept g g' c cs p isL s') : InvIds g' := by
  -- an old live connection does not carry `c`, and the `accept` it may still be owed stays owed
  have hold : ∀ l ∈ g.live, l.conn ≠ c ∧
      ((∃ o ∈ g'.owed, o.conn = l.conn ∧ o.phase = .accepting) ∨ ∃ e ∈ g'.log, evConn e = some l.conn) := by
    intro l hl
    obtain ⟨_, hf, ho⟩ := h.spent h5 hl
    have hne : l.conn ≠ c := fun e => m.src.elim (fun hcf => hf (e ▸ hcf)) fun hco => by cases ho _ hco e.symm
    refine ⟨hne, (h.seen l hl).imp (fun ⟨o, hom, hoc, hop⟩ => ⟨o, ?_, hoc, hop⟩) fun ⟨e, he, hec⟩ => ⟨e, m.log ▸ he, hec⟩⟩
    refine (m.mem_owed o).2 (Or.inr ⟨hom, hoc ▸ hne, fun hx => ?_⟩)
    rw [owed_unique h5.nodup hom (m.cancelled_owed h5 hx) rfl] at hop; cases hop
  have hmem : ∀ l, l ∈ g'.live ↔ l = ⟨p, c, isL⟩ ∨ l ∈ g.live := fun l => m.live ▸ mem_addLive _ _ _
  constructor
  · intro l hl
    rcases (hmem l).1 hl with rfl | hl
    · exact Or.inl ⟨_, m.owed ▸ List.mem_cons_self .., rfl, rfl⟩
    · exact (hold l hl).2
  · intro l hl l' hl' e
    rcases (hmem l).1 hl with rfl | hl <;> rcases (hmem l').1 hl' with rfl | hl'
    · rfl
    · exact absurd e.symm (hold l' hl').1
    · exact absurd e (hold l hl).1
    · exact h.uniq l hl l' hl' e

theorem Move.invIds {g g' : G} (h : InvIds g) (h5 : Inv05 g) : Move g g' → InvIds g'
  | .frame _ m =>
    h.of_sub m.live (fun o ho _ => Or.inl (m.owed ▸ ho)) fun e he => m.log ▸ List.mem_append_left _ he
  | .new _ _ _ _ m =>
    h.of_sub (fun l hl => m.live ▸ hl) (fun o ho _ => Or.inl (m.owed ▸ List.mem_cons_of_mem _ ho)) fun e he => m.log ▸ he
  | .opened _ _ m =>
    h.of_sub (fun l hl => m.live ▸ hl)
      (fun x hx hp => Or.inl (m.owed ▸ List.mem_cons_of_mem _
        (mem_dropOwed_of_ne h5.nodup m.mem hx fun e => by rw [e, m.phase] at hp; cases hp)))
      fun e he => m.log ▸ he
  | .drop _ _ _ m =>
    h.of_sub (fun l hl => m.live ▸ hl)
      (fun x hx hp => Or.inl (m.owed ▸ mem_dropOwed_of_ne h5.nodup m.mem hx fun e => m.phase (e ▸ hp)))
      fun e he => m.log ▸ List.mem_append_left _ he
  | .accepted o p ep m =>
    h.of_sub (fun l hl => m.live ▸ hl)
      (fun x hx _ => by
        by_cases e : x = o
        · exact Or.inr ⟨.established p ep, m.log ▸ List.mem_append_right _ (List.mem_singleton.2 rfl),
            by rw [e, ← m.conn]; rfl⟩
        · exact Or.inl (m.owed ▸ mem_dropOwed_of_ne h5.nodup m.mem hx e))
      fun e he => m.log ▸ List.mem_append_left _ he
  | .accept _ _ _ _ _ m => m.invIds h h5

theorem invIds_reach {g : G} (h : Reach g) : InvIds g := by
  induction h with
  | init cfg => exact ⟨by simp [G.init], by simp [G.init]⟩
  | step i hr hal ih => exact (gstep_move (inv05_reach hr) i hal).invIds ih (inv05_reach hr)

end Litep2pVerif.Manager
