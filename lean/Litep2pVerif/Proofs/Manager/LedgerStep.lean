import Litep2pVerif.Proofs.Manager.Ledger
/-! Every step a contract-abiding environment allows is one of the moves of `Ledger.lean`, input by input; hence the C05
invariant along `Reach`. -/
namespace Litep2pVerif.Manager

theorem gstep_fst (g : G) (i : In) : (gstep g i).1 = ghost g i (step g.m i).1 (step g.m i).2 := rfl

theorem move_evDialFailure {g : G} (h : Inv05 g) (c : ConnId) (a : Multiaddr) (e : DialErr)
    (hal : allowed g (.evDialFailure c a e) = true) : Move g (gstep g (.evDialFailure c a e)).1 := by
  simp only [allowed, Bool.and_eq_true, List.any_eq_true, beq_iff_eq] at hal
  obtain ⟨⟨o, ho, hoc, hoph⟩, hlast⟩ := hal
  subst hoc
  obtain ⟨hp, hd⟩ := h.trackDial o ho hoph
  obtain ⟨lp, hlp⟩ := Option.isSome_iff_exists.1 hlast
  have hstep : step g.m (.evDialFailure o.conn a e) =
      ({ setState (updAddrFail g.m a e) o.peer
            ((stateOf (updAddrFail g.m a e) o.peer).onDialFailure o.conn).1 with
          pending := aerase o.conn g.m.pending },
        { events := [.dialFailure o.conn a e] }) := by
    show onDialFailure g.m o.conn a e = _
    unfold onDialFailure; rw [hp]; simp [hlp]
  rw [gstep_fst, hstep]
  refine .drop o (.dialFailure o.conn a e) ((stateOf g.m o.peer).onDialFailure o.conn).1
    (.mk ho (by rw [hoph]; simp) rfl rfl rfl rfl rfl (fun _ => rfl) ?_ (fun _ => alookup_aerase ..) ?_ ?_
      (by rw [PeerState.attempt_onDialFailure, if_pos hd]) rfl)
  · simp [ghost]
  · simp [ghost]
  · intro q
    show stateOf (setState (updAddrFail g.m a e) o.peer _) q = _
    rw [stateOf_setState]; simp only [stateOf_updAddrFail]

theorem move_evOpenFailure {g : G} (h : Inv05 g) (c : ConnId) (errs : List (Multiaddr × DialErr))
    (hal : allowed g (.evOpenFailure c errs) = true) : Move g (gstep g (.evOpenFailure c errs)).1 := by
  simp only [allowed, Bool.and_eq_true, List.any_eq_true, beq_iff_eq] at hal
  obtain ⟨o, ho, hoc, hoph⟩ := hal
  subst hoc
  obtain ⟨hp, as, hs⟩ := h.trackOpen o ho hoph
  have hstep : step g.m (.evOpenFailure o.conn errs) =
      ({ setState (updAddrFails g.m errs) o.peer (.disconnected none) with
          pending := aerase o.conn g.m.pending,
          openingErrors := aerase o.conn g.m.openingErrors },
        { events := [.openFailure o.conn (((alookup o.conn g.m.openingErrors).getD []) ++ errs)] }) := by
    show onOpenFailure g.m o.conn errs = _
    unfold onOpenFailure; rw [hp]
    simp [hs, PeerState.onOpenFailure]
  rw [gstep_fst, hstep]
  refine .drop o (.openFailure o.conn _) (.disconnected none)
    (.mk ho (by rw [hoph]; simp) rfl rfl rfl rfl rfl (fun _ => rfl) ?_ (fun _ => alookup_aerase ..) ?_ ?_ rfl rfl)
  · simp [ghost]
  · simp [ghost]
  · intro q
    show stateOf (setState (updAddrFails g.m errs) o.peer _) q = _
    rw [stateOf_setState, stateOf_updAddrFails]

theorem dropOwed_idem (c : ConnId) (l : List Owed) : dropOwed c (dropOwed c l) = dropOwed c l := by
  simp [dropOwed, List.filter_filter]

theorem move_evOpened {g : G} (h : Inv05 g) (c : ConnId) (a : Multiaddr) (errs : List (Multiaddr × DialErr))
    (hal : allowed g (.evOpened c a errs) = true) : Move g (gstep g (.evOpened c a errs)).1 := by
  simp only [allowed, Bool.and_eq_true, List.any_eq_true, beq_iff_eq] at hal
  obtain ⟨o, ho, hoc, hoph⟩ := hal
  subst hoc
  obtain ⟨hp, as, hs⟩ := h.trackOpen o ho hoph
  have hs' : stateOf (openedPre g.m o.conn errs) o.peer = .opening as o.conn [.tcp] := by
    unfold openedPre; rw [stateOf_updAddrFails]; exact hs
  have hstep : step g.m (.evOpened o.conn a errs) =
      ({ setState (updAddr (openedPre g.m o.conn errs) o.peer (addrNew o.peer a) scoreEstablished) o.peer
            (.dialing (ConnRecord.new o.peer a o.conn)) with
          pending := ainsert o.conn o.peer (aerase o.conn g.m.pending) },
        { calls := [Call.cancel o.conn, .negotiate o.conn] }) := by
    show onOpened g.m o.conn a errs = _
    unfold onOpened; rw [hp]; simp only []; rw [hs']; rfl
  rw [gstep_fst, hstep]
  refine .opened o (ConnRecord.new o.peer a o.conn) (.mk ho hoph rfl ?_ rfl rfl ?_ ?_ ?_ ?_ ?_ rfl)
  · show (ghost g (.evOpened o.conn a errs) _ _).owed = _
    simp only [ghost, List.filterMap_cons, List.filterMap_nil]
    rw [dropOwed_idem, owedPeer_of_mem h.nodup ho]
  · simp [ghost]
  · simp [ghost, openedPre]
  · intro x
    show alookup x (ainsert o.conn o.peer (aerase o.conn g.m.pending)) = _
    rw [alookup_ainsert, alookup_aerase]; split
    · rename_i e; rw [← e, hp]
    · rfl
  · simp [ghost, openedPre]
  · intro q
    show stateOf (setState (updAddr (openedPre g.m o.conn errs) o.peer _ _) o.peer _) q = _
    rw [stateOf_setState, stateOf_updAddr]; unfold openedPre; rw [stateOf_updAddrFails]; rfl

theorem move_acceptResult {g : G} (h : Inv05 g) (c : ConnId) (ok : Bool)
    (hal : allowed g (.acceptResult c ok) = true) : Move g (gstep g (.acceptResult c ok)).1 := by
  simp only [allowed, Bool.and_eq_true, List.any_eq_true, beq_iff_eq] at hal
  obtain ⟨hok, o, ho, hoc, hoph⟩ := hal
  subst hoc; subst hok
  obtain ⟨⟨p, ep⟩, hf⟩ := Option.isSome_iff_exists.1 (h.trackAcc o ho hoph)
  have hstep : step g.m (.acceptResult o.conn true) =
      ({ g.m with pendingAccept := eraseAccept o.conn g.m.pendingAccept }, { events := [.established p ep] }) := by
    show onAcceptResult g.m o.conn true = _
    unfold onAcceptResult; rw [hf]; simp
  rw [gstep_fst, hstep]
  exact .accepted o p ep (.mk ho hoph (findAccept_conn hf) rfl rfl rfl rfl rfl rfl (fun _ hx => findAccept_eraseAccept hx)
    (fun _ => rfl) rfl)

/-- Accepting a connection cancels the `Opening` attempt of the peer, if there is one: `cs` lists its id. -/
theorem cancel_shape (s : PeerState) (hts : ∀ as c ts, s = .opening as c ts → ts = [.tcp]) :
    ∃ cs : List ConnId, (∀ x, x ∈ cs ↔ ∃ as ts, s = .opening as x ts) ∧ cancelCalls s = cs.map .cancel ∧
      ∀ l x, alookup x (erasePrevOpening s l) = if x ∈ cs then none else alookup x l := by
  cases s with
  | opening as c ts =>
    cases hts as c ts rfl
    exact ⟨[c], by simp [eq_comm], rfl, fun l x => by simp [erasePrevOpening, alookup_aerase, eq_comm]⟩
  | _ => exact ⟨[], by simp, rfl, fun l x => by simp [erasePrevOpening]⟩

theorem cancelled_cancel (cs : List ConnId) (c : ConnId) : cancelled (cs.map .cancel ++ [.accept c]) = cs := by
  induction cs with
  | nil => rfl
  | cons x t ih => simpa [cancelled] using ih

theorem foldl_dropOwed (cs : List ConnId) (l : List Owed) :
    cs.foldl (fun l c => dropOwed c l) l = l.filter (·.conn ∉ cs) := by
  induction cs generalizing l with
  | nil => exact (List.filter_eq_self.2 (by simp)).symm
  | cons x t ih =>
    rw [List.foldl_cons, ih, dropOwed, List.filter_filter]
    exact List.filter_congr fun o _ => by simp [Bool.and_comm]

theorem filter_ne_of_not_mem {c : ConnId} {l : List ConnId} (h : c ∉ l) : l.filter (· ≠ c) = l :=
  Litep2pVerif.filter_ne_of_not_mem h

/-- The manager accepts an established connection: the limits have room and the peer state takes it. -/
theorem move_est_accept {g : G} (h : Inv05 g) (p : Peer) (ep : Endpoint)
    (hc : ep.conn ∈ g.fresh ∨ ⟨ep.conn, .dialing, p⟩ ∈ g.owed)
    (hp : ¬((alookup ep.conn g.m.pending).isSome ∧ alookup ep.conn g.m.pending ≠ some p))
    (hcan : g.m.limits.canAccept ep.isListener = true)
    (hest : ((stateOf g.m p).onConnectionEstablished (ConnRecord.new p ep.addr ep.conn)).2 = true) :
    Move g (ghost g (.evEstablished p ep true) (onEstablished g.m p ep true).1 (onEstablished g.m p ep true).2) := by
  obtain ⟨cs, hcs, hcalls, hprev⟩ := cancel_shape (stateOf g.m p) fun as c ts hs => h.opening_tcp hs
  have hstep : onEstablished g.m p ep true =
      ({ setState (estPre g.m p ep) p
            ((stateOf g.m p).onConnectionEstablished (ConnRecord.new p ep.addr ep.conn)).1 with
          limits := g.m.limits.accept ep.conn ep.isListener,
          pending := erasePrevOpening (stateOf g.m p) (aerase ep.conn g.m.pending),
          pendingAccept := g.m.pendingAccept ++ [(p, ep)] },
        { calls := cs.map .cancel ++ [.accept ep.conn] }) := by
    unfold onEstablished
    simp [hp, hcan, hest, hcalls, estPre_pending]
  rw [hstep]
  refine .accept ep.conn cs p ep.isListener
    ((stateOf g.m p).onConnectionEstablished (ConnRecord.new p ep.addr ep.conn)).1
    (.mk hc hcs ?_ ?_ ?_ ?_ ?_ ?_ ?_ ?_ ?_ (PeerState.onConnectionEstablished_ne_opening _ _)
      (PeerState.holdsDial_onConnectionEstablished _ _) ?_)
  · simp [ghost, cancelled_cancel, foldl_dropOwed]
  · simp [ghost, cancelled_cancel]
  · exact ghost_fresh_est ..
  · simp [ghost]
  · rw [ghost_m]; simp
  · intro x; rw [ghost_m]
    show alookup x (erasePrevOpening _ (aerase ep.conn g.m.pending)) = _
    rw [hprev, alookup_aerase]
    by_cases hx : x ∈ cs <;> simp [hx, eq_comm]
  · rw [ghost_m]; exact findAccept_append_self _ _ _
  · intro x hx; rw [ghost_m]; exact findAccept_append_isSome _ hx
  · intro q; rw [ghost_m]
    show stateOf (setState (estPre g.m p ep) p _) q = _
    rw [stateOf_setState, estPre_state]
  · rw [ghost_live_est]; simp

theorem move_est_dialer {g : G} (h : Inv05 g) (p : Peer) (ep : Endpoint)
    (ho : (⟨ep.conn, .dialing, p⟩ : Owed) ∈ g.owed) :
    Move g (gstep g (.evEstablished p ep true)).1 := by
  obtain ⟨hp', hdial'⟩ : alookup ep.conn g.m.pending = some p ∧ (stateOf g.m p).holdsDial ep.conn = true :=
    h.trackDial _ ho rfl
  rw [gstep_fst]
  show Move g (ghost g _ (onEstablished g.m p ep true).1 (onEstablished g.m p ep true).2)
  by_cases hcan : g.m.limits.canAccept ep.isListener = true
  · exact move_est_accept h p ep (Or.inr ho) (by simp [hp']) hcan (PeerState.est_of_holdsDial _ _ hdial')
  · -- rejected by the limits: the attempt ends with a dial failure (fix for finding (d))
    have hstep : onEstablished g.m p ep true =
        (setState (estPre g.m p ep) p ((stateOf g.m p).onDialFailure ep.conn).1,
          { calls := [.reject ep.conn], events := [.dialFailure ep.conn ep.addr .negotiation] }) := by
      unfold onEstablished
      simp [hp', hcan]
    rw [hstep]
    refine .drop ⟨ep.conn, .dialing, p⟩ (.dialFailure ep.conn ep.addr .negotiation)
      ((stateOf g.m p).onDialFailure ep.conn).1
      (.mk ho (by simp) ?_ ?_ ?_ ?_ rfl (fun _ => rfl) ?_ ?_ ?_ ?_
        (by rw [PeerState.attempt_onDialFailure, if_pos hdial']) ?_)
    · simp [ghost, cancelled]
    · simp [ghost, cancelled]
    · rw [ghost_fresh_est]; exact filter_ne_of_not_mem fun hf => h.freshOwed _ hf (mem_conns.2 ⟨_, ho, rfl⟩)
    · simp [ghost]
    · simp [ghost]
    · intro x
      rw [ghost_m]
      show alookup x (estPre g.m p ep).pending = _
      rw [estPre_pending, alookup_aerase]
    · simp [ghost]
    · intro q
      rw [ghost_m]
      show stateOf (setState (estPre g.m p ep) p _) q = _
      rw [stateOf_setState, estPre_state]
    · rw [ghost_live_est]; simp

theorem move_est_listener {g : G} (h : Inv05 g) (p : Peer) (ep : Endpoint)
    (hc : ep.conn ∈ g.fresh) : Move g (gstep g (.evEstablished p ep true)).1 := by
  have hnin : ep.conn ∉ conns g.owed := h.freshOwed _ hc
  have hpn : alookup ep.conn g.m.pending = none := h.pending_none hnin
  have hdrop : dropOwed ep.conn g.owed = g.owed := dropOwed_of_not_mem hnin
  rw [gstep_fst]
  show Move g (ghost g _ (onEstablished g.m p ep true).1 (onEstablished g.m p ep true).2)
  -- the two refusals leave everything but the fresh set alone
  have hrefuse : onEstablished g.m p ep true = (estPre g.m p ep, { calls := [.reject ep.conn] }) →
      Move g (ghost g (.evEstablished p ep true) (onEstablished g.m p ep true).1 (onEstablished g.m p ep true).2) := by
    intro hstep; rw [hstep]
    refine .frame [] (.mk ?_ ?_ ?_ (by simp) ?_ ?_ ?_ ?_ ?_ ?_ ?_)
    · simp [ghost, cancelled, hdrop]
    · simp [ghost, cancelled]
    · simp [ghost]
    · rw [ghost_m]; simp
    · intro x hx; rw [ghost_fresh_est] at hx; exact Or.inl (mem_filter_ne.1 hx).1
    · intro x; rw [ghost_m, estPre_pending, alookup_aerase]; split
      · rename_i e; rw [← e, hpn]
      · rfl
    · rw [ghost_m]; simp
    · intro q as x ts; rw [ghost_m, estPre_state]
    · intro q x; rw [ghost_m, estPre_state]
    · rw [ghost_live_est]; simp
  by_cases hcan : g.m.limits.canAccept ep.isListener = true
  · by_cases hest : ((stateOf g.m p).onConnectionEstablished (ConnRecord.new p ep.addr ep.conn)).2 = true
    · exact move_est_accept h p ep (Or.inl hc) (by simp [hpn]) hcan hest
    · apply hrefuse
      unfold onEstablished
      simp [hpn, hcan, hest]
  · apply hrefuse
    unfold onEstablished
    simp [hpn, hcan]

theorem move_dial (g : G) (p : Peer) (ch : List Multiaddr) : Move g (gstep g (.dial p ch)).1 := by
  rw [gstep_fst]
  show Move g (ghost g _ (dial g.m p ch).1 (dial g.m p ch).2)
  rcases dial_cases g.m p ch with ⟨h1, h2, h3⟩ | ⟨cap, _, hidle, heq⟩
  · have : ghost g (.dial p ch) (dial g.m p ch).1 (dial g.m p ch).2 = g := by simp [ghost, h1, h2, h3]
    rw [this]; exact .refl g
  · rw [heq]
    refine .new p p .opening _ (.mk (by simp) hidle rfl rfl rfl (by simp [ghost]) rfl rfl rfl
      (fun q => stateOf_setState ..) rfl (fun _ _ _ e => by cases e; rfl) rfl)

theorem move_dialAddress (g : G) (a : Multiaddr) : Move g (gstep g (.dialAddress a)).1 := by
  rw [gstep_fst]
  show Move g (ghost g _ (dialAddress g.m a).1 (dialAddress g.m a).2)
  cases dialAddress_shape g.m a with
  | quiet hres hcalls hev hst hpend hlim hpa hnc =>
    have : ghost g (.dialAddress a) (dialAddress g.m a).1 (dialAddress g.m a).2 = { g with m := (dialAddress g.m a).1 } := by
      simp [ghost, hcalls, hev]
    rw [this]
    exact .same _ hnc hpend hpa hst
  | started remote hres hcalls hev hremote htcp hidle hst hpend hlim hpa hnc =>
    refine .new remote remote .dialing _ (.mk (by simp) hidle ?_ ?_ ?_ ?_ ?_ ?_ ?_
      (fun q => by rw [ghost_m]; exact hst q) rfl (fun _ _ _ e => by cases e) ?_)
    · simp [ghost, hcalls, htcp]
    · simp [ghost, hcalls, hremote]
    · simp [ghost, hcalls]
    · simp [ghost, hcalls, hev]
    · rw [ghost_m]; exact hnc
    · rw [ghost_m]; exact hpend
    · rw [ghost_m]; exact hpa
    · simp [ghost, hcalls]

theorem move_evClosed (g : G) (p : Peer) (c : ConnId) : Move g (gstep g (.evClosed p c)).1 := by
  rw [gstep_fst]
  show Move g (ghost g _ (onClosed g.m p c).1 (onClosed g.m p c).2)
  refine .frame (closeConn g.m p c).2 (.mk rfl rfl rfl ?_ (Nat.le_refl _) (fun x hx => Or.inl hx)
    (fun x => rfl) rfl ?_ ?_ (fun l hl => ((mem_dropLive c l _).1 hl).1))
  · intro e he
    unfold closeConn at he
    simp only at he
    split at he
    · rw [List.mem_singleton.1 he]; rfl
    · cases he
  · intro q as x ts
    show stateOf (closeConn g.m p c).1 q = _ ↔ _
    rw [closeConn_state]; split
    · rename_i hq; subst hq; exact PeerState.onConnectionClosed_opening_iff ..
    · rfl
  · intro q x
    show (stateOf (closeConn g.m p c).1 q).holdsDial x = _
    rw [closeConn_state]; split
    · rename_i hq; subst hq; exact PeerState.holdsDial_onConnectionClosed ..
    · rfl

theorem gstep_move {g : G} (h : Inv05 g) (i : In) (hal : allowed g i = true) : Move g (gstep g i).1 := by
  cases i with
  | dial p ch => exact move_dial g p ch
  | dialAddress a => exact move_dialAddress g a
  | addKnown p as =>
    have : (gstep g (.addKnown p as)).1 = { g with m := addAddrs g.m p (knownFilter p as) } := by
      simp [gstep, ghost, step, addKnown]
    rw [this]; exact .same _ (by simp) (by simp) (by simp) (by simp)
  | alloc =>
    rw [gstep_fst]
    refine .frame [] (.mk rfl rfl ?_ (by simp) ?_ ?_ (fun x => rfl) rfl (fun q as x ts => Iff.rfl) (fun q x => rfl)
      (fun l hl => hl))
    · simp [ghost, step]
    · rw [ghost_m]; exact Nat.le_succ _
    · intro x hx
      have : x = g.m.nextConn ∨ x ∈ g.fresh := by simpa [ghost, step] using hx
      rcases this with rfl | hx
      · exact Or.inr ⟨Nat.le_refl _, by rw [ghost_m]; exact Nat.lt_succ_self _⟩
      · exact Or.inl hx
  | evEstablished p ep ok =>
    simp only [allowed, Bool.and_eq_true] at hal
    obtain ⟨hok, hrest⟩ := hal
    subst hok
    cases hl : ep.isListener with
    | true =>
      rw [hl] at hrest
      exact move_est_listener h p ep (by simpa using hrest)
    | false =>
      rw [hl] at hrest
      exact move_est_dialer h p ep (by simpa using hrest)
  | evOpened c a errs => exact move_evOpened h c a errs hal
  | evOpenFailure c errs => exact move_evOpenFailure h c errs hal
  | evDialFailure c a e => exact move_evDialFailure h c a e hal
  | evPendingInbound c =>
    have : (gstep g (.evPendingInbound c)).1 = g := by
      simp only [gstep, ghost, step, onPendingInbound]; split <;> simp
    rw [this]; exact .refl g
  | evClosed p c => exact move_evClosed g p c
  | acceptResult c ok => exact move_acceptResult h c ok hal

theorem inv05_reach {g : G} (h : Reach g) : Inv05 g := by
  induction h with
  | init cfg => exact inv05_init cfg
  | step i _ hal ih => exact (gstep_move ih i hal).inv05 ih

end Litep2pVerif.Manager
