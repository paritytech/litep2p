import Litep2pVerif.Proofs.Manager.LedgerStep
import Litep2pVerif.Model.Manager.Facade
/-! Lemmas about the `Litep2p` facade translation (`Model/Manager/Facade.lean`), used by
`Props/C05.lean` (`facade_reports_every_outcome`). -/
namespace Litep2pVerif.Manager

theorem reports_zero_or_one (a : Attempt) (e : Ev) : reports a e = 0 ∨ reports a e = 1 := by
  cases e <;> simp only [reports] <;> (try split) <;> simp

theorem outcome_eq_concluding (g : G) (a : Attempt) : outcome g a = (concluding g a).length := by
  unfold outcome concluding
  induction g.log with
  | nil => rfl
  | cons e t ih =>
    rcases reports_zero_or_one a e with h | h <;> simp [h, ih] <;> omega

/-- No event the manager returns falls into the `_ => {}` arm of `Litep2p::next_event`. -/
theorem facadeEvent_toT_isSome (e : Ev) : (facadeEvent e.toT).isSome = true := by
  cases e <;> rfl

/-- The facade neither drops nor duplicates: one user event per event of the manager. -/
theorem facadeEvents_length (l : List Ev) : (facadeEvents l).length = l.length := by
  induction l with
  | nil => rfl
  | cons e t ih =>
    obtain ⟨u, hu⟩ := Option.isSome_iff_exists.1 (facadeEvent_toT_isSome e)
    rw [facadeEvents, List.filterMap_cons_some (f := fun e : Ev => facadeEvent e.toT) hu, List.length_cons,
      List.length_cons]
    exact congrArg (· + 1) ih

/-- The manager report that concludes an attempt becomes one of the three dial outcomes at the facade. -/
theorem facade_of_report (a : Attempt) (e : Ev) (h : reports a e = 1) :
    ∃ u, facadeEvent e.toT = some u ∧ u.isDialOutcome = true ∧ u.carries e = true := by
  cases e with
  | established p ep => exact ⟨_, rfl, rfl, by simp [UEv.carries]⟩
  | closed p c => simp [reports] at h
  | dialFailure c ad e => exact ⟨_, rfl, rfl, by simp [UEv.carries]⟩
  | openFailure c errs => exact ⟨_, rfl, rfl, by simp [UEv.carries]⟩

theorem uoutcome_eq_outcome (g : G) (a : Attempt) : uoutcome g a = outcome g a := by
  rw [outcome_eq_concluding]
  exact facadeEvents_length _

end Litep2pVerif.Manager
