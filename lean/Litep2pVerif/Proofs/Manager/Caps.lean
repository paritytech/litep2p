import Litep2pVerif.Proofs.Manager.Addr
import Litep2pVerif.Proofs.Common.List
/-! Invariant behind C06 (connection caps): each direction of `ConnectionLimits` counts exactly the live connections
of that direction (`Counted`), and every live connection sits in a slot of its peer. No assumption on the environment. -/
namespace Litep2pVerif.Manager

theorem mem_setInsert (l : List ConnId) (c x : ConnId) : x ∈ setInsert l c ↔ x = c ∨ x ∈ l :=
  mem_insert_unless c x l

theorem nodup_setInsert (l : List ConnId) (c : ConnId) (h : l.Nodup) : (setInsert l c).Nodup := by
  unfold setInsert; split
  · exact h
  · rename_i hc; exact List.nodup_cons.2 ⟨hc, h⟩

theorem length_setInsert_le (l : List ConnId) (c : ConnId) : (setInsert l c).length ≤ l.length + 1 := by
  unfold setInsert; split <;> simp

theorem mem_setRemove (l : List ConnId) (c x : ConnId) : x ∈ setRemove l c ↔ x ∈ l ∧ x ≠ c := by
  simp [setRemove]

theorem nodup_setRemove (l : List ConnId) (c : ConnId) (h : l.Nodup) : (setRemove l c).Nodup :=
  List.Nodup.sublist List.filter_sublist h

theorem length_setRemove_le (l : List ConnId) (c : ConnId) : (setRemove l c).length ≤ l.length :=
  List.length_filter_le _ _

theorem setRemove_setInsert (l : List ConnId) (c : ConnId) : setRemove (setInsert l c) c = setRemove l c := by
  unfold setInsert; split
  · rfl
  · simp [setRemove]

theorem mem_addLive (x l : Live) (ls : List Live) : l ∈ addLive x ls ↔ l = x ∨ l ∈ ls :=
  mem_insert_unless x l ls

theorem nodup_addLive (x : Live) (ls : List Live) (h : ls.Nodup) : (addLive x ls).Nodup := by
  unfold addLive; split
  · exact h
  · rename_i hc; exact List.nodup_cons.2 ⟨hc, h⟩

theorem mem_dropLive (c : ConnId) (l : Live) (ls : List Live) : l ∈ dropLive c ls ↔ l ∈ ls ∧ l.conn ≠ c := by
  simp [dropLive]

theorem dropLive_addLive (c : ConnId) (x : Live) (ls : List Live) (hx : x.conn = c) :
    dropLive c (addLive x ls) = dropLive c ls := by
  unfold addLive; split
  · rfl
  · simp [dropLive, hx]

theorem length_setRemove (l : List ConnId) (c : ConnId) (h : l.Nodup) :
    (setRemove l c).length + (if c ∈ l then 1 else 0) = l.length := by
  unfold setRemove
  split
  · exact filter_ne_length ‹_› h
  · rw [filter_ne_of_not_mem ‹_›]; rfl

namespace Limits

theorem accept_cfg (l : Limits) (c : ConnId) (b : Bool) : (l.accept c b).cfg = l.cfg := by
  unfold accept; (repeat' split) <;> rfl

theorem accept_incoming (l : Limits) (c : ConnId) (b : Bool) :
    (l.accept c b).incoming = if b = true ∧ l.cfg.maxIn.isSome = true then setInsert l.incoming c else l.incoming := by
  unfold accept; (repeat' split) <;> simp_all

theorem accept_outgoing (l : Limits) (c : ConnId) (b : Bool) :
    (l.accept c b).outgoing = if b = false ∧ l.cfg.maxOut.isSome = true then setInsert l.outgoing c else l.outgoing := by
  unfold accept; (repeat' split) <;> simp_all

theorem canAccept_room {l : Limits} {b : Bool} (h : l.canAccept b = true) :
    (b = true → ∀ m, l.cfg.maxIn = some m → l.incoming.length < m) ∧
    (b = false → ∀ m, l.cfg.maxOut = some m → l.outgoing.length < m) := by
  cases b <;> simp_all [canAccept] <;> intro m hm <;> simp_all

end Limits

structure Counted (cap : Option Nat) (ids : List ConnId) (live : List Live) (dir : Bool) : Prop where
  le : ∀ m, cap = some m → ids.length ≤ m
  nodup : ids.Nodup
  iff : ∀ c, c ∈ ids ↔ (cap.isSome = true ∧ ∃ l ∈ live, l.conn = c ∧ l.isListener = dir)

theorem Counted.close {cap : Option Nat} {ids : List ConnId} {live : List Live} {dir : Bool}
    (h : Counted cap ids live dir) (c : ConnId) : Counted cap (setRemove ids c) (dropLive c live) dir :=
  ⟨fun m hm => Nat.le_trans (length_setRemove_le _ _) (h.le m hm), nodup_setRemove _ _ h.nodup, fun y => by
    simp only [mem_setRemove, h.iff y, mem_dropLive]
    constructor
    · rintro ⟨⟨hc, l, hl, h1, h2⟩, hne⟩; exact ⟨hc, l, ⟨hl, h1 ▸ hne⟩, h1, h2⟩
    · rintro ⟨hc, l, ⟨hl, hne⟩, h1, h2⟩; exact ⟨⟨hc, l, hl, h1, h2⟩, h1 ▸ hne⟩⟩

theorem Counted.addLive {cap : Option Nat} {ids : List ConnId} {live : List Live} {dir : Bool}
    (h : Counted cap ids live dir) (x : Live)
    (hroom : x.isListener = dir → ∀ m, cap = some m → ids.length < m) :
    Counted cap (if x.isListener = dir ∧ cap.isSome = true then setInsert ids x.conn else ids) (addLive x live) dir := by
  refine ⟨fun m hm => ?_, ?_, fun y => ?_⟩
  · split
    · rename_i hc
      have := length_setInsert_le ids x.conn
      have := hroom hc.1 m hm
      omega
    · exact h.le m hm
  · split
    · exact nodup_setInsert _ _ h.nodup
    · exact h.nodup
  · have hy : y ∈ (if x.isListener = dir ∧ cap.isSome = true then setInsert ids x.conn else ids) ↔
        (x.isListener = dir ∧ cap.isSome = true ∧ y = x.conn) ∨ y ∈ ids := by
      split <;> simp_all [mem_setInsert]
    rw [hy, h.iff y]
    simp only [mem_addLive]
    constructor
    · rintro (⟨hd, hc, rfl⟩ | ⟨hc, l, hl, h1, h2⟩)
      · exact ⟨hc, x, Or.inl rfl, rfl, hd⟩
      · exact ⟨hc, l, Or.inr hl, h1, h2⟩
    · rintro ⟨hc, l, (rfl | hl), h1, h2⟩
      · exact Or.inl ⟨h2, hc, h1.symm⟩
      · exact Or.inr ⟨hc, l, hl, h1, h2⟩

structure Inv06 (g : G) : Prop where
  inc : Counted g.m.limits.cfg.maxIn g.m.limits.incoming g.live true
  out : Counted g.m.limits.cfg.maxOut g.m.limits.outgoing g.live false
  liveSlots : ∀ l ∈ g.live, l.conn ∈ (stateOf g.m l.peer).slots

theorem inv06_init (cfg : LimitsCfg) : Inv06 (G.init cfg) := by
  refine ⟨⟨?_, ?_, ?_⟩, ⟨?_, ?_, ?_⟩, ?_⟩ <;> simp [G.init, Mgr.init]

theorem inv06_same {g g' : G} (h : Inv06 g) (hl : g'.m.limits = g.m.limits) (hlive : g'.live = g.live)
    (hs : ∀ q, (stateOf g'.m q).slots = (stateOf g.m q).slots) : Inv06 g' :=
  ⟨by rw [hl, hlive]; exact h.inc, by rw [hl, hlive]; exact h.out,
    by rw [hlive]; intro l hlm; rw [hs]; exact h.liveSlots l hlm⟩

theorem inv06_close {g g' : G} (h : Inv06 g) (p : Peer) (c : ConnId)
    (hl : g'.m.limits = g.m.limits.onConnectionClosed c) (hlive : g'.live = dropLive c g.live)
    (hs : ∀ q, stateOf g'.m q = if q = p then ((stateOf g.m p).onConnectionClosed c).1 else stateOf g.m q) :
    Inv06 g' := by
  refine ⟨by rw [hl, hlive]; exact h.inc.close c, by rw [hl, hlive]; exact h.out.close c, ?_⟩
  rw [hlive]; intro l hlm
  have := (mem_dropLive _ _ _).1 hlm
  have h0 := h.liveSlots l this.1
  rw [hs]; split
  · rename_i hq; rw [hq] at h0; exact PeerState.closed_slots _ _ _ h0 this.2
  · exact h0

theorem inv06_accept {g g' : G} (h : Inv06 g) (p : Peer) (c : ConnId) (isL : Bool) (x : ConnRecord)
    (hx : x.conn = c)
    (hcan : g.m.limits.canAccept isL = true)
    (hest : ((stateOf g.m p).onConnectionEstablished x).2 = true)
    (hl : g'.m.limits = g.m.limits.accept c isL) (hlive : g'.live = addLive ⟨p, c, isL⟩ g.live)
    (hs : ∀ q, stateOf g'.m q = if q = p then ((stateOf g.m p).onConnectionEstablished x).1 else stateOf g.m q) :
    Inv06 g' := by
  obtain ⟨hin, hout⟩ := Limits.canAccept_room hcan
  refine ⟨?_, ?_, ?_⟩
  · rw [hl, hlive, Limits.accept_cfg, Limits.accept_incoming]; exact h.inc.addLive ⟨p, c, isL⟩ hin
  · rw [hl, hlive, Limits.accept_cfg, Limits.accept_outgoing]; exact h.out.addLive ⟨p, c, isL⟩ hout
  · rw [hlive]; intro l hlm
    rw [hs]
    rcases (mem_addLive _ _ _).1 hlm with rfl | hh
    · rw [if_pos rfl, ← hx]; exact PeerState.est_accept_mem _ _ hest
    · have h0 := h.liveSlots l hh
      split
      · rename_i hq; rw [hq] at h0; exact PeerState.est_slots_mono _ _ _ h0
      · exact h0

theorem ghost_m (g : G) (i : In) (m' : Mgr) (out : Out) : (ghost g i m' out).m = m' := by
  cases i <;> simp only [ghost] <;> (repeat' split) <;> rfl

/-- The inputs that touch neither the limits, nor any peer's connection slots, nor `live` (`step_quiet`,
`ghost_live_quiet`). -/
def In.quiet : In → Bool
  | .evEstablished .. | .evClosed .. | .acceptResult .. => false
  | _ => true

theorem ghost_live_quiet (g : G) {i : In} (hi : i.quiet = true) (m' : Mgr) (out : Out) :
    (ghost g i m' out).live = g.live := by
  cases i with
  | evEstablished _ _ _ | evClosed _ _ | acceptResult _ _ => cases hi
  | _ => simp only [ghost] <;> (repeat' split) <;> rfl

theorem ghost_live_est (g : G) (p : Peer) (ep : Endpoint) (ok : Bool) (m' : Mgr) (out : Out) :
    (ghost g (.evEstablished p ep ok) m' out).live =
      if Call.accept ep.conn ∈ out.calls then
        (if ok then addLive ⟨p, ep.conn, ep.isListener⟩ g.live else dropLive ep.conn g.live)
      else g.live := by
  simp only [ghost]; split <;> (try split) <;> simp_all

theorem ghost_fresh_est (g : G) (p : Peer) (ep : Endpoint) (ok : Bool) (m' : Mgr) (out : Out) :
    (ghost g (.evEstablished p ep ok) m' out).fresh = g.fresh.filter (· ≠ ep.conn) := by
  simp only [ghost]; split <;> (try split) <;> rfl

theorem ghost_live_closed (g : G) (p : Peer) (c : ConnId) (m' : Mgr) (out : Out) :
    (ghost g (.evClosed p c) m' out).live = dropLive c g.live := rfl

theorem ghost_live_acceptResult (g : G) (c : ConnId) (ok : Bool) (m' : Mgr) (out : Out) :
    (ghost g (.acceptResult c ok) m' out).live =
      if ok then g.live else if (findAccept c g.m.pendingAccept).isSome then dropLive c g.live else g.live := rfl

theorem step_quiet (s : Mgr) {i : In} (hi : i.quiet = true) :
    (step s i).1.limits = s.limits ∧ ∀ q, (stateOf (step s i).1 q).slots = (stateOf s q).slots := by
  cases i with
  | evEstablished _ _ _ | evClosed _ _ | acceptResult _ _ => cases hi
  | alloc => exact ⟨rfl, fun _ => rfl⟩
  | addKnown p as => simp [step, addKnown]
  | evPendingInbound c => simp only [step, onPendingInbound]; split <;> exact ⟨rfl, fun _ => rfl⟩
  | dial p ch =>
    show (dial s p ch).1.limits = _ ∧ ∀ q, (stateOf (dial s p ch).1 q).slots = _
    rcases dial_cases s p ch with ⟨h, _⟩ | ⟨cap, _, hidle, h⟩ <;> rw [h]
    · exact ⟨rfl, fun _ => rfl⟩
    · refine ⟨rfl, fun q => ?_⟩
      show (stateOf (setState s p _) q).slots = _
      rw [stateOf_setState]; split
      · rename_i hq; rw [hq, hidle]; rfl
      · rfl
  | dialAddress a =>
    show (dialAddress s a).1.limits = _ ∧ ∀ q, (stateOf (dialAddress s a).1 q).slots = _
    cases dialAddress_shape s a with
    | quiet _ _ _ hst _ hlim _ _ => exact ⟨hlim, fun q => by rw [hst]⟩
    | started remote _ _ _ _ _ hidle hst _ hlim _ _ =>
      refine ⟨hlim, fun q => ?_⟩
      rw [hst]; split
      · rename_i hq; rw [hq, hidle]; rfl
      · rfl
  | evOpened c a errs =>
    refine ⟨by simp only [step]; unfold onOpened openedPre; (repeat' split) <;> simp, fun q => ?_⟩
    show (stateOf (onOpened s c a errs).1 q).slots = _
    rw [onOpened_state]; split
    · exact PeerState.slots_onConnectionOpened ..
    · rfl
  | evOpenFailure c errs =>
    refine ⟨by simp only [step]; unfold onOpenFailure; (repeat' split) <;> simp, fun q => ?_⟩
    show (stateOf (onOpenFailure s c errs).1 q).slots = _
    rw [onOpenFailure_state]; split
    · exact PeerState.slots_onOpenFailure ..
    · rfl
  | evDialFailure c a e =>
    refine ⟨by simp only [step]; unfold onDialFailure; (repeat' split) <;> simp, fun q => ?_⟩
    show (stateOf (onDialFailure s c a e).1 q).slots = _
    rw [onDialFailure_state]; split
    · exact PeerState.slots_onDialFailure ..
    · rfl

theorem accept_not_mem_cancelCalls (st : PeerState) (c : ConnId) : Call.accept c ∉ cancelCalls st := by
  unfold cancelCalls; split <;> simp

inductive EstShape (s : Mgr) (p : Peer) (ep : Endpoint) (ok : Bool) (r : Mgr × Out) : Prop where
  | refused
      (hcalls : Call.accept ep.conn ∉ r.2.calls)
      (hlim : r.1.limits = s.limits)
      (hpa : r.1.pendingAccept = s.pendingAccept)
      (hslots : ∀ q, (stateOf r.1 q).slots = (stateOf s q).slots)
  | accepted (hok : ok = true)
      (hcalls : Call.accept ep.conn ∈ r.2.calls) (hpanic : r.2.panic = false)
      (hcan : s.limits.canAccept ep.isListener = true)
      (hest : ((stateOf s p).onConnectionEstablished (ConnRecord.new p ep.addr ep.conn)).2 = true)
      (hlim : r.1.limits = s.limits.accept ep.conn ep.isListener)
      (hpa : r.1.pendingAccept = s.pendingAccept ++ [(p, ep)])
      (hst : ∀ q, stateOf r.1 q =
        if q = p then ((stateOf s p).onConnectionEstablished (ConnRecord.new p ep.addr ep.conn)).1
        else stateOf s q)
  | rolledBack (hok : ok = false)
      (hcalls : Call.accept ep.conn ∈ r.2.calls) (hpanic : r.2.panic = false)
      (hcan : s.limits.canAccept ep.isListener = true)
      (hest : ((stateOf s p).onConnectionEstablished (ConnRecord.new p ep.addr ep.conn)).2 = true)
      (hlim : r.1.limits =
        (s.limits.accept ep.conn ep.isListener).onConnectionClosed ep.conn)
      (hpa : r.1.pendingAccept = s.pendingAccept)
      (hst : ∀ q, stateOf r.1 q =
        if q = p then
          (((stateOf s p).onConnectionEstablished (ConnRecord.new p ep.addr ep.conn)).1.onConnectionClosed
            ep.conn).1
        else stateOf s q)

theorem est_shape (s : Mgr) (p : Peer) (ep : Endpoint) (ok : Bool) :
    EstShape s p ep ok (onEstablished s p ep ok) := by
  have hquiet : EstShape s p ep ok (estPre s p ep, { calls := [.reject ep.conn] }) ∧
      EstShape s p ep ok
        (estPre s p ep, { calls := [.reject ep.conn], events := [.dialFailure ep.conn ep.addr .negotiation] }) :=
    ⟨.refused (by simp) (by simp) (by simp) (by simp), .refused (by simp) (by simp) (by simp) (by simp)⟩
  unfold onEstablished
  split
  · exact .refused (by simp) (by simp) (by simp) (by simp)
  · split
    · split
      · refine .refused (by simp) (by simp) (by simp) fun q => ?_
        show (stateOf (setState (estPre s p ep) p _) q).slots = _
        rw [stateOf_setState]; split
        · rename_i hq; rw [PeerState.slots_onDialFailure, estPre_state, hq]
        · rw [estPre_state]
      · exact hquiet.1
    · rename_i hcan
      have hcan' : s.limits.canAccept ep.isListener = true := by simpa using hcan
      split
      · rename_i hest
        have hest' : ((stateOf s p).onConnectionEstablished (ConnRecord.new p ep.addr ep.conn)).2 = true := by
          simpa using hest
        split
        · rename_i hok
          refine .accepted hok (by simp) rfl hcan' hest' (by simp) (by simp) fun q => ?_
          show stateOf (setState (estPre s p ep) p _) q = _
          rw [stateOf_setState]; split <;> simp
        · rename_i hok
          refine .rolledBack (by simpa using hok) (by simp) rfl hcan' hest' (by simp [closeConn]) (by simp [closeConn]) fun q => ?_
          rw [closeConn_state]
          split
          · show ((stateOf (setState (estPre s p ep) p _) p).onConnectionClosed ep.conn).1 = _
            simp
          · show stateOf (setState (estPre s p ep) p _) q = _
            rw [stateOf_setState]; simp [*]
      · split
        · exact hquiet.2
        · exact hquiet.1

theorem inv06_step (g : G) (i : In) (h : Inv06 g) : Inv06 (gstep g i).1 := by
  unfold gstep
  cases i with
  | evClosed p c =>
    exact inv06_close h p c (by rw [ghost_m]; rfl) rfl (fun q => by rw [ghost_m]; exact closeConn_state ..)
  | acceptResult c ok =>
    show Inv06 (ghost g (.acceptResult c ok) (onAcceptResult g.m c ok).1 (onAcceptResult g.m c ok).2)
    unfold onAcceptResult
    split
    · rename_i hnone
      exact inv06_same h (by rw [ghost_m]) (by rw [ghost_live_acceptResult, hnone]; simp) (fun q => by rw [ghost_m])
    · rename_i p ep hsome
      split
      · rename_i hok
        exact inv06_same h (by rw [ghost_m]) (by rw [ghost_live_acceptResult, hok]; simp) (fun q => by rw [ghost_m]; rfl)
      · rename_i hok
        exact inv06_close h p c (by rw [ghost_m]; rfl) (by rw [ghost_live_acceptResult, hsome]; simp [hok])
          (fun q => by rw [ghost_m, closeConn_state]; rfl)
  | evEstablished p ep ok =>
    show Inv06 (ghost g (.evEstablished p ep ok) (onEstablished g.m p ep ok).1 (onEstablished g.m p ep ok).2)
    cases est_shape g.m p ep ok with
    | refused hcalls hlim hpa hslots =>
      exact inv06_same h (by rw [ghost_m]; exact hlim) (by rw [ghost_live_est, if_neg hcalls])
        (fun q => by rw [ghost_m]; exact hslots q)
    | accepted hok hcalls _ hcan hest hlim hpa hst =>
      exact inv06_accept h p ep.conn ep.isListener (ConnRecord.new p ep.addr ep.conn) rfl hcan hest
        (by rw [ghost_m]; exact hlim) (by rw [ghost_live_est, if_pos hcalls, hok]; rfl)
        (fun q => by rw [ghost_m]; exact hst q)
    | rolledBack hok hcalls _ hcan hest hlim hpa hst =>
      -- accept, then release
      let m1 : Mgr := { setState g.m p ((stateOf g.m p).onConnectionEstablished
        (ConnRecord.new p ep.addr ep.conn)).1 with limits := g.m.limits.accept ep.conn ep.isListener }
      let g1 : G := { g with m := m1, live := addLive ⟨p, ep.conn, ep.isListener⟩ g.live }
      have h1 : Inv06 g1 :=
        inv06_accept h p ep.conn ep.isListener (ConnRecord.new p ep.addr ep.conn) rfl hcan hest rfl rfl
          (fun q => stateOf_setState ..)
      refine inv06_close h1 p ep.conn (by rw [ghost_m]; exact hlim) ?_ ?_
      · rw [ghost_live_est, if_pos hcalls, hok]
        exact (dropLive_addLive ep.conn ⟨p, ep.conn, ep.isListener⟩ g.live rfl).symm
      · intro q; rw [ghost_m, hst q]
        show _ = if q = p then ((stateOf (setState g.m p _) p).onConnectionClosed ep.conn).1
          else stateOf (setState g.m p _) q
        rw [stateOf_setState, stateOf_setState]; split <;> simp [*]
  | _ =>
    exact inv06_same h (by rw [ghost_m]; exact (step_quiet g.m rfl).1) (ghost_live_quiet g rfl _ _)
      (fun q => by rw [ghost_m]; exact (step_quiet g.m rfl).2 q)

theorem inv06_reach {g : G} (h : ReachAny g) : Inv06 g := by
  induction h with
  | init cfg => exact inv06_init cfg
  | step i _ ih => exact inv06_step _ i ih

theorem cfg_step (g : G) (i : In) : (gstep g i).1.m.limits.cfg = g.m.limits.cfg := by
  unfold gstep; rw [ghost_m]
  cases i with
  | evClosed p c => rfl
  | acceptResult c ok =>
    show (onAcceptResult g.m c ok).1.limits.cfg = _
    unfold onAcceptResult; (repeat' split) <;> rfl
  | evEstablished p ep ok =>
    show (onEstablished g.m p ep ok).1.limits.cfg = _
    cases est_shape g.m p ep ok with
    | refused _ hlim _ _ => rw [hlim]
    | accepted _ _ _ _ _ hlim _ _ => rw [hlim, Limits.accept_cfg]
    | rolledBack _ _ _ _ _ hlim _ _ => rw [hlim]; exact Limits.accept_cfg ..
  | _ => rw [(step_quiet g.m rfl).1]

theorem reachAny_runG (is : List In) {g : G} (h : ReachAny g) : ReachAny (runG g is) := by
  induction is generalizing g with
  | nil => exact h
  | cons i t ih => exact ih (ReachAny.step i h)

theorem cfg_runG (is : List In) (g : G) : (runG g is).m.limits.cfg = g.m.limits.cfg := by
  induction is generalizing g with
  | nil => rfl
  | cons i t ih => simp only [runG]; rw [ih, cfg_step]

end Litep2pVerif.Manager
