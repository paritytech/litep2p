import Litep2pVerif.Proofs.Manager.Basic
/-! The two API calls: `dial` either changes nothing or starts an `Opening` attempt; `dial_address` on arbitrary
multiaddress shapes (C05 `addr_total`, findings (e) and (f)). -/
namespace Litep2pVerif.Manager

theorem dial_cases (s : Mgr) (p : Peer) (ch : List Multiaddr) :
    ((dial s p ch).1 = s ∧ (dial s p ch).2.calls = [] ∧ (dial s p ch).2.events = []) ∨
    ∃ cap, s.limits.onDialAddress = some cap ∧ stateOf s p = .disconnected none ∧
      dial s p ch =
        ({ setState s p (.opening (selectAddrs (s.peers p).addresses cap ch) s.nextConn [.tcp]) with
            nextConn := s.nextConn + 1, pending := ainsert s.nextConn p s.pending },
         { calls := [.open s.nextConn (selectAddrs (s.peers p).addresses cap ch)], res := .ok }) := by
  unfold dial
  repeat' split
  all_goals first | exact Or.inl ⟨rfl, rfl, rfl⟩ | skip
  rename_i cap hcap _ _ hcd _
  exact Or.inr ⟨cap, hcap, PeerState.canDial_ok hcd, by rw [PeerState.canDial_ok hcd]; rfl⟩

/-- Shape of the addresses `dial_address` lets through (after the fix for (f)). -/
theorem dialAddrTransport_shape {a : Multiaddr} {t : Transport} (h : dialAddrTransport a = some t) :
    ∃ first port p, a = [first, .tcp port, .p2p p] ∧ first.isIpOrDns = true := by
  unfold dialAddrTransport at h
  split at h
  · rename_i first rest
    split at h
    · rename_i hip
      split at h
      · rename_i port p
        exact ⟨first, port, p, rfl, hip⟩
      · simp at h
    · simp at h
  · simp at h

theorem tcpParse_of_shape (first : Proto) (port p : Nat) (h : first.isIpOrDns = true) :
    tcpParse [first, .tcp port, .p2p p] = some (some p) := by
  simp [tcpParse, h]

theorem lastPeer_of_shape (first : Proto) (port p : Nat) : lastPeer [first, .tcp port, .p2p p] = some p := by
  simp [lastPeer]

/-- The two ways `dial_address` can end: nothing but the address book and the counter changes (an error, or `Ok`
because a dial of that peer is in progress), or an attempt starts. -/
inductive DialAddrShape (s : Mgr) (a : Multiaddr) (r : Mgr × Out) : Prop where
  | quiet
      (hres : (∃ e, r.2.res = .err e) ∨ (r.2.res = .ok ∧ ∃ remote, lastPeer a = some remote ∧
        (stateOf s remote).canDial = .dialingInProgress))
      (hcalls : r.2.calls = []) (hev : r.2.events = [])
      (hst : ∀ q, stateOf r.1 q = stateOf s q) (hpend : r.1.pending = s.pending)
      (hlim : r.1.limits = s.limits) (hpa : r.1.pendingAccept = s.pendingAccept)
      (hnc : s.nextConn ≤ r.1.nextConn)
  | started (remote : Peer) (hres : r.2.res = .ok) (hcalls : r.2.calls = [.dial s.nextConn a])
      (hev : r.2.events = [])
      (hremote : lastPeer a = some remote) (htcp : tcpParse a = some (some remote))
      (hidle : stateOf s remote = .disconnected none)
      (hst : ∀ q, stateOf r.1 q = if q = remote then .dialing ⟨a, s.nextConn⟩ else stateOf s q)
      (hpend : r.1.pending = ainsert s.nextConn remote s.pending)
      (hlim : r.1.limits = s.limits) (hpa : r.1.pendingAccept = s.pendingAccept)
      (hnc : r.1.nextConn = s.nextConn + 1)

theorem dialAddress_shape_nopanic (s : Mgr) (a : Multiaddr) (r : Mgr × Out) (hr : dialAddress s a = r) :
    DialAddrShape s a r ∧ r.2.panic = false := by
  have herr : ∀ e, DialAddrShape s a (s, { res := .err e }) ∧ ({ res := .err e } : Out).panic = false :=
    fun e => ⟨.quiet (.inl ⟨e, rfl⟩) rfl rfl (fun _ => rfl) rfl rfl rfl (Nat.le_refl _), rfl⟩
  unfold dialAddress at hr
  split at hr
  · subst hr; exact herr _
  · split at hr
    · subst hr; exact herr _
    · rename_i remote hremote
      split at hr
      · subst hr; exact herr _
      · split at hr
        · subst hr; exact herr _
        · rename_i t ht
          obtain ⟨first, port, p, hshape, hip⟩ := dialAddrTransport_shape ht
          have hp : remote = p := by
            rw [hshape, lastPeer_of_shape] at hremote; exact (Option.some.inj hremote).symm
          split at hr
          · subst hr
            exact ⟨.quiet (.inl ⟨_, rfl⟩) rfl rfl (fun q => stateOf_updAddr ..) rfl rfl rfl (Nat.le_succ _), rfl⟩
          · rename_i hres
            subst hr
            refine ⟨.quiet (.inr ⟨rfl, remote, hremote, ?_⟩) rfl rfl (fun q => stateOf_updAddr ..) rfl rfl rfl
              (Nat.le_succ _), rfl⟩
            unfold PeerState.dialSingleAddress at hres
            split at hres
            · simp at hres
            · exact hres
          · rename_i hres
            subst hr
            have hidle : stateOf s remote = .disconnected none := by
              unfold PeerState.dialSingleAddress at hres
              split at hres
              · rename_i hc; exact PeerState.canDial_ok hc
              · rename_i hne; exact absurd hres (by simpa using hne)
            refine ⟨.started remote rfl rfl rfl hremote ?_ hidle ?_ rfl rfl rfl rfl, rfl⟩
            · rw [hshape, hp]; exact tcpParse_of_shape _ _ _ hip
            · intro q
              show stateOf (setState (updAddr s remote a 0) remote _) q = _
              rw [stateOf_setState]; split
              · rfl
              · rw [stateOf_updAddr]

theorem dialAddress_shape (s : Mgr) (a : Multiaddr) : DialAddrShape s a (dialAddress s a) :=
  (dialAddress_shape_nopanic s a _ rfl).1

end Litep2pVerif.Manager
