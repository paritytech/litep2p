import Litep2pVerif.Proofs.Conn.Established
/-! The loop waiting in a send (f-round, seeded C07-f1 / C08-f1): while a report call is suspended on a full channel
nothing but a move of a channel's other end (a protocol or the manager taking a message, shutting down) changes the
`Loop` component — no event of the connection, no command, no timer; and the report of a negotiated substream is the
first thing the loop enqueues after the end of the negotiation. -/
namespace Litep2pVerif.Conn

theorem tstep_suspended (s : TLoop) (l : TLabel) (hs : s.running = false) (hl : l.isChan = false) :
    (tstep s l).loop = s.loop := by
  rcases tstep_loop s l with e | ⟨hr, _⟩ | ⟨hc, _⟩
  · exact e
  · rw [hs] at hr; cases hr
  · rw [hl] at hc; cases hc

theorem trun_suspended (ls : List TLabel) : ∀ (s : TLoop), s.running = false → (∀ l ∈ ls, l.isChan = false) →
    (trun s ls).loop = s.loop := fun s hs hl =>
  foldl_inv (P := fun t => t.loop = s.loop) ls s
    (fun t l hl' h =>
      (tstep_suspended t l (by unfold TLoop.running at hs ⊢; rw [h]; exact hs) (hl l hl')).trans h)
    rfl

/-- What `PInv` says about a close report in flight; the two continuations are those that end `start()`. -/
theorem PInv.waiting {s : Loop} (hp : PInv s) (hx : s.exited = none) (hruns : s.ps.closedRuns = 1) :
    (s.cont = some .closeThenExit ∨ s.cont = some .errorExitReport) ∧ CK .closed s.ps.call ∧
    (∀ w e, s.ps.call = .protoSends .closed w e →
      (∀ j, aliveAt s.ps j → j ∉ w → cnt s.ps j .closed = 1) ∧ (∀ j ∈ w, cnt s.ps j .closed = 0) ∧ mgrCnt s.ps = 0) ∧
    (∀ e, s.ps.call = .mgrSend e → (∀ j, aliveAt s.ps j → cnt s.ps j .closed = 1) ∧ mgrCnt s.ps = 0) := by
  obtain ⟨hi, _, hco⟩ := hp
  rw [hx] at hco
  have hci := hi.call
  have hcont : (s.cont = some .closeThenExit ∨ s.cont = some .errorExitReport) ∧ CK .closed s.ps.call := by
    cases hc : s.cont with
    | none => rw [hc] at hco; simp only [ContOK] at hco; omega
    | some c =>
      rw [hc] at hco
      cases c with
      | closeThenExit => exact ⟨Or.inl rfl, hco.1⟩
      | errorExitReport => exact ⟨Or.inr rfl, hco.1⟩
      | substreamReport => simp only [ContOK] at hco; omega
  refine ⟨hcont.1, hcont.2, ?_, ?_⟩
  · intro w e hc
    unfold CallInv at hci; rw [hc] at hci
    have := hci.2.1 rfl
    exact ⟨this.2.2.1, this.2.1, this.2.2.2⟩
  · intro e hc
    unfold CallInv at hci; rw [hc] at hci
    exact ⟨hci.2.1, hci.2.2⟩

/-- The `Loop` is suspended in the report of a negotiated substream to the live protocol `p` (`report_substream_open`'s
`tx.send(event).await` on a full channel); `L` = the ghost log at the end of the negotiation: nothing has been enqueued
since. -/
def LWait (p : Nat) (L : List Ev) (l : Loop) : Prop :=
  l.cont = some .substreamReport ∧ l.exited = none ∧
  l.ps.call = .protoSends (.substream p true) [p] false ∧ l.ps.log = L ∧
  ∃ c, l.ps.chans[p]? = some c ∧ c.alive = true

/-- The report has been enqueued — the FIRST thing since the end of the negotiation — and the loop is back at its
`select!`. -/
def LDone (p : Nat) (L : List Ev) (l : Loop) : Prop :=
  l.cont = none ∧ l.exited = none ∧ l.ps.log = L ++ [.proto p .substreamOpened]

theorem settle_wait (l : Loop) (p : Nat) (L : List Ev) (ps' : PSet) (hcont : l.cont = some .substreamReport)
    (hex : l.exited = none)
    (h : (ps'.call = .protoSends (.substream p true) [p] false ∧ ps'.log = L ∧ ∃ c, ps'.chans[p]? = some c ∧ c.alive = true) ∨
      (ps'.log = L ++ [.proto p .substreamOpened] ∧ ps'.call = .result (.substream p true) true)) :
    LWait p L (settle { l with ps := ps' }) ∨ LDone p L (settle { l with ps := ps' }) := by
  rcases h with ⟨h1, h2, h3⟩ | ⟨h1, h2⟩
  · left
    have : settle { l with ps := ps' } = { l with ps := ps' } := by
      simp [settle, hcont, h1]
    rw [this]; exact ⟨hcont, hex, h1, h2, h3⟩
  · right
    have : settle { l with ps := ps' } = { l with cont := none, ps := { ps' with call := .idle } } := by
      simp [settle, hcont, h2]
    rw [this]; exact ⟨rfl, hex, h1⟩

theorem env_wait (l : Loop) (p : Nat) (L : List Ev) (h : LWait p L l) (o : EnvOp) (ho : o ≠ .drop p) :
    LWait p L (step l (.env o)) ∨ LDone p L (step l (.env o)) := by
  obtain ⟨hcont, hex, hcall, hlog, hal⟩ := h
  simp only [step]
  apply settle_wait l p L _ hcont hex
  obtain ⟨ps1, hm, hkeep, e | e⟩ := envStep_cases l.ps o <;> rw [e]
  · obtain ⟨c1, h3, h4⟩ := hkeep p ho hal
    rw [progress_substream ps1 p true (hm.call.trans hcall) c1 h3 h4]
    split
    · right; exact ⟨by rw [hm.log, hlog]; rfl, rfl⟩
    · left; exact ⟨hm.call.trans hcall, hm.log.trans hlog, c1, h3, h4⟩
  · exact Or.inl ⟨hm.call.trans hcall, hm.log.trans hlog, hkeep p ho hal⟩

theorem tstep_wait (t : TLoop) (p : Nat) (L : List Ev) (h : LWait p L t.loop) (l : TLabel) (hl : l ≠ .dropRx p) :
    LWait p L (tstep t l).loop ∨ LDone p L (tstep t l).loop := by
  rcases tstep_loop t l with e | ⟨hr, _⟩ | ⟨_, o, e, ho⟩
  · rw [e]; exact Or.inl h
  · have hc := h.1
    rw [((running_iff t).mp hr).2] at hc; cases hc
  · rw [e]; exact env_wait t.loop p L h o (fun hd => hl (ho p hd))

/-- Every schedule from the waiting state: still waiting, or the FIRST transition that changed anything about the loop
enqueued the report or was the shutdown of `p` itself. -/
theorem trun_wait (ls : List TLabel) : ∀ (t : TLoop) (p : Nat) (L : List Ev), LWait p L t.loop →
    LWait p L (trun t ls).loop ∨
    ∃ pre l post, ls = pre ++ l :: post ∧ LWait p L (trun t pre).loop ∧
      (LDone p L (trun t (pre ++ [l])).loop ∨ l = .dropRx p) := by
  induction ls with
  | nil => intro t p L h; exact Or.inl h
  | cons l ls ih =>
    intro t p L h
    by_cases hl : l = .dropRx p
    · exact Or.inr ⟨[], l, ls, rfl, h, Or.inr hl⟩
    · rcases tstep_wait t p L h l hl with hw | hd
      · rcases ih (tstep t l) p L hw with h1 | ⟨pre, l', post, e, h1, h2⟩
        · exact Or.inl h1
        · exact Or.inr ⟨l :: pre, l', post, by rw [e]; rfl, h1, h2⟩
      · exact Or.inr ⟨[], l, ls, rfl, h, Or.inl hd⟩

theorem running_none_closed (s : TLoop) (hinv : PInv s.loop) (hr : s.running = true) :
    (∀ j, cnt s.loop.ps j .closed = 0) ∧ mgrCnt s.loop.ps = 0 := by
  obtain ⟨h1, h2⟩ := (running_iff s).mp hr
  obtain ⟨hi, _, hco⟩ := hinv
  rw [h1, h2] at hco
  have hq : quiet s.loop.ps.call := hco.1 ▸ quiet_idle
  exact (hi.call.rest_of_quiet hq).1 hco.2

end Litep2pVerif.Conn
