import Litep2pVerif.Proofs.Conn.Established
/-! C07: the future returned by `TcpTransport::accept` never resolves `Err`, and what it spawns is a loop in a
state satisfying the reporting invariant `PInv`. -/
namespace Litep2pVerif.Conn

theorem protoSide_loop (s : TLoop) (l : TLabel) (hl : l.protoSide = true) (hc : s.loop.cont = none) :
    (tstep s l).loop = s.loop ∨ ∃ o, (tstep s l).loop = { s.loop with ps := envStep s.loop.ps o } := by
  rcases tstep_loop s l with e | ⟨_, hp, _⟩ | ⟨_, o, e, _⟩
  · exact Or.inl e
  · rw [hl] at hp; cases hp
  · exact Or.inr ⟨o, e.trans (estep_cont_none s o hc)⟩

/-- What holds while the connection waits in the transport or its accept future is suspended. -/
structure PreInv (l : Loop) : Prop where
  inv : Inv l.ps
  wf : WF l.ps
  runs : l.ps.closedRuns = 0
  cont : l.cont = none
  exited : l.exited = none

def AInv (a : AConn) : Prop :=
  match a.phase with
  | .parked => PreInv a.t.loop ∧ a.t.loop.ps.call = .idle
  | .notifying => PreInv a.t.loop ∧ EstInv a.t.loop.ps ∧ ∃ w e, a.t.loop.ps.call = .protoSends .established w e
  | .up => PInv a.t.loop
  | .failed => False

theorem aResolve_inv (a : AConn) (hp : a.phase = .notifying) (h : PreInv a.t.loop) (he : EstInv a.t.loop.ps)
    (hck : CK .established a.t.loop.ps.call) : AInv (aResolve a) := by
  unfold aResolve
  rw [if_neg (by rw [hp]; simp)]
  rcases hck with ⟨w, e, hc⟩ | ⟨hk, _⟩ | ⟨ok, hc, hok⟩
  · rw [hc]
    simp only [AInv, hp]
    exact ⟨h, he, w, e, hc⟩
  · cases hk
  · have := hok rfl
    subst this
    rw [hc]
    simp only [AInv]
    refine ⟨h.inv.setIdle (by rw [hc]; exact quiet_result _ _), h.wf, ?_⟩
    show ContOK a.t.loop.cont a.t.loop.exited _
    rw [h.cont, h.exited]
    exact ⟨rfl, h.runs⟩

theorem preInv_env (l : Loop) (o : EnvOp) (h : PreInv l) : PreInv { l with ps := envStep l.ps o } := by
  have hr := envStep_rel l.ps o h.inv h.wf
  exact ⟨hr.inv, hr.wf, hr.runs.trans h.runs, h.cont, h.exited⟩

theorem astep_inv (a : AConn) (l : ALabel) (h : AInv a) : AInv (astep a l) := by
  cases l with
  | call =>
    simp only [astep]
    by_cases hp : a.phase = .parked
    · rw [if_pos hp]
      simp only [AInv, hp] at h
      obtain ⟨hpre, hidle⟩ := h
      obtain ⟨h1, hwf, hck, _, hruns⟩ := startCall_spec a.t.loop.ps .established hpre.inv hpre.wf (hidle ▸ quiet_idle)
      apply aResolve_inv _ rfl
      · exact ⟨h1, hwf, (hruns (by simp)).trans hpre.runs, hpre.cont, hpre.exited⟩
      · exact startCall_est _ hpre.wf
      · exact hck
    · rw [if_neg hp]; exact h
  | t l =>
    simp only [astep]
    by_cases hup : a.phase = .up
    · rw [if_pos hup]
      simp only [AInv, hup] at h ⊢
      exact tstep_pinv a.t l h
    · rw [if_neg hup]
      by_cases hl : l.protoSide = true
      · rw [if_pos hl]
        cases hp : a.phase with
        | up => exact absurd hp hup
        | failed => simp only [AInv, hp] at h
        | parked =>
          simp only [AInv, hp] at h
          obtain ⟨hpre, hidle⟩ := h
          have hres : aResolve ({ phase := .parked, t := tstep a.t l } : AConn) =
              { phase := .parked, t := tstep a.t l } := by
            unfold aResolve; rw [if_pos (by simp)]
          rw [hres]
          simp only [AInv]
          rcases protoSide_loop a.t l hl hpre.cont with e | ⟨o, e⟩
          · rw [e]; exact ⟨hpre, hidle⟩
          · rw [e]
            refine ⟨preInv_env _ o hpre, ?_⟩
            have hr := envStep_rel a.t.loop.ps o hpre.inv hpre.wf
            have hq : quiet a.t.loop.ps.call := hidle ▸ quiet_idle
            exact (hq.follows hr.follows).trans hidle
        | notifying =>
          simp only [AInv, hp] at h
          obtain ⟨hpre, hest, w, e, hc⟩ := h
          have hck : CK .established a.t.loop.ps.call := Or.inl ⟨w, e, hc⟩
          have key : ∀ L : Loop, (tstep a.t l).loop = L → PreInv L → EstInv L.ps → CK .established L.ps.call →
              AInv (aResolve { phase := .notifying, t := tstep a.t l }) := fun L e h1 h2 h3 =>
            aResolve_inv _ rfl (e ▸ h1) (e ▸ h2) (e ▸ h3)
          rcases protoSide_loop a.t l hl hpre.cont with e | ⟨o, e⟩
          · exact key _ e hpre hest hck
          · exact key _ e (preInv_env _ o hpre) (envStep_est _ o hest)
              (hck.follows (envStep_rel a.t.loop.ps o hpre.inv hpre.wf).follows)
      · rw [if_neg hl]; exact h

theorem arun_inv (ls : List ALabel) (a : AConn) (h : AInv a) : AInv (arun a ls) :=
  foldl_inv ls a (fun a l _ => astep_inv a l) h

theorem AInv.pre {a : AConn} (h : AInv a) (hp : a.phase ≠ .up) :
    PreInv a.t.loop ∧ (∀ j, cnt a.t.loop.ps j .closed = 0) ∧ mgrCnt a.t.loop.ps = 0 := by
  cases hph : a.phase with
  | up => exact absurd hph hp
  | failed => simp only [AInv, hph] at h
  | parked =>
    simp only [AInv, hph] at h
    exact ⟨h.1, (h.1.inv.call.rest_of_quiet (h.2 ▸ quiet_idle)).1 h.1.runs⟩
  | notifying =>
    simp only [AInv, hph] at h
    obtain ⟨hpre, _, w, e, hc⟩ := h
    have hci := hpre.inv.call
    unfold CallInv at hci; rw [hc] at hci
    exact ⟨hpre, (hci.2.2 (by simp)).1 hpre.runs⟩

theorem replicate_getElem?_alive (n cap j : Nat) (c : Chan)
    (h : (List.replicate n ({ cap := cap } : Chan))[j]? = some c) : j < n := by
  have := (List.getElem?_eq_some_iff.mp h).1
  simpa using this

theorem ainit_inv (ka : List Bool) (cap mcap : Nat) : AInv (ainit ka cap mcap) := by
  have hf : Fresh (ainit ka cap mcap).t.loop.ps := fresh_replicate ..
  exact ⟨⟨hf.inv, hf.wf, hf.runs, rfl, rfl⟩, hf.idle⟩

end Litep2pVerif.Conn
