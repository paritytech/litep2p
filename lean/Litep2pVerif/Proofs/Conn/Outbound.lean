import Litep2pVerif.Proofs.Conn.Established
/-! The life cycle of an outbound open request in the `TcpConnection::start` loop (C08) and the names of a protocol
(C09): lemmas behind `outbound_open_answered_by_loop` and `fallback_name_substream_holds_connection`. -/
namespace Litep2pVerif.Conn

theorem takeCmd_opens (s : TLoop) (i : Nat) (q : List Cmd) (hr : s.running = true) (hq : s.cmdQ = .openSub i :: q) :
    (tstep s .takeCmd).subs = s.subs ++ [⟨false, some i, .opening⟩] ∧ (tstep s .takeCmd).cmdQ = q ∧
    (tstep s .takeCmd).loop.exited = none ∧ (tstep s .takeCmd).running = true := by
  obtain ⟨h1, h2⟩ := (running_iff s).mp hr
  have hnr : ¬ s.running = false := by simp [hr]
  have hL : lstep s .cmdOpen = { s.loop with pending := negCount s.subs + 1 } := by
    simp [lstep, loopStep, h1, h2]
  simp only [tstep, tTakeCmd]
  rw [if_neg hnr, hq]
  simp only []
  have hex : (lstep s .cmdOpen).exited = none := by rw [hL]; exact h1
  rw [cleanup_of_running _ hex]
  refine ⟨rfl, rfl, hex, ?_⟩
  rw [running_iff]
  exact ⟨hex, by rw [hL]; exact h2⟩

theorem yamuxOpened_step (s : TLoop) (k : Nat) (x : Sub) (hr : s.running = true) (hk : s.subs[k]? = some x)
    (hx : x.stage = .opening) :
    (tstep s (.yamuxOpened k)).subs[k]? = some { x with stage := .negotiating } ∧
    (tstep s (.yamuxOpened k)).loop = s.loop ∧ (tstep s (.yamuxOpened k)).cmdQ = s.cmdQ ∧
    (tstep s (.yamuxOpened k)).handles = s.handles := by
  have hlt : k < s.subs.length := (List.getElem?_eq_some_iff.mp hk).1
  have hnr : ¬ s.running = false := by simp [hr]
  simp only [tstep, tYamuxOpened]
  rw [if_neg hnr, hk]
  simp only []
  rw [if_pos hx]
  exact ⟨by rw [List.getElem?_set_self hlt], rfl, rfl, rfl⟩

/-- While the loop runs, the only way out of `pending_substreams` is the end of the entry's own future. -/
theorem trun_pending_or_ended (ls : List TLabel) : ∀ (s : TLoop) (k : Nat) (x : Sub),
    s.subs[k]? = some x → x.stage.pending = true → (trun s ls).loop.exited = none →
    (∃ y, (trun s ls).subs[k]? = some y ∧ y.stage.pending = true ∧ y.inbound = x.inbound ∧ y.proto = x.proto) ∨
    (∃ l ∈ ls, l.endsNeg k = true) := fun s k x hk hx =>
  foldl_inv (P := fun t => t.loop.exited = none →
      (∃ y, t.subs[k]? = some y ∧ y.stage.pending = true ∧ y.inbound = x.inbound ∧ y.proto = x.proto) ∨
      (∃ l ∈ ls, l.endsNeg k = true)) ls s
    (fun t l hl h hrun => by
      rcases h (tstep_exited t l hrun) with ⟨y, hy, hyp, hyi, hypr⟩ | he
      · by_cases hl' : l.endsNeg k = false
        · rcases pending_step t l k y hy hyp hl' hrun with hz | ⟨_, hz⟩
          · exact Or.inl ⟨y, hz, hyp, hyi, hypr⟩
          · exact Or.inl ⟨_, hz, rfl, hyi, hypr⟩
        · exact Or.inr ⟨l, hl, by simpa using hl'⟩
      · exact Or.inr he)
    (fun _ => Or.inl ⟨x, hk, hx, rfl, rfl⟩)

theorem trun_not_pending (ls : List TLabel) : ∀ (s : TLoop) (k : Nat) (x : Sub),
    s.subs[k]? = some x → x.stage.pending = false →
    ∃ y, (trun s ls).subs[k]? = some y ∧ y.stage.pending = false := fun s k x hk hx =>
  foldl_inv (P := fun t => ∃ y, t.subs[k]? = some y ∧ y.stage.pending = false) ls s
    (fun t l _ ⟨x, hk, hx⟩ => by
      obtain ⟨y, hy, rfl | ⟨hp, _⟩ | ⟨_, hn, _⟩⟩ := tstep_sub t l k x hk
      · exact ⟨y, hy, hx⟩
      · rw [hx] at hp; cases hp
      · exact ⟨y, hy, hn⟩)
    ⟨x, hk, hx⟩

theorem ended_noop (s : TLoop) (k : Nat) (x : Sub) (hk : s.subs[k]? = some x) (hx : x.stage.pending = false) :
    tstep s (.negFail k) = s ∧ (∀ p, tstep s (.negOk k p) = s) ∧ (∀ p f, tstep s (.negOkFb k p f) = s) ∧
    tstep s (.yamuxOpened k) = s := by
  have hn : x.stage ≠ .negotiating := by intro e; rw [e] at hx; cases hx
  have ho : x.stage ≠ .opening := by intro e; rw [e] at hx; cases hx
  have hok : ∀ p, tstep s (.negOk k p) = s := fun p => by
    simp only [tstep, tNegOk]; split
    · rfl
    · rw [hk]; simp [hn]
  refine ⟨?_, hok, fun p _ => hok p, ?_⟩
  · simp only [tstep, tNegFail]; split
    · rfl
    · rw [hk]; simp [hx]
  · simp only [tstep, tYamuxOpened]; split
    · rfl
    · rw [hk]; simp [ho]

theorem lookup_of_mem_unique {α β : Type} [BEq α] [LawfulBEq α] (l : List (α × β)) (a : α) (v : β)
    (hu : ∀ v', (a, v') ∈ l → v' = v) (hex : ∃ v', (a, v') ∈ l) : l.lookup a = some v := by
  induction l with
  | nil => obtain ⟨_, h⟩ := hex; cases h
  | cons e t ih =>
    obtain ⟨k', v'⟩ := e
    by_cases hk : a = k'
    · subst hk
      have : v' = v := hu v' (List.mem_cons_self ..)
      simp [List.lookup, this]
    · have hne : (a == k') = false := by simpa using hk
      simp only [List.lookup, hne]
      apply ih (fun v'' h => hu v'' (List.mem_cons_of_mem _ h))
      obtain ⟨v'', h⟩ := hex
      rcases List.mem_cons.mp h with h | h
      · cases h; exact absurd rfl hk
      · exact ⟨v'', h⟩

theorem mem_fallbackNames (fbs : List Nat) (n : Name) (m : Nat) :
    (n, m) ∈ fallbackNames fbs ↔ m < fbs.length ∧ n.1 = m ∧ 1 ≤ n.2 ∧ n.2 ≤ fbs.getD m 0 := by
  obtain ⟨p, f⟩ := n
  simp only [fallbackNames, List.mem_flatMap, List.mem_range, List.mem_map, Prod.mk.injEq]
  constructor
  · rintro ⟨q, hq, g, hg, ⟨rfl, rfl⟩, rfl⟩
    exact ⟨hq, rfl, by omega, by omega⟩
  · rintro ⟨hm, rfl, h1, h2⟩
    exact ⟨p, hm, f - 1, by omega, ⟨rfl, by omega⟩, rfl⟩

/-- **Every name of a protocol carries that protocol's keep-alive setting** in the map built by `ProtocolSet::new`. -/
theorem nameKa_eq (ka : List Bool) (fbs : List Nat) (hlen : fbs.length = ka.length) (p f : Nat) (hp : p < ka.length)
    (hf : f ≤ fbs.getD p 0) : nameKa ka fbs (p, f) = some ka[p]? := by
  unfold nameKa
  apply lookup_of_mem_unique
  · intro v' hv
    simp only [keepAlives, List.mem_append, List.mem_map, List.mem_range, Prod.mk.injEq] at hv
    rcases hv with ⟨q, _, ⟨hq, _⟩, rfl⟩ | ⟨⟨n, m⟩, hm, hn, rfl⟩
    · cases hq; rfl
    · simp only [] at hn
      subst hn
      obtain ⟨_, hpm, _, _⟩ := (mem_fallbackNames fbs (p, f) m).mp hm
      simp only [] at hpm
      rw [hpm]
  · by_cases h0 : f = 0
    · subst h0
      exact ⟨ka[p]?, by
        simp only [keepAlives, List.mem_append, List.mem_map, List.mem_range]
        exact Or.inl ⟨p, hp, rfl⟩⟩
    · refine ⟨ka[p]?, ?_⟩
      simp only [keepAlives, List.mem_append, List.mem_map]
      refine Or.inr ⟨((p, f), p), (mem_fallbackNames fbs (p, f) p).mpr ⟨by omega, rfl, by omega, hf⟩, rfl⟩

/-- `report_substream_open`: the second component is the `fallback` field of the report. -/
theorem reportTo_eq (fbs : List Nat) (p f : Nat) (hp : p < fbs.length) (hf : f ≤ fbs.getD p 0) :
    reportTo fbs (p, f) = (p, if f = 0 then none else some (p, f)) := by
  unfold reportTo
  by_cases h0 : f = 0
  · subst h0
    have : (fallbackNames fbs).lookup (p, 0) = none := by
      rw [List.lookup_eq_none_iff]
      intro ⟨n, m⟩ hm
      have := (mem_fallbackNames fbs n m).mp hm
      simp only [bne_iff_ne, ne_eq]
      intro e
      rw [← e] at this
      simp at this
    simp [this]
  · have : (fallbackNames fbs).lookup (p, f) = some p := by
      apply lookup_of_mem_unique
      · intro m hm
        exact ((mem_fallbackNames fbs (p, f) m).mp hm).2.1.symm
      · exact ⟨p, (mem_fallbackNames fbs (p, f) p).mpr ⟨hp, rfl, by omega, hf⟩⟩
    simp [this, h0]

end Litep2pVerif.Conn
