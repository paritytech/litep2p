import Litep2pVerif.Proofs.Conn.Permits
/-! C07: `report_connection_established` in full generality (suspended sends included), and the loop staying
usable for the live protocols (permit-aware model): what the loop does when a negotiation ends for a live protocol
(`neg_report`, also behind C08 and C09), a protocol shutting down. -/
namespace Litep2pVerif.Conn

/-- Who has been told "established": every live protocol whose send is not still suspended. -/
def EstInv (ps : PSet) : Prop :=
  match ps.call with
  | .protoSends .established w _ => ∀ j, aliveAt ps j → j ∉ w → Ev.proto j .established ∈ ps.log
  | .result .established _ => ∀ j, aliveAt ps j → Ev.proto j .established ∈ ps.log
  | _ => True

theorem EstInv.weaken {ps ps' : PSet} (h : EstInv ps) (hm : EnvMove ps ps') : EstInv ps' := by
  unfold EstInv at *
  rw [hm.call, hm.log]
  split
  · rename_i hc; rw [hc] at h; exact fun j hj hn => h j (hm.alive j hj) hn
  · rename_i hc; rw [hc] at h; exact fun j hj => h j (hm.alive j hj)
  · trivial

theorem pollSends_told (m : Msg) (is : List Nat) (ps : PSet) (w : List Nat) (e : Bool)
    (h : ∀ j, aliveAt ps j → j ∉ is ++ w → Ev.proto j m ∈ ps.log) :
    ∀ j, aliveAt (pollSends m is ps w e).1 j → j ∉ (pollSends m is ps w e).2.1 →
      Ev.proto j m ∈ (pollSends m is ps w e).1.log :=
  pollSends_induct m (Q := fun ps w _ => ∀ j, aliveAt ps j → j ∉ w → Ev.proto j m ∈ ps.log)
    (fun {_ _ i _ _} h hf hlog j hj hn => by
      rw [hlog]
      by_cases hji : j = i
      · exact List.mem_append_right _ (by simp [hji])
      · exact List.mem_append_left _ (h j (hf.alive j hj) (by simp [hji, hn])))
    (fun h hal j hj hn => h j hj (fun hm => (List.mem_cons.mp hm).elim (fun e => hal (e ▸ hj)) hn))
    (fun h j hj hn => h j hj (fun hm => hn (by simpa [or_comm] using hm)))
    is ps w e h

theorem progress_est (ps : PSet) (h : EstInv ps) : EstInv (progress ps) := by
  cases hcall : ps.call with
  | idle => simpa [progress, hcall] using h
  | result k ok => simpa [progress, hcall] using h
  | mgrSend e =>
    simp only [progress, hcall]
    rcases progressMgr_follows ps e with ⟨e', h'⟩ | ⟨ok, h'⟩ <;> simp [EstInv, h']
  | protoSends k w e =>
    cases k with
    | closed =>
      simp only [progress, hcall]
      rcases pollSends Kind.closed.msg w ps [] e with ⟨ps', w', e'⟩
      cases w' with
      | nil =>
        simp only []
        rcases progressMgr_follows ps' e' with ⟨e2, h'⟩ | ⟨ok, h'⟩ <;> simp [EstInv, h']
      | cons a t => simp [EstInv]
    | substream i o =>
      simp only [progress, hcall]
      rcases pollSends (Kind.substream i o).msg w ps [] e with ⟨ps', w', e'⟩
      cases w' <;> simp [EstInv]
    | established =>
      have htold := pollSends_told Kind.established.msg w ps [] e (by
        unfold EstInv at h; rw [hcall] at h; rw [List.append_nil]; exact h)
      rcases hr : pollSends Kind.established.msg w ps [] e with ⟨ps', w', e'⟩
      rw [hr] at htold
      simp only [progress, hcall, hr]
      cases w' with
      | nil => exact fun j hj => htold j hj (by simp)
      | cons a t => exact htold

theorem envStep_est (ps : PSet) (o : EnvOp) (h : EstInv ps) : EstInv (envStep ps o) := by
  obtain ⟨ps1, hm, _, e | e⟩ := envStep_cases ps o <;> rw [e]
  · exact progress_est ps1 (h.weaken hm)
  · exact h.weaken hm

theorem startCall_est (ps : PSet) (hwf : WF ps) : EstInv (startCall ps .established) := by
  simp only [startCall]
  apply progress_est
  simp only [EstInv]
  intro j ⟨c, hc, _⟩ hn
  exact absurd ((hwf.2 j).mpr (List.getElem?_eq_some_iff.mp hc).1) hn

theorem negCount_pos (subs : List Sub) (k : Nat) (x : Sub) (hk : subs[k]? = some x) (hx : x.stage.pending = true) :
    0 < negCount subs := by
  unfold negCount
  apply List.length_pos_of_mem (a := x)
  exact List.mem_filter.mpr ⟨List.mem_of_getElem? hk, by simp [hx]⟩

theorem progress_substream (ps : PSet) (p : Nat) (m : Bool) (hcall : ps.call = .protoSends (.substream p m) [p] false)
    (c : Chan) (hc : ps.chans[p]? = some c) (ha : c.alive = true) :
    progress ps =
      if c.queue.length < c.cap then
        { ps with chans := ps.chans.set p { c with queue := c.queue ++ [(Kind.substream p m).msg] },
                  log := ps.log ++ [.proto p (Kind.substream p m).msg], call := .result (.substream p m) true }
      else ps := by
  unfold progress
  rw [hcall]
  by_cases hroom : c.queue.length < c.cap
  · simp only [pollSends, sendTo, hc, trySend, ha, hroom, Bool.true_eq_false, if_false, if_true, Bool.not_false]
  · simp only [pollSends, sendTo, hc, trySend, ha, hroom, Bool.true_eq_false, if_false, List.nil_append]
    rw [← hcall]

theorem startCall_substream (ps : PSet) (p : Nat) (m : Bool) (c : Chan) (hc : ps.chans[p]? = some c)
    (ha : c.alive = true) :
    startCall ps (.substream p m) =
      if c.queue.length < c.cap then
        { ps with chans := ps.chans.set p { c with queue := c.queue ++ [(Kind.substream p m).msg] },
                  log := ps.log ++ [.proto p (Kind.substream p m).msg], call := .result (.substream p m) true }
      else { ps with call := .protoSends (.substream p m) [p] false } := by
  unfold startCall
  simp only []
  rw [if_pos (List.getElem?_eq_some_iff.mp hc).1]
  exact progress_substream _ p m rfl c hc ha

def hasRoom (s : TLoop) (p : Nat) : Prop := ∃ c, s.loop.ps.chans[p]? = some c ∧ c.queue.length < c.cap

/-- The loop reports to the LIVE protocol `p`: `SubstreamOpened` after `negOk k p` (`m = true`), `SubstreamOpenFailure`
after `negFail k` on an outbound request of `p` (`m = false`); without room in `p`'s channel it stays suspended in that
one send. -/
theorem neg_report (s : TLoop) (hr : s.running = true) (k : Nat) (x : Sub) (hk : s.subs[k]? = some x) (p : Nat)
    (hp : protoAlive s p = true) (l : TLabel) (m : Bool)
    (hl : l = .negOk k p ∧ x.stage = .negotiating ∧ m = true ∨
      l = .negFail k ∧ x.stage.pending = true ∧ x.inbound = false ∧ x.proto = some p ∧ m = false) :
    (tstep s l).loop.exited = none ∧
    (tstep s l).subs[k]? = some { x with proto := some p, stage := if m then .queued else .gone } ∧
    (hasRoom s p → (tstep s l).running = true ∧ (tstep s l).loop.ps.call = .idle ∧
      (tstep s l).loop.ps.log = s.loop.ps.log ++ [.proto p (Kind.substream p m).msg]) ∧
    (¬ hasRoom s p → (tstep s l).loop.cont = some .substreamReport ∧
      (tstep s l).loop.ps.call = .protoSends (.substream p m) [p] false ∧ (tstep s l).loop.ps.log = s.loop.ps.log ∧
      ∃ c, (tstep s l).loop.ps.chans[p]? = some c ∧ c.alive = true) := by
  obtain ⟨h1, h2⟩ := (running_iff s).mp hr
  have hlt : k < s.subs.length := (List.getElem?_eq_some_iff.mp hk).1
  have hx : x.stage.pending = true := by
    rcases hl with ⟨_, h, _⟩ | ⟨_, h, _⟩
    · rw [h]; rfl
    · exact h
  have hpend : negCount s.subs ≠ 0 := by have := negCount_pos s.subs k x hk hx; omega
  -- the `Loop` component, and the table once the loop is known to go on
  obtain ⟨hL, hS⟩ : (tstep s l).loop = settle
        { s.loop with pending := negCount s.subs - 1, ps := startCall s.loop.ps (.substream p m),
                      cont := some .substreamReport } ∧
      ((tstep s l).loop.exited = none →
        (tstep s l).subs[k]? = some { x with proto := some p, stage := if m then .queued else .gone }) := by
    have hlp : ∀ r, (r = NegRes.ok p ∧ m = true ∨ r = .err (some p) ∧ m = false) → lstep s (.negotiated r) = settle
        { s.loop with pending := negCount s.subs - 1, ps := startCall s.loop.ps (.substream p m),
                      cont := some .substreamReport } := by
      rintro r (⟨rfl, rfl⟩ | ⟨rfl, rfl⟩) <;>
        simp only [lstep, loopStep, h1, h2, hpend, Option.isSome_none, Bool.or_self, Bool.false_eq_true, if_false]
    rcases hl with ⟨rfl, h, rfl⟩ | ⟨rfl, _, hin, hpr, rfl⟩
    · simp only [tstep, tNegOk, hr, hk, h, Bool.true_eq_false, if_false, ne_eq, not_true_eq_false, cleanup_loop]
      exact ⟨hlp _ (Or.inl ⟨rfl, rfl⟩), fun hex => by rw [cleanup_of_running _ hex]; simp [hp, hlt]⟩
    · simp only [tstep, tNegFail, hr, hk, hx, hin, hpr, Bool.true_eq_false, Bool.false_eq_true, if_false, cleanup_loop]
      exact ⟨hlp _ (Or.inr ⟨rfl, rfl⟩), fun hex => by rw [cleanup_of_running _ hex]; simp [hlt, ← hpr]⟩
  unfold protoAlive at hp
  cases hc : s.loop.ps.chans[p]? with
  | none => rw [hc] at hp; cases hp
  | some c =>
    rw [hc] at hp
    have hR : hasRoom s p ↔ c.queue.length < c.cap :=
      ⟨fun ⟨c', hc', h'⟩ => by rw [hc] at hc'; cases hc'; exact h', fun h => ⟨c, hc, h⟩⟩
    have hex : (tstep s l).loop.exited = none := by
      rw [hL, startCall_substream s.loop.ps p m c hc hp]; split <;> simp [settle, h1]
    refine ⟨hex, hS hex, ?_⟩
    rw [running_iff, hL, startCall_substream s.loop.ps p m c hc hp, hR]
    by_cases hroom : c.queue.length < c.cap <;> simp [hroom, settle, h1, hc, hp]

theorem dropRx_keeps_running (s : TLoop) (hinv : PInv s.loop) (hr : s.running = true) (d p : Nat) (hdp : d ≠ p)
    (hp : protoAlive s p = true) :
    (tstep s (.dropRx d)).running = true ∧ protoAlive (tstep s (.dropRx d)) p = true ∧
    PInv (tstep s (.dropRx d)).loop := by
  obtain ⟨h1, h2⟩ := (running_iff s).mp hr
  have hidle : s.loop.ps.call = .idle := by
    have := hinv.2.2
    rw [h2, h1] at this
    exact this.1
  have hL : (tstep s (.dropRx d)).loop = estep s (.drop d) := by simp only [tstep]; rw [cleanup_loop]
  have hE := estep_cont_none s (.drop d) h2
  refine ⟨?_, ?_, ?_⟩
  · rw [running_iff, hL, hE]; exact ⟨h1, h2⟩
  · unfold protoAlive at hp ⊢
    rw [hL, hE]
    simp only [envStep]
    cases hc : s.loop.ps.chans[d]? with
    | none => exact hp
    | some c =>
      simp only [progress, hidle]
      rw [List.getElem?_set_ne hdp]; exact hp
  · rw [hL]; exact step_pinv s.loop (.env (.drop d)) hinv

instance (s : TLoop) (p : Nat) : Decidable (hasRoom s p) :=
  match h : s.loop.ps.chans[p]? with
  | some c =>
    if hr : c.queue.length < c.cap then isTrue ⟨c, h, hr⟩
    else isFalse fun ⟨c', h', hr'⟩ => by rw [h] at h'; cases h'; exact hr hr'
  | none => isFalse fun ⟨_, h', _⟩ => by rw [h] at h'; cases h'

end Litep2pVerif.Conn
