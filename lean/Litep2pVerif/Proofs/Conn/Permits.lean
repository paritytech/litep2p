import Litep2pVerif.Model.Conn.Accept
import Litep2pVerif.Proofs.Conn.Close
import Litep2pVerif.Proofs.Common.List
/-! Lemmas about the permit-aware loop (`Model/Conn/Permits.lean`): one walk through `tstep` (`tstep_spec`) says what a
transition does to the `Loop` component (`LoopStep`) and to one entry of the substream table (`SubStep`); from these, the
reporting invariant `PInv` of the loop carries over, a busy substream is a strong sender, a negotiating substream stays
in the table. -/
namespace Litep2pVerif.Conn

/-- The transitions that are a move of the OTHER end of a channel (a protocol / the manager takes a message, somebody else
fills the channel, a protocol shuts down). -/
def TLabel.isChan : TLabel → Bool
  | .recv _ | .recvMgr | .fill _ | .fillMgr | .dropRx _ => true
  | _ => false

theorem cleanup_loop (s : TLoop) : (cleanup s).loop = s.loop := by
  unfold cleanup; split <;> rfl

theorem cleanup_of_running (s : TLoop) (h : s.loop.exited = none) : cleanup s = s := by
  unfold cleanup; simp [h]

theorem settle_cont_none (s : Loop) (h : s.cont = none) : settle s = s := by
  unfold settle
  split <;> simp_all

theorem estep_cont_none (s : TLoop) (o : EnvOp) (hc : s.loop.cont = none) :
    estep s o = { s.loop with ps := envStep s.loop.ps o } := by
  unfold estep step
  exact settle_cont_none _ hc

theorem running_iff (s : TLoop) : s.running = true ↔ s.loop.exited = none ∧ s.loop.cont = none := by
  unfold TLoop.running
  cases s.loop.exited <;> cases s.loop.cont <;> simp

theorem busy_permits (ka : List Bool) (x : Sub) (h : Busy ka x) : 0 < x.permits ka := by
  unfold Sub.permits
  rcases h with h | h | ⟨hk, h | h | h⟩
  · simp [h]
  · simp [h]
  · rw [h]; simp only []; omega
  · simp [h, hk]
  · simp [h, hk]

theorem busy_strong_pos (s : TLoop) (x : Sub) (hx : x ∈ s.subs) (h : Busy s.ka x) : 0 < s.strong := by
  have h1 := le_sum_map_of_mem (Sub.permits s.ka) s.subs x hx
  have h2 := busy_permits s.ka x h
  unfold TLoop.strong; omega

theorem idle_disabled (s : TLoop) (h : 0 < s.strong) : s.idleEnabled = false ∧ tstep s .idleExit = s := by
  have : s.idleEnabled = false := by
    unfold TLoop.idleEnabled
    have : (s.strong == 0) = false := by simp; omega
    simp [this]
  exact ⟨this, by simp [tstep, tIdleExit, this]⟩

/-- A substream that owns a permit is a strong sender of the command channel: the idle exit is disabled. -/
theorem busy_disables_idle (s : TLoop) (x : Sub) (hx : x ∈ s.subs) (hb : Busy s.ka x) :
    0 < s.strong ∧ s.idleEnabled = false ∧ tstep s .idleExit = s :=
  have h := busy_strong_pos s x hx hb
  ⟨h, idle_disabled s h⟩

theorem accept_with_permit (s : TLoop) (hr : s.running = true) (hs : 0 < s.strong) :
    (tstep s .accept).subs = s.subs ++ [⟨true, none, .negotiating⟩] ∧
    (tstep s .accept).loop.exited = none ∧ (tstep s .accept).accepted = s.accepted + 1 := by
  obtain ⟨h1, h2⟩ := (running_iff s).mp hr
  have hex : (lstep s (.yamuxStream true)).exited = none := by simp [lstep, loopStep, h1, h2]
  have h0 : ¬ s.running = false := by simp [hr]
  simp only [tstep, tAccept]
  rw [if_neg h0, if_pos hs, cleanup_of_running _ hex]
  exact ⟨rfl, hex, rfl⟩

theorem accept_without_permit (s : TLoop) (hr : s.running = true) (hs : s.strong = 0) :
    (tstep s .accept).subs.length = s.subs.length ∧
    (tstep s .accept).loop = errorExit { s.loop with pending := negCount s.subs } ∧
    (tstep s .accept).accepted = s.accepted + 1 := by
  obtain ⟨h1, h2⟩ := (running_iff s).mp hr
  have hs' : ¬ 0 < s.strong := by omega
  have h0 : ¬ s.running = false := by simp [hr]
  simp only [tstep, tAccept]
  rw [if_neg h0, if_neg hs']
  refine ⟨?_, ?_, ?_⟩
  · unfold cleanup; split <;> simp
  · rw [cleanup_loop]; simp [lstep, loopStep, h1, h2]
  · unfold cleanup; split <;> rfl

/-- What transition `l` has done to entry `k` of the substream table: nothing; a pending entry got its yamux stream, or
left `pending_substreams` because its future ended or the loop returned; a delivered one was taken, half-closed or
dropped by its protocol `i`, or `i` shut down. -/
def SubStep (l : TLabel) (k : Nat) (x : Sub) (t : TLoop) : Prop :=
  ∃ y, t.subs[k]? = some y ∧
    (y = x ∨
     (x.stage.pending = true ∧
       (l = .yamuxOpened k ∧ y = { x with stage := .negotiating } ∨
        y.stage.pending = false ∧ (t.loop.exited ≠ none ∨ l.endsNeg k = true))) ∨
     (x.stage.pending = false ∧ y.stage.pending = false ∧ ∃ i, x.proto = some i ∧
       (l = .recv i ∧ x.stage = .queued ∨ l = .dropSub i ∨ l = .halfClose i ∧ x.stage = .held ∨ l = .dropRx i)))

theorem SubStep.same {l : TLabel} {k : Nat} {x : Sub} {t : TLoop} (h : t.subs[k]? = some x) : SubStep l k x t :=
  ⟨x, h, Or.inl rfl⟩

theorem cleanup_stable (t : TLoop) (k : Nat) (y : Sub) (hy : y.stage.pending = false) (h : t.subs[k]? = some y) :
    (cleanup t).subs[k]? = some y := by
  unfold cleanup
  split
  · simp [h, hy]
  · exact h

theorem SubStep.cleanup {l : TLabel} {k : Nat} {x : Sub} {t : TLoop} (h : t.subs[k]? = some x) :
    SubStep l k x (cleanup t) := by
  cases hp : x.stage.pending with
  | false => exact .same (cleanup_stable t k x hp h)
  | true =>
    cases hex : t.loop.exited with
    | none => rw [cleanup_of_running t hex]; exact .same h
    | some e =>
      refine ⟨{ x with stage := .gone }, ?_, Or.inr (Or.inl ⟨hp, Or.inr ⟨rfl, Or.inl ?_⟩⟩)⟩
      · simp [Conn.cleanup, hex, h, hp]
      · rw [cleanup_loop, hex]; simp

theorem firstAt_spec (subs : List Sub) (i : Nat) (st : Stage) (k : Nat) (h : firstAt subs i st = some k) :
    ∃ y, subs[k]? = some y ∧ y.stage = st ∧ y.proto = some i := by
  unfold firstAt at h
  obtain ⟨hk, hp, _⟩ := List.findIdx?_eq_some_iff_getElem.mp h
  refine ⟨subs[k], by simp [hk], ?_⟩
  simpa using hp

theorem setStage_firstAt {subs : List Sub} {k : Nat} {x : Sub} {i k' : Nat} {st : Stage} (st' : Stage)
    (hk : subs[k]? = some x) (hf : firstAt subs i st = some k') :
    (setStage subs k' st')[k]? = some x ∨
    (x.stage = st ∧ x.proto = some i ∧ (setStage subs k' st')[k]? = some { x with stage := st' }) := by
  obtain ⟨y, hy, hst, hpr⟩ := firstAt_spec _ _ _ _ hf
  simp only [setStage, hy]
  by_cases e : k' = k
  · subst e
    cases hy.symm.trans hk
    exact Or.inr ⟨hst, hpr, List.getElem?_set_self (List.getElem?_eq_some_iff.mp hk).1⟩
  · exact Or.inl (by rw [List.getElem?_set_ne e]; exact hk)

theorem subs_append {subs : List Sub} {k : Nat} {x : Sub} (hk : subs[k]? = some x) (y : Sub) :
    (subs ++ [y])[k]? = some x := by
  rw [List.getElem?_append_left (List.getElem?_eq_some_iff.mp hk).1]; exact hk

theorem cleanup_ka (s : TLoop) : (cleanup s).ka = s.ka := by
  unfold cleanup; split <;> rfl

def LoopStep (s : TLoop) (l : TLabel) (L : Loop) : Prop :=
  L = s.loop ∨
  (s.running = true ∧ l.protoSide = false ∧ ∃ e, L = lstep s e) ∨
  (l.isChan = true ∧ ∃ o, L = estep s o ∧ ∀ p, o = .drop p → l = .dropRx p)

def TSpec (s : TLoop) (l : TLabel) (t : TLoop) : Prop :=
  t = s ∨ (t.ka = s.ka ∧ LoopStep s l t.loop ∧ ∀ k x, s.subs[k]? = some x → SubStep l k x t)

section
variable {s : TLoop} {l : TLabel} {hs : List HandleSt} {q : List Cmd} {subs : List Sub} {a : Nat}

theorem TSpec.event {e : LoopEv} (hr : s.running = true) (hl : l.protoSide = false)
    (hsub : ∀ k x, s.subs[k]? = some x → SubStep l k x (cleanup ⟨lstep s e, s.ka, hs, q, subs, a⟩)) :
    TSpec s l (cleanup ⟨lstep s e, s.ka, hs, q, subs, a⟩) :=
  Or.inr ⟨cleanup_ka _, Or.inr (Or.inl ⟨hr, hl, e, cleanup_loop _⟩), hsub⟩

theorem TSpec.chan {o : EnvOp} (hl : l.isChan = true) (hd : ∀ p, o = .drop p → l = .dropRx p)
    (hsub : ∀ k x, s.subs[k]? = some x → SubStep l k x (cleanup ⟨estep s o, s.ka, hs, q, subs, a⟩)) :
    TSpec s l (cleanup ⟨estep s o, s.ka, hs, q, subs, a⟩) :=
  Or.inr ⟨cleanup_ka _, Or.inr (Or.inr ⟨hl, o, cleanup_loop _, hd⟩), hsub⟩

theorem SubStep.ended {k' : Nat} {y y' : Sub} {L : Loop} (hy : s.subs[k']? = some y) (hp : y.stage.pending = true)
    (hq : y'.stage.pending = false) (hl : l.endsNeg k' = true) (k : Nat) (x : Sub) (hk : s.subs[k]? = some x) :
    SubStep l k x (Conn.cleanup ⟨L, s.ka, hs, q, s.subs.set k' y', a⟩) := by
  by_cases e : k' = k
  · subst e
    cases hy.symm.trans hk
    exact ⟨_, cleanup_stable _ _ _ hq (List.getElem?_set_self (List.getElem?_eq_some_iff.mp hk).1),
      Or.inr (Or.inl ⟨hp, Or.inr ⟨hq, Or.inr hl⟩⟩)⟩
  · exact .cleanup (by rw [List.getElem?_set_ne e]; exact hk)

end

theorem tstep_spec (s : TLoop) (l : TLabel) : TSpec s l (tstep s l) := by
  cases l with
  | accept =>
    simp only [tstep, tAccept]
    split
    · exact Or.inl rfl
    · rename_i hr
      have hr := Bool.of_not_eq_false hr
      split
      · exact .event hr rfl (fun _ _ hk => .cleanup (subs_append hk _))
      · exact .event hr rfl (fun _ _ hk => .cleanup hk)
  | yamuxEof | yamuxErr =>
    simp only [tstep]
    split
    · rename_i hr
      exact .event hr rfl (fun _ _ hk => .cleanup hk)
    · exact Or.inl rfl
  | negOk k' p | negOkFb k' p _ =>
    simp only [tstep, tNegOk]
    split
    · exact Or.inl rfl
    · rename_i hr
      split
      · exact Or.inl rfl
      · rename_i y hy
        split
        · exact Or.inl rfl
        · rename_i hneg
          exact .event (Bool.of_not_eq_false hr) rfl
            (.ended hy (by rw [Decidable.not_not.mp hneg]; rfl) (by split <;> rfl) (by simp [TLabel.endsNeg]))
  | negFail k' =>
    simp only [tstep, tNegFail]
    split
    · exact Or.inl rfl
    · rename_i hr
      split
      · exact Or.inl rfl
      · rename_i y hy
        split
        · exact Or.inl rfl
        · rename_i hpend
          exact .event (Bool.of_not_eq_false hr) rfl
            (.ended hy (Bool.of_not_eq_false hpend) rfl (by simp [TLabel.endsNeg]))
  | yamuxOpened k' =>
    simp only [tstep, tYamuxOpened]
    split
    · exact Or.inl rfl
    · split
      · exact Or.inl rfl
      · rename_i y hy
        split
        · rename_i hop
          refine Or.inr ⟨rfl, Or.inl rfl, fun k x hk => ?_⟩
          by_cases e : k' = k
          · subst e
            cases hy.symm.trans hk
            exact ⟨_, List.getElem?_set_self (List.getElem?_eq_some_iff.mp hk).1,
              Or.inr (Or.inl ⟨by rw [hop]; rfl, Or.inl ⟨rfl, rfl⟩⟩)⟩
          · exact .same (by rw [List.getElem?_set_ne e]; exact hk)
        · exact Or.inl rfl
  | takeCmd =>
    simp only [tstep, tTakeCmd]
    split
    · exact Or.inl rfl
    · rename_i hr
      have hr := Bool.of_not_eq_false hr
      split
      · exact Or.inl rfl
      · exact .event hr rfl (fun _ _ hk => .cleanup (subs_append hk _))
      · exact .event hr rfl (fun _ _ hk => .cleanup hk)
  | idleExit =>
    simp only [tstep, tIdleExit]
    split
    · rename_i hi
      have hr : s.running = true := by
        simp only [TLoop.idleEnabled, Bool.and_eq_true] at hi; exact hi.1.1
      exact .event hr rfl (fun _ _ hk => .cleanup hk)
    · exact Or.inl rfl
  | recv i =>
    simp only [tstep, tRecv]
    split
    · exact Or.inl rfl
    · split
      · exact Or.inl rfl
      · split
        · exact Or.inl rfl
        · exact .chan rfl (fun _ h => by cases h) (fun _ _ hk => .cleanup hk)
        · refine .chan rfl (fun _ h => by cases h) (fun k x hk => ?_)
          split
          · rename_i k' hf
            rcases setStage_firstAt .held hk hf with h | ⟨hst, hpr, h⟩
            · exact .cleanup h
            · exact ⟨_, cleanup_stable _ _ _ rfl h,
                Or.inr (Or.inr ⟨by rw [hst]; rfl, rfl, i, hpr, Or.inl ⟨rfl, hst⟩⟩)⟩
          · exact .cleanup hk
        · exact .chan rfl (fun _ h => by cases h) (fun _ _ hk => .cleanup hk)
  | recvMgr | fill i | fillMgr => exact .chan rfl (fun _ h => by cases h) (fun _ _ hk => .cleanup hk)
  | downgrade i | upgrade i | dropHandle i | localOpen i | forceClose i =>
    simp only [tstep]; split <;> first | exact Or.inl rfl | exact Or.inr ⟨rfl, Or.inl rfl, fun k x hk => .same hk⟩
  | dropSub i =>
    have drop : ∀ (st : Stage) k', st.pending = false → firstAt s.subs i st = some k' → ∀ k x, s.subs[k]? = some x →
        SubStep (.dropSub i) k x { s with subs := setStage s.subs k' .gone } := fun st k' hst hf k x hk => by
      rcases setStage_firstAt .gone hk hf with h | ⟨hx, hpr, h⟩
      · exact .same h
      · exact ⟨_, h, Or.inr (Or.inr ⟨by rw [hx]; exact hst, rfl, i, hpr, Or.inr (Or.inl rfl)⟩)⟩
    simp only [tstep]
    split
    · exact Or.inr ⟨rfl, Or.inl rfl, drop _ _ rfl (by assumption)⟩
    · split
      · exact Or.inr ⟨rfl, Or.inl rfl, drop _ _ rfl (by assumption)⟩
      · exact Or.inl rfl
  | halfClose i =>
    simp only [tstep]
    split
    · exact Or.inl rfl
    · split
      · rename_i k' hf
        refine Or.inr ⟨rfl, Or.inl rfl, fun k x hk => ?_⟩
        rcases setStage_firstAt .heldHalf hk hf with h | ⟨hst, hpr, h⟩
        · exact .same h
        · exact ⟨_, h, Or.inr (Or.inr ⟨by rw [hst]; rfl, rfl, i, hpr, Or.inr (Or.inr (Or.inl ⟨rfl, hst⟩))⟩)⟩
      · exact Or.inl rfl
  | dropRx i =>
    refine .chan rfl (fun _ h => by cases h; rfl) (fun k x hk => ?_)
    by_cases hd : x.proto = some i ∧ (x.stage = .queued ∨ x.stage = .held ∨ x.stage = .heldHalf)
    · refine ⟨_, cleanup_stable _ _ { x with stage := .gone } rfl (by simp [hk, hd]),
        Or.inr (Or.inr ⟨?_, rfl, i, hd.1, Or.inr (Or.inr (Or.inr rfl))⟩)⟩
      rcases hd.2 with h | h | h <;> rw [h] <;> rfl
    · exact .cleanup (by simp [hk, hd])

theorem tstep_loop (s : TLoop) (l : TLabel) : LoopStep s l (tstep s l).loop :=
  (tstep_spec s l).elim (fun e => Or.inl (by rw [e])) (fun h => h.2.1)

theorem tstep_sub (s : TLoop) (l : TLabel) (k : Nat) (x : Sub) (hk : s.subs[k]? = some x) :
    SubStep l k x (tstep s l) :=
  (tstep_spec s l).elim (fun e => by rw [e]; exact .same hk) (fun h => h.2.2 k x hk)

theorem tstep_ka (s : TLoop) (l : TLabel) : (tstep s l).ka = s.ka :=
  (tstep_spec s l).elim (fun e => by rw [e]) (fun h => h.1)

theorem tstep_pinv (s : TLoop) (l : TLabel) (h : PInv s.loop) : PInv (tstep s l).loop := by
  rcases tstep_loop s l with e | ⟨_, _, e, he⟩ | ⟨_, o, ho, _⟩
  · rw [e]; exact h
  · rw [he]; exact loopStep_pinv _ e h
  · rw [ho]; exact step_pinv s.loop (.env o) h

theorem trun_pinv (ls : List TLabel) (s : TLoop) (h : PInv s.loop) : PInv (trun s ls).loop :=
  foldl_inv (P := fun t => PInv t.loop) ls s (fun t l _ => tstep_pinv t l) h

theorem errorExit_exited (s : Loop) (h : (errorExit s).exited = none) : s.exited = none := by
  unfold errorExit at h
  cases hc : (startCall s.ps .closed).call <;> simp only [hc] at h <;> first | exact h | cases h

theorem settle_exited (s : Loop) (h : (settle s).exited = none) : s.exited = none := by
  unfold settle at h
  split at h
  · split at h
    · cases h
    · exact errorExit_exited _ h
  · split at h
    · exact h
    · exact errorExit_exited _ h
  · cases h
  · exact h

theorem loopStep_exited (s : Loop) (e : LoopEv) (h : (loopStep s e).exited = none) : s.exited = none := by
  cases hx : s.exited with
  | none => rfl
  | some x =>
    have : loopStep s e = s := by unfold loopStep; simp [hx]
    rw [this, hx] at h; cases h

theorem tstep_exited (s : TLoop) (l : TLabel) (h : (tstep s l).loop.exited = none) : s.loop.exited = none := by
  rcases tstep_loop s l with e | ⟨_, _, e, he⟩ | ⟨_, o, ho, _⟩
  · rw [e] at h; exact h
  · rw [he] at h
    exact loopStep_exited { s.loop with pending := negCount s.subs } e h
  · rw [ho] at h
    exact settle_exited { s.loop with ps := envStep s.loop.ps o } h

theorem pending_step (s : TLoop) (l : TLabel) (k : Nat) (x : Sub)
    (hk : s.subs[k]? = some x) (hx : x.stage.pending = true) (hl : l.endsNeg k = false)
    (hrun : (tstep s l).loop.exited = none) :
    (tstep s l).subs[k]? = some x ∨
      l = .yamuxOpened k ∧ (tstep s l).subs[k]? = some { x with stage := .negotiating } := by
  obtain ⟨y, hy, rfl | ⟨_, ⟨rfl, rfl⟩ | ⟨_, he | he⟩⟩ | ⟨hn, _⟩⟩ := tstep_sub s l k x hk
  · exact Or.inl hy
  · exact Or.inr ⟨rfl, hy⟩
  · exact absurd hrun he
  · rw [hl] at he; cases he
  · rw [hx] at hn; cases hn

theorem trun_negotiating (ls : List TLabel) : ∀ (s : TLoop) (k : Nat) (x : Sub),
    s.subs[k]? = some x → x.stage = .negotiating →
    (∀ l ∈ ls, l.endsNeg k = false) →
    (trun s ls).loop.exited = none → (trun s ls).subs[k]? = some x := fun s k x hk hx hls =>
  foldl_inv (P := fun t => t.loop.exited = none → t.subs[k]? = some x) ls s
    (fun t l hl h hrun =>
      (pending_step t l k x (h (tstep_exited t l hrun)) (by rw [hx]; rfl) (hls l hl) hrun).elim id
        (fun ⟨_, h'⟩ => by rw [h', ← hx]))
    (fun _ => hk)

theorem trun_pending (ls : List TLabel) : ∀ (s : TLoop) (k : Nat) (x : Sub),
    s.subs[k]? = some x → x.stage.pending = true →
    (∀ l ∈ ls, l.touches k = false) →
    (trun s ls).loop.exited = none → (trun s ls).subs[k]? = some x := fun s k x hk hx hls =>
  foldl_inv (P := fun t => t.loop.exited = none → t.subs[k]? = some x) ls s
    (fun t l hl h hrun => by
      have ht := hls l hl
      have he : l.endsNeg k = false := by cases l <;> first | exact ht | rfl
      rcases pending_step t l k x (h (tstep_exited t l hrun)) hx he hrun with h' | ⟨rfl, _⟩
      · exact h'
      · simp [TLabel.touches] at ht)
    (fun _ => hk)

theorem trun_ka (s : TLoop) (ls : List TLabel) : (trun s ls).ka = s.ka :=
  foldl_inv (P := fun t => t.ka = s.ka) ls s (fun t l _ h => (tstep_ka t l).trans h) rfl

/-- No hypothesis on `running`: a half-closed substream and its lifetime permit outlive the loop's return. -/
theorem heldHalf_persists (s : TLoop) (l : TLabel) (k : Nat) (x : Sub)
    (hk : s.subs[k]? = some x) (hx : x.stage = .heldHalf)
    (hl : ∀ i, x.proto = some i → l ≠ .dropSub i ∧ l ≠ .dropRx i) : (tstep s l).subs[k]? = some x := by
  obtain ⟨y, hy, rfl | ⟨hp, _⟩ | ⟨_, _, i, hpr, h⟩⟩ := tstep_sub s l k x hk
  · exact hy
  · rw [hx] at hp; cases hp
  · rcases h with ⟨_, h⟩ | h | ⟨_, h⟩ | h
    · rw [hx] at h; cases h
    · exact absurd h (hl i hpr).1
    · rw [hx] at h; cases h
    · exact absurd h (hl i hpr).2

theorem trun_heldHalf (ls : List TLabel) : ∀ (s : TLoop) (k : Nat) (x : Sub),
    s.subs[k]? = some x → x.stage = .heldHalf →
    (∀ l ∈ ls, ∀ i, x.proto = some i → l ≠ .dropSub i ∧ l ≠ .dropRx i) →
    (trun s ls).subs[k]? = some x := fun s k x hk hx hls =>
  foldl_inv (P := fun t => t.subs[k]? = some x) ls s (fun t l hl h => heldHalf_persists t l k x h hx (hls l hl)) hk

/-- The half-closed substream is the same object of the same protocol, hence holds the same lifetime permit. -/
theorem halfClose_keeps (s : TLoop) (i k : Nat) (h0 : firstAt s.subs i .heldHalf = none)
    (h1 : firstAt s.subs i .held = some k) :
    ∃ x, s.subs[k]? = some x ∧ x.stage = .held ∧ x.proto = some i ∧
      (tstep s (.halfClose i)).subs[k]? = some { x with stage := .heldHalf } ∧
      (tstep s (.halfClose i)).loop = s.loop ∧ (tstep s (.halfClose i)).handles = s.handles ∧
      (tstep s (.halfClose i)).cmdQ = s.cmdQ := by
  obtain ⟨x, hx, hst, hpr⟩ := firstAt_spec _ _ _ _ h1
  refine ⟨x, hx, hst, hpr, ?_, ?_, ?_, ?_⟩ <;> simp only [tstep, h0, h1]
  obtain ⟨hlt, hget⟩ := List.getElem?_eq_some_iff.mp hx
  simp only [setStage, hx]
  rw [List.getElem?_set_self hlt]

theorem tinit_fresh (ka : List Bool) (cap : Nat) : Fresh (tinit ka cap).loop.ps :=
  fresh_replicate ..

end Litep2pVerif.Conn
