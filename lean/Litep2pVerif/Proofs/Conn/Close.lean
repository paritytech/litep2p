import Litep2pVerif.Model.Conn.Loop
/-! The invariant of the report calls (`Inv`, kept by `progress`, `startCall` and the environment's moves) and, over it,
the invariant of the connection event loop (`PInv`, kept by every `step`), behind the C07 theorems. -/
namespace Litep2pVerif.Conn

theorem foldl_inv {α β : Type} {f : α → β → α} {P : α → Prop} (l : List β) (a : α)
    (hs : ∀ a, ∀ b ∈ l, P a → P (f a b)) (h : P a) : P (l.foldl f a) :=
  List.foldlRecOn l f h fun a h b hb => hs a b hb h

def aliveAt (ps : PSet) (i : Nat) : Prop := ∃ c, ps.chans[i]? = some c ∧ c.alive = true
def cnt (ps : PSet) (i : Nat) (m : Msg) : Nat := ps.log.count (.proto i m)
def mgrCnt (ps : PSet) : Nat := ps.log.count .mgr

/-- What `progress`, a send and the environment leave alone: the protocols and their order, the once-flag; no receiver
comes back. -/
structure Frame (ps ps' : PSet) : Prop where
  mgrAlive : ps'.mgr.alive = true → ps.mgr.alive = true
  order : ps'.order = ps.order
  len : ps'.chans.length = ps.chans.length
  alive : ∀ j, aliveAt ps' j → aliveAt ps j
  rep : ps'.closedReported = ps.closedReported
  runs : ps'.closedRuns = ps.closedRuns

theorem Frame.rfl' (ps : PSet) : Frame ps ps := ⟨id, rfl, rfl, fun _ => id, rfl, rfl⟩

theorem Frame.trans {a b c : PSet} (h1 : Frame a b) (h2 : Frame b c) : Frame a c :=
  ⟨h1.mgrAlive ∘ h2.mgrAlive, h2.order.trans h1.order, h2.len.trans h1.len,
    fun j => h1.alive j ∘ h2.alive j, h2.rep.trans h1.rep, h2.runs.trans h1.runs⟩

theorem Frame.setChan {ps : PSet} {i : Nat} {c c' : Chan} {log : List Ev} (hc : ps.chans[i]? = some c)
    (hcc : c'.alive = true → c.alive = true) : Frame ps { ps with chans := ps.chans.set i c', log := log } := by
  refine ⟨id, rfl, by simp, fun j ⟨d, hd, hda⟩ => ?_, rfl, rfl⟩
  simp only [List.getElem?_set] at hd
  by_cases hij : i = j
  · subst hij
    have hlt : i < ps.chans.length := (List.getElem?_eq_some_iff.mp hc).1
    simp [hlt] at hd
    subst hd
    exact ⟨c, hc, hcc hda⟩
  · simp [hij] at hd
    exact ⟨d, hd, hda⟩

theorem sendTo_spec (ps : PSet) (i : Nat) (m : Msg) :
    Frame ps (sendTo ps i m).2 ∧
    (((sendTo ps i m).1 = .sent ∧ (sendTo ps i m).2.log = ps.log ++ [.proto i m]) ∨
     ((sendTo ps i m).1 = .closed ∧ ¬ aliveAt ps i ∧ (sendTo ps i m).2 = ps) ∨
     ((sendTo ps i m).1 = .full ∧ (sendTo ps i m).2 = ps)) := by
  unfold sendTo
  cases hc : ps.chans[i]? with
  | none => simp [Frame.rfl', aliveAt, hc]
  | some c =>
    simp only [trySend]
    by_cases ha : c.alive = false
    · simp [ha, Frame.rfl', aliveAt, hc]
    · by_cases hr : c.queue.length < c.cap
      · simp only [ha, hr, if_true]
        exact ⟨.setChan hc fun _ => Bool.of_not_eq_false ha, Or.inl ⟨rfl, rfl⟩⟩
      · simp only [ha, hr, if_false]
        exact ⟨Frame.rfl' _, Or.inr (Or.inr ⟨rfl, rfl⟩)⟩

/-- `Q` sees the sends still in flight as one list: `is`, those yet to poll, then `w`, those found suspended. -/
theorem pollSends_induct (m : Msg) {Q : PSet → List Nat → Bool → Prop}
    (sent : ∀ {ps ps' i is e}, Q ps (i :: is) e → Frame ps ps' → ps'.log = ps.log ++ [.proto i m] → Q ps' is e)
    (closed : ∀ {ps i is e}, Q ps (i :: is) e → ¬ aliveAt ps i → Q ps is true)
    (full : ∀ {ps i is e}, Q ps (i :: is) e → Q ps (is ++ [i]) e) :
    ∀ (is : List Nat) (ps : PSet) (w : List Nat) (e : Bool), Q ps (is ++ w) e →
      Q (pollSends m is ps w e).1 (pollSends m is ps w e).2.1 (pollSends m is ps w e).2.2 := by
  intro is
  induction is with
  | nil => intro ps w e h; exact h
  | cons i is ih =>
    intro ps w e h
    have hs := sendTo_spec ps i m
    rcases hr : sendTo ps i m with ⟨p, ps1⟩
    rw [hr] at hs
    obtain ⟨hfr, hcase⟩ := hs
    simp only [pollSends, hr]
    rcases hcase with ⟨hp, hlog⟩ | ⟨hp, hal, heq⟩ | ⟨hp, heq⟩ <;> simp only at hp <;> subst hp
    · exact ih ps1 w e (sent h hfr hlog)
    · subst heq; exact ih ps1 w true (closed h hal)
    · subst heq; exact ih ps1 (w ++ [i]) e (by rw [← List.append_assoc]; exact full h)

theorem pollSends_frame (m : Msg) (is : List Nat) (ps : PSet) (w : List Nat) (e : Bool) :
    Frame ps (pollSends m is ps w e).1 :=
  pollSends_induct m (Q := fun ps' _ _ => Frame ps ps') (fun h hf _ => h.trans hf) (fun h _ => h) (fun h => h)
    is ps w e (.rfl' ps)

/-- In the log every closed message to a protocol precedes the manager's. -/
def Ordered (log : List Ev) : Prop :=
  ∀ j, Ev.mgr ∈ log → Ev.proto j .closed ∈ log → log.idxOf (Ev.proto j .closed) < log.idxOf Ev.mgr

theorem ordered_snoc {log : List Ev} {x : Ev} (hO : Ordered log) (hx : ∀ j, x = .proto j .closed → Ev.mgr ∉ log) :
    Ordered (log ++ [x]) := by
  intro j hm hp
  by_cases hml : Ev.mgr ∈ log
  · have hp' : Ev.proto j .closed ∈ log :=
      (List.mem_append.mp hp).resolve_right fun h => hx j (List.mem_singleton.mp h).symm hml
    rw [List.idxOf_append, List.idxOf_append, if_pos hml, if_pos hp']
    exact hO j hml hp'
  · -- `x` is the manager's message, every closed message to a protocol is in `log`
    cases List.mem_singleton.mp ((List.mem_append.mp hm).resolve_left hml)
    have hp' : Ev.proto j .closed ∈ log := (List.mem_append.mp hp).resolve_right (by simp)
    rw [List.idxOf_append, List.idxOf_append, if_pos hp', if_neg hml]
    have := List.idxOf_lt_length_iff.mpr hp'
    omega

/-- `order` is a permutation of the protocol indices. -/
def WF (ps : PSet) : Prop := ps.order.Nodup ∧ ∀ i, i ∈ ps.order ↔ i < ps.chans.length

/-- Before the close report nobody has been told `closed`; once it has run, every live protocol and the live manager
have been told exactly once. -/
def Rest (ps : PSet) : Prop :=
  (ps.closedRuns = 0 → (∀ j, cnt ps j .closed = 0) ∧ mgrCnt ps = 0) ∧
  (ps.closedRuns = 1 → (∀ j, aliveAt ps j → cnt ps j .closed = 1) ∧ (ps.mgr.alive = true → mgrCnt ps = 1))

def CallInv (ps : PSet) : Prop :=
  match ps.call with
  | .protoSends k w _ =>
    w.Nodup ∧
    (k = .closed → ps.closedRuns = 1 ∧ (∀ j ∈ w, cnt ps j .closed = 0) ∧
      (∀ j, aliveAt ps j → j ∉ w → cnt ps j .closed = 1) ∧ mgrCnt ps = 0) ∧
    (k ≠ .closed → Rest ps)
  | .mgrSend _ => ps.closedRuns = 1 ∧ (∀ j, aliveAt ps j → cnt ps j .closed = 1) ∧ mgrCnt ps = 0
  | _ => Rest ps

structure Inv (ps : PSet) : Prop where
  le : ∀ j, cnt ps j .closed ≤ 1
  mle : mgrCnt ps ≤ 1
  runs : ps.closedRuns ≤ 1
  rep : ps.closedReported = true ↔ ps.closedRuns = 1
  call : CallInv ps
  ord : Ordered ps.log

theorem Inv.withCall {ps : PSet} (h : Inv ps) {c : Call} (hc : CallInv { ps with call := c }) :
    Inv { ps with call := c } :=
  ⟨h.le, h.mle, h.runs, h.rep, hc, h.ord⟩

theorem progressMgr_inv (ps : PSet) (e : Bool) (h : Inv ps) (hruns : ps.closedRuns = 1)
    (hall : ∀ j, aliveAt ps j → cnt ps j .closed = 1) (hm0 : mgrCnt ps = 0) :
    Inv (progressMgr ps e) ∧ Frame ps (progressMgr ps e) := by
  have hm0' : List.count Ev.mgr ps.log = 0 := hm0
  -- the manager's channel is closed or full: nothing is enqueued
  have same : ∀ c : Call, CallInv { ps with call := c } →
      Inv { ps with call := c } ∧ Frame ps { ps with call := c } := fun c hc =>
    ⟨h.withCall hc, ⟨id, rfl, rfl, fun _ => id, rfl, rfl⟩⟩
  unfold progressMgr trySend
  cases hal : ps.mgr.alive with
  | false =>
    simp only [if_true]
    exact same _ ⟨fun h => by simp [hruns] at h, fun _ => ⟨hall, fun h => by simp [hal] at h⟩⟩
  | true =>
    by_cases hr : ps.mgr.queue.length < ps.mgr.cap
    · simp only [hr, if_true, Bool.true_eq_false, if_false]
      refine ⟨⟨?_, ?_, h.runs, h.rep, ?_, ordered_snoc h.ord nofun⟩,
        ⟨fun _ => hal, rfl, rfl, fun _ => id, rfl, rfl⟩⟩
      · intro j; simpa [cnt, List.count_append] using h.le j
      · show List.count Ev.mgr (ps.log ++ [Ev.mgr]) ≤ 1
        simp [List.count_append, hm0']
      · simp only [CallInv, Rest]
        refine ⟨fun h => by simp [hruns] at h, fun _ => ⟨?_, fun _ => ?_⟩⟩
        · intro j hj
          have := hall j hj
          simpa [cnt, List.count_append, aliveAt] using this
        · show List.count Ev.mgr (ps.log ++ [Ev.mgr]) = 1
          simp [List.count_append, hm0']
    · simp only [hr, Bool.true_eq_false, if_false]
      exact same _ ⟨hruns, hall, hm0⟩

theorem Kind.msg_ne_closed {k : Kind} (h : k ≠ .closed) : k.msg ≠ .closed := by
  cases k with
  | established => simp [Kind.msg]
  | closed => exact absurd rfl h
  | substream i o => cases o <;> simp [Kind.msg]

theorem Rest.mono {ps ps' : PSet} (h : Rest ps) (hruns : ps'.closedRuns = ps.closedRuns)
    (hc : ∀ j, cnt ps' j .closed = cnt ps j .closed) (hm : mgrCnt ps' = mgrCnt ps)
    (hal : ∀ j, aliveAt ps' j → aliveAt ps j) (hma : ps'.mgr.alive = true → ps.mgr.alive = true) : Rest ps' := by
  refine ⟨fun h0 => ?_, fun h1 => ?_⟩
  · have := h.1 (hruns ▸ h0)
    exact ⟨fun j => (hc j).trans (this.1 j), hm.trans this.2⟩
  · have := h.2 (hruns ▸ h1)
    exact ⟨fun j hj => (hc j).trans (this.1 j (hal j hj)), fun ha => hm.trans (this.2 (hma ha))⟩

/-- Shape of the call after `progress`. -/
def Follows (c c' : Call) : Prop :=
  match c with
  | .protoSends k _ _ =>
    (∃ w e, c' = .protoSends k w e) ∨ (k = .closed ∧ ∃ e, c' = .mgrSend e) ∨
      (∃ ok, c' = .result k ok ∧ (k = .established → ok = true))
  | .mgrSend _ => (∃ e, c' = .mgrSend e) ∨ (∃ ok, c' = .result .closed ok)
  | c => c' = c

theorem progressMgr_follows (ps : PSet) (e : Bool) :
    (∃ e', (progressMgr ps e).call = .mgrSend e') ∨ (∃ ok, (progressMgr ps e).call = .result .closed ok) := by
  unfold progressMgr
  rcases trySend ps.mgr .closed with ⟨p, c⟩
  cases p
  · exact Or.inr ⟨_, rfl⟩
  · exact Or.inr ⟨_, rfl⟩
  · exact Or.inl ⟨_, rfl⟩

theorem Inv.fewerSends {ps : PSet} {k : Kind} {w w' : List Nat} {e : Bool}
    (h : Inv { ps with call := .protoSends k w e }) (e' : Bool) (hnd : w'.Nodup) (hsub : ∀ j ∈ w', j ∈ w)
    (hgone : ∀ j ∈ w, j ∉ w' → ¬ aliveAt ps j) : Inv { ps with call := .protoSends k w' e' } := by
  obtain ⟨_, hk1, hk2⟩ := h.call
  refine h.withCall ⟨hnd, fun hk => ?_, hk2⟩
  obtain ⟨hruns, h0, h1, hm0⟩ := hk1 hk
  exact ⟨hruns, fun j hj => h0 j (hsub j hj), fun j hj hn => h1 j hj (fun hm => hgone j hm hn hj), hm0⟩

theorem Inv.sent {ps ps' : PSet} {k : Kind} {i : Nat} {is : List Nat} {e : Bool}
    (h : Inv { ps with call := .protoSends k (i :: is) e }) (hf : Frame ps ps')
    (hlog : ps'.log = ps.log ++ [.proto i k.msg]) : Inv { ps' with call := .protoSends k is e } := by
  obtain ⟨hnd, hk1, hk2⟩ := h.call
  obtain ⟨hi, hnd'⟩ := List.nodup_cons.mp hnd
  have hmg : mgrCnt ps' = mgrCnt ps := by simp [mgrCnt, hlog, List.count_append]
  have hrep : ps'.closedReported = true ↔ ps'.closedRuns = 1 := by rw [hf.rep, hf.runs]; exact h.rep
  by_cases hkc : k = .closed
  · subst hkc
    obtain ⟨hruns, (h0 : ∀ j ∈ i :: is, cnt ps j .closed = 0),
      (h1 : ∀ j, aliveAt ps j → j ∉ i :: is → cnt ps j .closed = 1), hm0⟩ := hk1 rfl
    have hcnt : ∀ j, cnt ps' j .closed = cnt ps j .closed + if i = j then 1 else 0 := fun j => by
      simp [cnt, hlog, List.count_append, List.count_singleton, Kind.msg]
    refine ⟨fun j => ?_, hmg ▸ h.mle, hf.runs ▸ h.runs, hrep,
      ⟨hnd', fun _ => ⟨hf.runs.trans hruns, fun j hj => ?_, fun j hj hn => ?_, hmg.trans hm0⟩, fun hne => absurd rfl hne⟩, ?_⟩
    · show cnt ps' j .closed ≤ 1
      rw [hcnt]
      split
      · subst i; simp [h0 j List.mem_cons_self]
      · exact h.le j
    · show cnt ps' j .closed = 0
      rw [hcnt, if_neg (fun (e : i = j) => hi (e ▸ hj))]
      exact h0 j (List.mem_cons_of_mem _ hj)
    · -- alive and not waited for: told before, or just now
      show cnt ps' j .closed = 1
      rw [hcnt]
      split
      · subst i; rw [h0 j List.mem_cons_self]
      · rename_i hij
        exact h1 j (hf.alive j hj) (fun hm => (List.mem_cons.mp hm).elim (fun e => hij e.symm) hn)
    · show Ordered ps'.log
      rw [hlog]
      exact ordered_snoc h.ord fun _ _ => List.count_eq_zero.mp hm0
  · have hmne := Kind.msg_ne_closed hkc
    have hcnt : ∀ j, cnt ps' j .closed = cnt ps j .closed := fun j => by
      simp [cnt, hlog, List.count_append, hmne]
    refine ⟨fun j => hcnt j ▸ h.le j, hmg ▸ h.mle, hf.runs ▸ h.runs, hrep,
      ⟨hnd', fun hk => absurd hk hkc, fun _ =>
        (hk2 hkc).mono hf.runs hcnt hmg hf.alive hf.mgrAlive⟩, ?_⟩
    show Ordered ps'.log
    rw [hlog]
    exact ordered_snoc h.ord fun _ e => absurd (Ev.proto.inj e).2 hmne

theorem pollSends_inv (k : Kind) (is : List Nat) (ps : PSet) (w : List Nat) (e : Bool)
    (h : Inv { ps with call := .protoSends k (is ++ w) e }) :
    Inv { (pollSends k.msg is ps w e).1 with
          call := .protoSends k (pollSends k.msg is ps w e).2.1 (pollSends k.msg is ps w e).2.2 } :=
  pollSends_induct k.msg (Q := fun ps w e => Inv { ps with call := .protoSends k w e }) Inv.sent
    (fun h hal => h.fewerSends true (List.nodup_cons.mp h.call.1).2 (fun _ => List.mem_cons_of_mem _)
      (fun j hj hn => (List.mem_cons.mp hj).elim (fun e => e ▸ hal) (fun hm => absurd hm hn)))
    (fun {_ i is e} h => h.fewerSends e ((List.perm_append_singleton i is).nodup_iff.mpr h.call.1)
      (fun _ => (List.perm_append_singleton i is).mem_iff.mp)
      (fun j hj hn => absurd ((List.perm_append_singleton i is).mem_iff.mpr hj) hn))
    is ps w e h

theorem progress_inv (ps : PSet) (h : Inv ps) :
    Inv (progress ps) ∧ Frame ps (progress ps) ∧ Follows ps.call (progress ps).call := by
  cases hcall : ps.call with
  | idle => simp [progress, hcall, h, Frame.rfl', Follows]
  | result k ok => simp [progress, hcall, h, Frame.rfl', Follows]
  | mgrSend e =>
    have hc := h.call
    simp only [CallInv, hcall] at hc
    have := progressMgr_inv ps e h hc.1 hc.2.1 hc.2.2
    simp only [progress, hcall]
    exact ⟨this.1, this.2, progressMgr_follows ps e⟩
  | protoSends k w e =>
    have hi := pollSends_inv k w ps [] e (by rw [List.append_nil, ← hcall]; exact h)
    have f1 := pollSends_frame k.msg w ps [] e
    rcases hr : pollSends k.msg w ps [] e with ⟨ps', w', e'⟩
    rw [hr] at hi f1
    simp only [progress, hcall, hr]
    have hfr : ∀ c : Call, Frame ps { ps' with call := c } := fun c =>
      ⟨f1.mgrAlive, f1.order, f1.len, f1.alive, f1.rep, f1.runs⟩
    cases w' with
    | cons a t => exact ⟨hi, hfr _, Or.inl ⟨_, _, rfl⟩⟩
    | nil =>
      obtain ⟨_, hk1, hk2⟩ := hi.call
      have ret : ∀ ok, k ≠ .closed → Inv { ps' with call := .result k ok } := fun ok hk => hi.withCall (hk2 hk)
      cases k with
      | closed =>
        obtain ⟨hruns, _, hall, hm0⟩ := hk1 rfl
        have := progressMgr_inv _ e' hi hruns (fun j hj => hall j hj (by simp)) hm0
        refine ⟨this.1, (hfr _).trans this.2, ?_⟩
        rcases progressMgr_follows ps' e' with ⟨e2, h2⟩ | ⟨ok, h2⟩
        · exact Or.inr (Or.inl ⟨rfl, e2, h2⟩)
        · exact Or.inr (Or.inr ⟨ok, h2, fun hk => by cases hk⟩)
      | established => exact ⟨ret _ (by simp), hfr _, Or.inr (Or.inr ⟨_, rfl, fun _ => rfl⟩)⟩
      | substream i o => exact ⟨ret _ (by simp), hfr _, Or.inr (Or.inr ⟨_, rfl, fun hk => by cases hk⟩)⟩

/-- What the environment does before the call in flight is polled again: queues change, receivers go away. -/
structure EnvMove (ps ps' : PSet) : Prop extends Frame ps ps' where
  log : ps'.log = ps.log
  call : ps'.call = ps.call

theorem EnvMove.rfl' (ps : PSet) : EnvMove ps ps := ⟨.rfl' ps, rfl, rfl⟩

theorem EnvMove.setChan {ps : PSet} {i : Nat} {c c' : Chan} (hc : ps.chans[i]? = some c)
    (hcc : c'.alive = true → c.alive = true) : EnvMove ps { ps with chans := ps.chans.set i c' } :=
  ⟨.setChan hc hcc, rfl, rfl⟩

theorem aliveAt_setChan {ps : PSet} {i j : Nat} {c c' : Chan} (hc : ps.chans[i]? = some c)
    (hcc : i = j → c.alive = true → c'.alive = true) (h : aliveAt ps j) :
    aliveAt { ps with chans := ps.chans.set i c' } j := by
  obtain ⟨d, hd, hda⟩ := h
  by_cases hij : i = j
  · subst hij
    cases hc.symm.trans hd
    exact ⟨c', by simp [(List.getElem?_eq_some_iff.mp hc).1], hcc rfl hda⟩
  · exact ⟨d, by simp [hij, hd], hda⟩

theorem EnvMove.setMgr {ps : PSet} {c' : Chan} (hcc : c'.alive = true → ps.mgr.alive = true) :
    EnvMove ps { ps with mgr := c' } := ⟨⟨hcc, rfl, rfl, fun _ => id, rfl, rfl⟩, rfl, rfl⟩

theorem Chan.fillUp_alive (c : Chan) : c.fillUp.alive = c.alive := by
  unfold Chan.fillUp; split <;> rfl

/-- The call is polled again only after a move that may unblock a send. -/
theorem envStep_cases (ps : PSet) (o : EnvOp) :
    ∃ ps1, EnvMove ps ps1 ∧ (∀ j, o ≠ .drop j → aliveAt ps j → aliveAt ps1 j) ∧
      (envStep ps o = progress ps1 ∨ envStep ps o = ps1) := by
  have same : ∃ ps1, EnvMove ps ps1 ∧ (∀ j, o ≠ .drop j → aliveAt ps j → aliveAt ps1 j) ∧
      (ps = progress ps1 ∨ ps = ps1) := ⟨ps, .rfl' ps, fun _ _ h => h, Or.inr rfl⟩
  cases o with
  | recv i =>
    simp only [envStep]
    cases hc : ps.chans[i]? with
    | none => exact same
    | some c => exact ⟨_, .setChan hc (c' := c.pop) id, fun _ _ => aliveAt_setChan hc (fun _ h => h), Or.inl rfl⟩
  | drop i =>
    simp only [envStep]
    cases hc : ps.chans[i]? with
    | none => exact same
    | some c =>
      exact ⟨_, .setChan hc (c' := c.dropRx) (fun h => by cases h),
        fun j hne => aliveAt_setChan hc (fun e => absurd (e ▸ rfl) hne), Or.inl rfl⟩
  | fill i =>
    simp only [envStep]
    split
    · exact same
    · cases hc : ps.chans[i]? with
      | none => exact same
      | some c =>
        exact ⟨_, .setChan hc (fun h => c.fillUp_alive ▸ h),
          fun _ _ => aliveAt_setChan hc (fun _ h => c.fillUp_alive.symm ▸ h), Or.inr rfl⟩
  | recvMgr => exact ⟨_, .setMgr (c' := ps.mgr.pop) id, fun _ _ h => h, Or.inl rfl⟩
  | dropMgr => exact ⟨_, .setMgr (c' := ps.mgr.dropRx) (fun h => by cases h), fun _ _ h => h, Or.inl rfl⟩
  | fillMgr =>
    simp only [envStep]
    split
    · exact same
    · exact ⟨_, .setMgr (fun h => ps.mgr.fillUp_alive ▸ h), fun _ _ h => h, Or.inr rfl⟩

theorem Inv.weaken {ps ps' : PSet} (h : Inv ps) (hm : EnvMove ps ps') : Inv ps' := by
  have hc : ∀ j m, cnt ps' j m = cnt ps j m := fun j m => by simp [cnt, hm.log]
  have hmc : mgrCnt ps' = mgrCnt ps := by simp [mgrCnt, hm.log]
  have hrest : Rest ps → Rest ps' := fun hr => hr.mono hm.runs (fun j => hc j _) hmc hm.alive hm.mgrAlive
  refine ⟨fun j => (hc j _) ▸ h.le j, hmc ▸ h.mle, hm.runs ▸ h.runs, by rw [hm.rep, hm.runs]; exact h.rep, ?_,
    hm.log ▸ h.ord⟩
  have hci := h.call
  unfold CallInv at hci ⊢
  rw [hm.call]
  cases hcl : ps.call with
  | idle => rw [hcl] at hci; exact hrest hci
  | result k ok => rw [hcl] at hci; exact hrest hci
  | mgrSend e =>
    rw [hcl] at hci
    exact ⟨hm.runs.trans hci.1, fun j hj => (hc j _).trans (hci.2.1 j (hm.alive j hj)), hmc.trans hci.2.2⟩
  | protoSends k w e =>
    rw [hcl] at hci
    refine ⟨hci.1, fun hk => ?_, fun hk => hrest (hci.2.2 hk)⟩
    obtain ⟨a, b, c, d⟩ := hci.2.1 hk
    exact ⟨hm.runs.trans a, fun j hj => (hc j _).trans (b j hj),
      fun j hj hn => (hc j _).trans (c j (hm.alive j hj) hn), hmc.trans d⟩

theorem WF.of_frame {ps ps' : PSet} (h : WF ps) (hf : Frame ps ps') : WF ps' := by
  unfold WF at *
  rw [hf.order, hf.len]; exact h

def quiet (c : Call) : Prop := ∀ k w e, c ≠ .protoSends k w e ∧ c ≠ .mgrSend e

theorem quiet_result (k : Kind) (ok : Bool) : quiet (.result k ok) := by
  intro k w e; constructor <;> intro h <;> cases h

theorem quiet_idle : quiet .idle := by
  intro k w e; constructor <;> intro h <;> cases h

theorem CallInv.rest_of_quiet {ps : PSet} (h : CallInv ps) (hq : quiet ps.call) : Rest ps := by
  unfold CallInv at h
  cases hc : ps.call with
  | idle => rw [hc] at h; exact h
  | result k ok => rw [hc] at h; exact h
  | mgrSend e => exact absurd hc (hq .closed [] e).2
  | protoSends k w e => exact absurd hc (hq k w e).1

/-- `c` is a call of kind `k`, in flight or returned. -/
def CK (k : Kind) (c : Call) : Prop :=
  (∃ w e, c = .protoSends k w e) ∨ (k = .closed ∧ ∃ e, c = .mgrSend e) ∨
    (∃ ok, c = .result k ok ∧ (k = .established → ok = true))

theorem CK.follows {k : Kind} {c c' : Call} (h : CK k c) (hf : Follows c c') : CK k c' := by
  rcases h with ⟨w, e, rfl⟩ | ⟨hk, e, rfl⟩ | ⟨ok, rfl, hok⟩
  · exact hf
  · subst hk
    rcases hf with ⟨e', h'⟩ | ⟨ok, h'⟩
    · exact Or.inr (Or.inl ⟨rfl, e', h'⟩)
    · exact Or.inr (Or.inr ⟨ok, h', fun hk => by cases hk⟩)
  · simp only [Follows] at hf; subst hf; exact Or.inr (Or.inr ⟨ok, rfl, hok⟩)

theorem Follows.refl' (c : Call) : Follows c c := by
  cases c with
  | idle => rfl
  | result k ok => rfl
  | mgrSend e => exact Or.inl ⟨e, rfl⟩
  | protoSends k w e => exact Or.inl ⟨w, e, rfl⟩

theorem quiet.follows {c c' : Call} (h : quiet c) (hf : Follows c c') : c' = c := by
  cases c with
  | idle => exact hf
  | result k ok => exact hf
  | mgrSend e => exact absurd rfl (h .closed [] e).2
  | protoSends k w e => exact absurd rfl (h k w e).1

theorem startCall_spec (ps : PSet) (k : Kind) (h : Inv ps) (hwf : WF ps) (hq : quiet ps.call) :
    Inv (startCall ps k) ∧ WF (startCall ps k) ∧ CK k (startCall ps k).call ∧
    (k = .closed → (startCall ps k).closedRuns = 1) ∧
    (k ≠ .closed → (startCall ps k).closedRuns = ps.closedRuns) := by
  have hrest := h.call.rest_of_quiet hq
  have ret : ∀ ok, (k = .established → ok = true) →
      Inv { ps with call := .result k ok } ∧ WF { ps with call := .result k ok } ∧ CK k (Call.result k ok) :=
    fun ok hok => ⟨h.withCall hrest, hwf, Or.inr (Or.inr ⟨ok, rfl, hok⟩)⟩
  have go : ∀ (ps0 : PSet) (w : List Nat), Inv ps0 → WF ps0 → ps0.call = .protoSends k w false →
      Inv (progress ps0) ∧ WF (progress ps0) ∧ CK k (progress ps0).call ∧
      (progress ps0).closedRuns = ps0.closedRuns := fun ps0 w h0 hw hc => by
    obtain ⟨a, f, c⟩ := progress_inv ps0 h0
    rw [hc] at c
    exact ⟨a, hw.of_frame f, c, f.runs⟩
  cases k with
  | closed =>
    simp only [startCall]
    by_cases hr : ps.closedReported = true
    · rw [if_pos hr]
      obtain ⟨a, b, c⟩ := ret true (fun hk => by cases hk)
      exact ⟨a, b, c, fun _ => h.rep.mp hr, fun hne => absurd rfl hne⟩
    · rw [if_neg hr]
      have hr0 : ps.closedRuns = 0 := by
        have := h.runs
        have h1 : ps.closedRuns ≠ 1 := fun h1 => hr (h.rep.mpr h1)
        omega
      have hz := hrest.1 hr0
      obtain ⟨a, b, c, d⟩ := go { ps with closedReported := true, closedRuns := ps.closedRuns + 1,
                                          call := .protoSends .closed ps.order false } _ (by
        refine ⟨h.le, h.mle, by show ps.closedRuns + 1 ≤ 1; omega,
          by show true = true ↔ ps.closedRuns + 1 = 1; simp [hr0], ?_, h.ord⟩
        refine ⟨hwf.1, fun _ => ⟨by simp [hr0], fun j _ => hz.1 j, ?_, hz.2⟩, fun hne => absurd rfl hne⟩
        intro j ⟨c, hc, _⟩ hn
        exact absurd ((hwf.2 j).mpr (List.getElem?_eq_some_iff.mp hc).1) hn) hwf rfl
      refine ⟨a, b, c, fun _ => d.trans ?_, fun hne => absurd rfl hne⟩
      show ps.closedRuns + 1 = 1; omega
  | established =>
    obtain ⟨a, b, c, d⟩ := go { ps with active := false, call := .protoSends .established ps.order false } _
      ⟨h.le, h.mle, h.runs, h.rep, ⟨hwf.1, (fun hk => by cases hk), fun _ => hrest⟩, h.ord⟩ hwf rfl
    exact ⟨a, b, c, (fun hk => by cases hk), fun _ => d⟩
  | substream i o =>
    simp only [startCall]
    by_cases hi : i < ps.chans.length
    · rw [if_pos hi]
      obtain ⟨a, b, c, d⟩ := go { ps with call := .protoSends (.substream i o) [i] false } _
        ⟨h.le, h.mle, h.runs, h.rep, ⟨by simp, (fun hk => by cases hk), fun _ => hrest⟩, h.ord⟩ hwf rfl
      exact ⟨a, b, c, (fun hk => by cases hk), fun _ => d⟩
    · rw [if_neg hi]
      obtain ⟨a, b, c⟩ := ret false (fun hk => by cases hk)
      exact ⟨a, b, c, (fun hk => by cases hk), fun _ => rfl⟩

/-- What an environment step guarantees. -/
structure EnvRel (ps ps' : PSet) : Prop where
  inv : Inv ps'
  wf : WF ps'
  alive : ∀ j, aliveAt ps' j → aliveAt ps j
  mgrAlive : ps'.mgr.alive = true → ps.mgr.alive = true
  follows : Follows ps.call ps'.call
  runs : ps'.closedRuns = ps.closedRuns

theorem envStep_rel (ps : PSet) (o : EnvOp) (h : Inv ps) (hwf : WF ps) : EnvRel ps (envStep ps o) := by
  obtain ⟨ps1, hm, _, e | e⟩ := envStep_cases ps o <;> rw [e]
  · obtain ⟨a, f, c⟩ := progress_inv ps1 (h.weaken hm)
    have f := hm.toFrame.trans f
    exact ⟨a, hwf.of_frame f, f.alive, f.mgrAlive, hm.call ▸ c, f.runs⟩
  · exact ⟨h.weaken hm, hwf.of_frame hm.toFrame, hm.alive, hm.mgrAlive, hm.call ▸ Follows.refl' _, hm.runs⟩

def ContOK : Option Cont → Option Exit → PSet → Prop
  | none, none, ps => ps.call = .idle ∧ ps.closedRuns = 0
  | none, some _, ps => quiet ps.call ∧ ps.closedRuns = 1
  | some .substreamReport, none, ps => (∃ i o, CK (.substream i o) ps.call) ∧ ps.closedRuns = 0
  | some .closeThenExit, none, ps => CK .closed ps.call ∧ ps.closedRuns = 1
  | some .errorExitReport, none, ps => CK .closed ps.call ∧ ps.closedRuns = 1
  | some _, some _, _ => False

def PInv (s : Loop) : Prop := Inv s.ps ∧ WF s.ps ∧ ContOK s.cont s.exited s.ps

theorem ContOK.exited_of_cont {c : Cont} {x : Option Exit} {ps : PSet} (h : ContOK (some c) x ps) : x = none := by
  cases x with
  | none => rfl
  | some y => cases c <;> exact h.elim

theorem errorExit_pinv (s : Loop) (hi : Inv s.ps) (hwf : WF s.ps) (hq : quiet s.ps.call)
    (hex : s.exited = none) : PInv (errorExit s) := by
  obtain ⟨h1, hwf', hck, hruns, _⟩ := startCall_spec s.ps .closed hi hwf hq
  unfold errorExit
  cases hc : (startCall s.ps .closed).call with
  | result k ok =>
    simp only [hc]
    exact ⟨h1, hwf', hc ▸ quiet_result k ok, hruns rfl⟩
  | idle | mgrSend _ | protoSends _ _ _ =>
    simp only [hc]
    refine ⟨h1, hwf', ?_⟩
    show ContOK (some .errorExitReport) s.exited _
    rw [hex]; exact ⟨hck, hruns rfl⟩

theorem Inv.setIdle {ps : PSet} (h : Inv ps) (hq : quiet ps.call) : Inv { ps with call := .idle } :=
  h.withCall (h.call.rest_of_quiet hq)

theorem settle_pinv (s : Loop) (h : PInv s) : PInv (settle s) := by
  obtain ⟨hi, hwf, hc⟩ := h
  unfold settle
  split
  · rename_i k ok hcont hcall
    rw [hcont] at hc
    have hex := hc.exited_of_cont
    rw [hex] at hc
    have hq : quiet s.ps.call := hcall ▸ quiet_result k ok
    cases ok with
    | true => exact ⟨hi, hwf, hq, hc.2⟩
    | false => exact errorExit_pinv _ hi hwf hq hex
  · rename_i k ok hcont hcall
    rw [hcont] at hc
    have hex := hc.exited_of_cont
    rw [hex] at hc
    have hq : quiet s.ps.call := hcall ▸ quiet_result k ok
    cases ok with
    | true =>
      refine ⟨hi.setIdle hq, hwf, ?_⟩
      show ContOK none s.exited _
      rw [hex]; exact ⟨rfl, hc.2⟩
    | false => exact errorExit_pinv _ hi hwf hq hex
  · rename_i k ok hcont hcall
    rw [hcont] at hc
    have hex := hc.exited_of_cont
    rw [hex] at hc
    exact ⟨hi, hwf, hcall ▸ quiet_result k ok, hc.2⟩
  · exact ⟨hi, hwf, hc⟩

theorem startThenSettle_pinv (s : Loop) (k : Kind) (c : Cont) (hi : Inv s.ps) (hwf : WF s.ps)
    (hidle : s.ps.call = .idle) (hr0 : s.ps.closedRuns = 0) (hex : s.exited = none)
    (hkc : (k = .closed ∧ (c = .closeThenExit ∨ c = .errorExitReport)) ∨
           (∃ i o, k = .substream i o ∧ c = .substreamReport)) :
    PInv (settle { s with ps := startCall s.ps k, cont := some c }) := by
  apply settle_pinv
  obtain ⟨h1, hwf', hck, hruns, hruns'⟩ := startCall_spec s.ps k hi hwf (hidle ▸ quiet_idle)
  refine ⟨h1, hwf', ?_⟩
  show ContOK (some c) s.exited (startCall s.ps k)
  rw [hex]
  rcases hkc with ⟨rfl, rfl | rfl⟩ | ⟨i, o, rfl, rfl⟩
  · exact ⟨hck, hruns rfl⟩
  · exact ⟨hck, hruns rfl⟩
  · exact ⟨⟨i, o, hck⟩, (hruns' (by simp)).trans hr0⟩

theorem loopStep_pinv (s : Loop) (e : LoopEv) (h : PInv s) : PInv (loopStep s e) := by
  unfold loopStep
  by_cases hg : (s.exited.isSome || s.cont.isSome) = true
  · simp only [hg, if_true]; exact h
  · simp only [hg, Bool.false_eq_true, if_false]
    have hex : s.exited = none := by
      cases hx : s.exited <;> simp [hx] at hg ⊢
    have hco : s.cont = none := by
      cases hx : s.cont <;> simp [hx, hex] at hg ⊢
    obtain ⟨hi, hwf, hc⟩ := h
    rw [hco, hex] at hc
    simp only [ContOK] at hc
    have hkeep : ∀ n, PInv { s with pending := n } := fun n =>
      ⟨hi, hwf, by show ContOK s.cont s.exited s.ps; rw [hco, hex]; exact hc⟩
    have hclose : PInv (closeAndExit s) :=
      startThenSettle_pinv s .closed .closeThenExit hi hwf hc.1 hc.2 hex (Or.inl ⟨rfl, Or.inl rfl⟩)
    cases e with
    | yamuxStream permit =>
      cases permit with
      | true => exact hkeep _
      | false => exact errorExit_pinv s hi hwf (hc.1 ▸ quiet_idle) hex
    | yamuxErr => exact hclose
    | yamuxEof => exact hclose
    | cmdOpen => exact hkeep _
    | cmdForceClose => exact hclose
    | cmdNone => exact hclose
    | negotiated r =>
      simp only
      by_cases hp : s.pending = 0
      · simp only [hp, if_true]; exact ⟨hi, hwf, by rw [hco, hex]; exact hc⟩
      · simp only [hp, if_false]
        cases r with
        | ok p =>
          exact startThenSettle_pinv { s with pending := s.pending - 1 } (.substream p true) .substreamReport
            hi hwf hc.1 hc.2 hex (Or.inr ⟨p, true, rfl, rfl⟩)
        | err info =>
          cases info with
          | none => exact hkeep _
          | some p =>
            exact startThenSettle_pinv { s with pending := s.pending - 1 } (.substream p false) .substreamReport
              hi hwf hc.1 hc.2 hex (Or.inr ⟨p, false, rfl, rfl⟩)

theorem ContOK.env {c : Option Cont} {x : Option Exit} {ps ps' : PSet} (h : ContOK c x ps)
    (hr : EnvRel ps ps') : ContOK c x ps' := by
  cases c with
  | none =>
    cases x with
    | none =>
      have := hr.follows; rw [h.1] at this
      exact ⟨this, hr.runs.trans h.2⟩
    | some y => exact ⟨h.1.follows hr.follows ▸ h.1, hr.runs.trans h.2⟩
  | some c =>
    cases h.exited_of_cont
    cases c with
    | closeThenExit | errorExitReport => exact ⟨h.1.follows hr.follows, hr.runs.trans h.2⟩
    | substreamReport =>
      obtain ⟨⟨i, o, hk⟩, h0⟩ := h
      exact ⟨⟨i, o, hk.follows hr.follows⟩, hr.runs.trans h0⟩

theorem step_pinv (s : Loop) (l : Label) (h : PInv s) : PInv (step s l) := by
  cases l with
  | loop e => exact loopStep_pinv s e h
  | env o =>
    simp only [step]
    apply settle_pinv
    have hr := envStep_rel s.ps o h.1 h.2.1
    exact ⟨hr.inv, hr.wf, h.2.2.env hr⟩

theorem run_pinv (ls : List Label) (s : Loop) (h : PInv s) : PInv (run s ls) :=
  foldl_inv ls s (fun s l _ => step_pinv s l) h

/-- The body of `exit_reports_closed_once`. -/
theorem PInv.reports {s : Loop} (hp : PInv s) :
    (∀ j, cnt s.ps j .closed ≤ 1) ∧ mgrCnt s.ps ≤ 1 ∧
    (s.exited.isSome →
      s.ps.closedRuns = 1 ∧ (∀ j, aliveAt s.ps j → cnt s.ps j .closed = 1) ∧
      (s.ps.mgr.alive = true → mgrCnt s.ps = 1)) := by
  obtain ⟨hi, _, hco⟩ := hp
  refine ⟨hi.le, hi.mle, fun hex => ?_⟩
  cases hxe : s.exited with
  | none => rw [hxe] at hex; cases hex
  | some x =>
    rw [hxe] at hco
    cases hcc : s.cont with
    | some c => rw [hcc] at hco; exact absurd hco.exited_of_cont (by simp)
    | none =>
      rw [hcc] at hco
      have hr := (hi.call.rest_of_quiet hco.1).2 hco.2
      exact ⟨hco.2, hr.1, hr.2⟩

/-- A connection that has not been reported closed yet (e.g. right after `accept`). -/
structure Fresh (ps : PSet) : Prop where
  wf : WF ps
  idle : ps.call = .idle
  rep : ps.closedReported = false
  runs : ps.closedRuns = 0
  log : ∀ x ∈ ps.log, x ≠ Ev.mgr ∧ ∀ j, x ≠ Ev.proto j .closed

theorem Fresh.inv {ps : PSet} (h : Fresh ps) : Inv ps := by
  have hc : ∀ j, cnt ps j .closed = 0 := fun j =>
    List.count_eq_zero.mpr (fun hm => (h.log _ hm).2 j rfl)
  have hm : mgrCnt ps = 0 := List.count_eq_zero.mpr (fun hm => (h.log _ hm).1 rfl)
  refine ⟨fun j => by rw [hc j]; omega, by rw [hm]; omega, by rw [h.runs]; omega,
    by rw [h.rep, h.runs]; simp, ?_, ?_⟩
  · unfold CallInv; rw [h.idle]
    exact ⟨fun _ => ⟨hc, hm⟩, fun h1 => by rw [h.runs] at h1; cases h1⟩
  · intro j hmg; exact absurd rfl (h.log _ hmg).1

theorem fresh_replicate (n : Nat) (c mgr : Chan) (active : Bool) :
    Fresh { chans := List.replicate n c, order := List.range n, mgr := mgr, active := active } :=
  ⟨⟨List.nodup_range, fun i => by simp⟩, rfl, rfl, rfl, nofun⟩

theorem Fresh.pinv {s : Loop} (h : Fresh s.ps) (hc : s.cont = none) (hx : s.exited = none) : PInv s :=
  ⟨h.inv, h.wf, by rw [hc, hx]; exact ⟨h.idle, h.runs⟩⟩

end Litep2pVerif.Conn
