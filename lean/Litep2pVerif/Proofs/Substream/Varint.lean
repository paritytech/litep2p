import Litep2pVerif.Proofs.Substream.Codec
import Litep2pVerif.Model.Substream.TokioCodec
import Litep2pVerif.Proofs.Id.Groups
/-! The `unsigned-varint` loops of the substream models write and read the one encoding `Groups.enc`; `encode::usize` followed
by `read_payload_size` is the identity on lengths below 2^64 (`readPayloadSize_encode`). -/
namespace Litep2pVerif.Substream

theorem encodeLoop_eq (fuel n : Nat) (h : (Groups.enc n).length ≤ fuel) : encodeLoop fuel n = Groups.enc n :=
  (Groups.enc_loop (byte := id) (fun _ _ => rfl) fuel n h).trans (List.map_id _)

theorem encodeUsize_eq {n : Nat} (h : n < 2 ^ 64) : encodeUsize n = Groups.enc n :=
  encodeLoop_eq 10 n (Groups.enc_length_le (Nat.lt_of_lt_of_le h (by decide)) (by decide))

/-- `read_payload_size` runs the same `decode!` loop as `decode::usize` and drops the remaining slice. -/
theorem decodeLoop_eq (bs : Bytes) : ∀ i n, decodeLoop bs i n = (uviRead bs i n).map (·.1) := by
  induction bs with
  | nil => intro i n; rfl
  | cons b bs ih =>
    intro i n
    rw [decodeLoop, uviRead]
    split
    · split <;> rfl
    · split
      · rfl
      · exact ih _ _

theorem uviRead_encode (n : Nat) (hn : n < 2 ^ 64) (rest : Bytes) :
    uviRead (encodeUsize n ++ rest) 0 0 = .ok (n, rest) := by
  rw [encodeUsize_eq hn]
  simpa using Groups.decode_enc (byte := fun b => b) (D := fun i acc bs => uviRead bs i acc) (ret := fun v r => .ok (v, r))
    (bits := 64) (maxBytes := 9) (by decide)
    (fun i acc b rest _ _ hb hz hfit => by
      rw [uviRead, if_pos (show isLast b = true from decide_eq_true hb), if_neg (fun h => hz h.2 h.1), Nat.mod_eq_of_lt hb,
        Nat.mod_eq_of_lt hfit])
    (fun i acc g rest hi _ hg hfit => by
      rw [uviRead, if_neg (by simp [isLast]), if_neg (show i ≠ U64_MAX_BYTES from Nat.ne_of_lt hi), Nat.add_mod_right,
        Nat.mod_eq_of_lt hg, Nat.mod_eq_of_lt hfit])
    hn rest

theorem encodeUsize_shape (n : Nat) (hn : n < 2 ^ 64) :
    ∃ pre last, encodeUsize n = pre ++ [last] ∧ (∀ b ∈ pre, isLast b = false) ∧ isLast last = true ∧ pre.length ≤ 9 := by
  obtain ⟨pre, last, he, hpre, hlast⟩ := Groups.enc_shape n
  have hl := Groups.enc_length_le (Nat.lt_of_lt_of_le hn (by decide : 2 ^ 64 ≤ 128 ^ 10)) (by decide)
  rw [he, List.length_append] at hl
  exact ⟨pre, last, by rw [encodeUsize_eq hn, he], fun b hb => decide_eq_false (Nat.not_lt.2 (hpre b hb).1),
    decide_eq_true hlast, Nat.le_of_succ_le_succ hl⟩

theorem readPayloadSize_encode {L : Nat} (h : L < 2 ^ 64) :
    readPayloadSize (encodeUsize L) = .ok (L, (encodeUsize L).length) := by
  obtain ⟨pre, last, he, hpre, hlast, hlen⟩ := encodeUsize_shape L h
  have hd := uviRead_encode L h []
  rw [List.append_nil, he] at hd
  rw [he, readPayloadSize_snoc pre last hpre (Nat.lt_succ_of_le hlen), hlast, if_pos rfl, decodeLoop_eq, hd,
    List.length_append]
  rfl

end Litep2pVerif.Substream
