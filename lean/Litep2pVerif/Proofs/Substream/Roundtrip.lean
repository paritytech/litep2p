import Litep2pVerif.Proofs.Substream.Varint
/-! Round trip of the reader model (C04): `poll_next` under any fragmentation behaves like feeding the
bytes one at a time (`consume`), and `consume` inverts the wire format; a length above the configured maximum and a
prefix of `USIZE_LEN` continuation bytes make it report an error first (`consume_oversize`, `consume_overlong`). -/
namespace Litep2pVerif.Substream

/-- Feed bytes one at a time through the loop body, collecting what `poll_next` would return. -/
def consume (codec : Codec) : RState → Bytes → List Out × RState
  | st, [] => ([], st)
  | st, b :: bs =>
    match (onRead codec st (.ok [b])).2 with
    | some o => (o :: (consume codec (onRead codec st (.ok [b])).1 bs).1, (consume codec (onRead codec st (.ok [b])).1 bs).2)
    | none => consume codec (onRead codec st (.ok [b])).1 bs

def optList : Option Out → List Out
  | some o => [o]
  | none => []

theorem consume_append (codec : Codec) (st : RState) (a b : Bytes) :
    consume codec st (a ++ b) =
      ((consume codec st a).1 ++ (consume codec (consume codec st a).2 b).1,
       (consume codec (consume codec st a).2 b).2) := by
  induction a generalizing st with
  | nil => simp [consume]
  | cons x a ih =>
    simp only [List.cons_append, consume]
    cases h : (onRead codec st (.ok [x])).2 with
    | some o => simp only []; rw [ih]; simp
    | none => simp only []; rw [ih]

theorem consume_single (codec : Codec) (st : RState) (b : Nat) :
    consume codec st [b] = (optList (onRead codec st (.ok [b])).2, (onRead codec st (.ok [b])).1) := by
  simp only [consume]
  cases (onRead codec st (.ok [b])).2 <;> simp [optList]

theorem consume_body (codec : Codec) (T : Nat) (bs : Bytes) (hne : bs ≠ []) :
    ∀ st, bodySize codec st = some T → st.offset + bs.length ≤ T →
      consume codec st bs = (optList (onRead codec st (.ok bs)).2, (onRead codec st (.ok bs)).1) := by
  induction bs with
  | nil => exact absurd rfl hne
  | cons b t ih =>
    intro st hT hle
    cases t with
    | nil => exact consume_single codec st b
    | cons c t =>
      -- the first byte cannot complete the frame: a second one still fits
      rw [List.length_cons, List.length_cons] at hle
      have h1 := onRead_body hT [b] (by simp) (by rw [List.length_singleton]; omega)
      rw [consume, h1, onRead_body_cons hT b (c :: t) (by simp)]
      exact ih (by simp) _ (by cases codec <;> exact hT) (by simp only [List.length_cons, List.length_nil]; omega)

theorem consume_chunk (codec : Codec) (st : RState) (h : RInv codec st) (cap : Nat)
    (hcap : readCap codec st = .ok cap) (bs : Bytes) (hne : bs ≠ []) (hle : bs.length ≤ cap) :
    consume codec st bs = (optList (onRead codec st (.ok bs)).2, (onRead codec st (.ok bs)).1) := by
  rw [(readCap_inv h).1] at hcap
  cases hcap
  cases hT : bodySize codec st with
  | some T =>
    simp only [hT] at hle
    have := List.length_pos_iff.mpr hne
    exact consume_body codec T bs hne st hT (by omega)
  | none =>
    simp only [hT] at hle
    obtain ⟨b, rfl⟩ := List.length_eq_one_iff.1 (Nat.le_antisymm hle (List.length_pos_iff.2 hne))
    exact consume_single _ st b

/-- Only data (non-empty) and `Pending`: the carrier of a healthy connection. -/
def DataOnly (car : Carrier) : Prop := ∀ s ∈ car, s = .pending ∨ ∃ bs, s = .data bs ∧ bs ≠ []

/-- Why `hc` runs through the lemmas below: under `Identity(0)` the inner read is handed an empty slice, answers `Ok(0)` with
data waiting, and `poll_next` takes that for the end of the stream. -/
theorem cap_pos {codec : Codec} {st : RState} (h : RInv codec st) (hc : codec ≠ .identity 0) (cap : Nat)
    (hcap : readCap codec st = .ok cap) : 0 < cap := by
  obtain ⟨he, hb⟩ := readCap_inv h
  rw [he] at hcap
  cases hcap
  cases hT : bodySize codec st with
  | some T => exact Nat.sub_pos_of_lt (hb T hT hc)
  | none => exact Nat.one_pos

theorem onRead_ok_out (codec : Codec) (st : RState) (bs : Bytes) (hne : bs ≠ []) (o : Out)
    (h : (onRead codec st (.ok bs)).2 = some o) : o.isPending = false := by
  have hl : bs.length ≠ 0 := fun h0 => hne (List.eq_nil_of_length_eq_zero h0)
  -- every `some` that `onRead` returns on a non-empty chunk is a frame, `readFailure` or a panic
  unfold onRead at h
  simp only [if_neg hl] at h
  repeat' split at h
  all_goals cases h
  all_goals rfl

theorem carRead_size_le (cap : Nat) (car : Carrier) : carSize (carRead cap car).2 ≤ carSize car := by
  match car with
  | [] => exact Nat.le_refl _
  | .pending :: r | .err :: r => exact Nat.le_add_left _ _
  | .eof :: r => exact Nat.le_refl _
  | .data bs :: r =>
    simp only [carRead]
    split
    · exact Nat.le_refl _
    · split
      · exact Nat.le_add_left _ _
      · simp only [carSize, segSize, List.length_drop]; omega

theorem carRead_data (cap : Nat) (hcap : 0 < cap) (bs : Bytes) (hbs : bs ≠ []) (r : Carrier) :
    bs.take cap ≠ [] ∧ (bs.take cap).length ≤ cap ∧
    ∃ car', carRead cap (.data bs :: r) = (.ok (bs.take cap), car') ∧
      carBytes (.data bs :: r) = bs.take cap ++ carBytes car' ∧ carSize car' < carSize (.data bs :: r) ∧
      ∀ x ∈ car', x ∈ r ∨ ∃ t, t ≠ [] ∧ x = .data t := by
  have hlen := List.length_pos_iff.mpr hbs
  refine ⟨fun he => ?_, by rw [List.length_take]; exact Nat.min_le_left _ _, ?_⟩
  · have := congrArg List.length he
    rw [List.length_take, List.length_nil] at this
    omega
  · by_cases hl : bs.length ≤ cap
    · exact ⟨r, by simp only [carRead]; rw [if_neg (by omega), if_pos hl],
        by rw [List.take_of_length_le hl]; rfl, by simp only [carSize, segSize]; omega, fun _ hx => Or.inl hx⟩
    · refine ⟨.data (bs.drop cap) :: r, by simp only [carRead]; rw [if_neg (by omega), if_neg hl], ?_, ?_,
        fun x hx => (List.mem_cons.1 hx).symm.imp_right fun e => ⟨_, fun he => ?_, e⟩⟩
      · simp only [carBytes]
        rw [← List.append_assoc, List.take_append_drop]
      · simp only [carSize, segSize, List.length_drop]
        omega
      · have := congrArg List.length he
        rw [List.length_drop, List.length_nil] at this
        omega

theorem pollNextF_size_le (codec : Codec) (fuel : Nat) (st : RState) (car : Carrier) :
    carSize (pollNextF codec fuel st car).2.2 ≤ carSize car := by
  induction fuel generalizing st car with
  | zero => exact Nat.le_refl _
  | succ fuel ih =>
    unfold pollNextF
    split
    · exact Nat.le_refl _
    · split
      · exact carRead_size_le _ _
      · exact Nat.le_trans (ih _ _) (carRead_size_le _ _)

/-- One `poll_next` over a healthy carrier is `consume` on a prefix of its bytes, with its single output (or `Pending` and
none); last conjunct: `Pending` on a carrier without a pending segment comes only after draining it. -/
theorem pollNextF_consume (codec : Codec) (hc : codec ≠ .identity 0) (fuel : Nat) (st : RState) (car : Carrier)
    (h : RInv codec st) (hd : DataOnly car) (hf : carSize car < fuel) :
    ∃ consumed,
      carBytes car = consumed ++ carBytes (pollNextF codec fuel st car).2.2 ∧
      consume codec st consumed =
        ((if (pollNextF codec fuel st car).1.isPending then [] else [(pollNextF codec fuel st car).1]),
          (pollNextF codec fuel st car).2.1) ∧
      DataOnly (pollNextF codec fuel st car).2.2 ∧
      (car ≠ [] → carSize (pollNextF codec fuel st car).2.2 < carSize car) ∧
      (pollNextF codec fuel st car).1.isPanic = false ∧
      ((pollNextF codec fuel st car).1.isPending = true → (∀ s ∈ car, s ≠ .pending) →
        (pollNextF codec fuel st car).2.2 = []) := by
  induction fuel generalizing st car with
  | zero => omega
  | succ fuel ih =>
    obtain ⟨cap, hcap⟩ := readCap_ok h
    have hpos := cap_pos h hc cap hcap
    unfold pollNextF
    simp only [hcap]
    cases car with
    | nil =>
      rw [show (carRead cap []).1 = .pending from rfl, onRead_pending]
      exact ⟨[], by simp [carRead, carBytes], by simp [consume, Out.isPending], by simpa [carRead] using hd,
        fun hne => absurd rfl hne, rfl, fun _ _ => rfl⟩
    | cons s r =>
      have hdr : DataOnly r := fun x hx => hd x (List.mem_cons_of_mem _ hx)
      rcases hd s (List.mem_cons_self) with rfl | ⟨bs, rfl, hbs⟩
      · rw [show (carRead cap (.pending :: r)).1 = .pending from rfl, onRead_pending]
        exact ⟨[], by simp [carRead, carBytes], by simp [consume, Out.isPending], by simpa [carRead] using hdr,
          fun _ => by simp [carRead, carSize, segSize], rfl, fun _ hn => absurd rfl (hn _ List.mem_cons_self)⟩
      · obtain ⟨htne, htle, car', hcr, hbytes, hsz, hcar'⟩ := carRead_data cap hpos bs hbs r
        have hchunk := consume_chunk codec st h cap hcap (bs.take cap) htne htle
        have hinv := onRead_inv h cap hcap (.ok (bs.take cap)) (fun x hx => by injection hx with hx; subst hx; exact htle)
        have hdo : DataOnly car' := fun x hx => (hcar' x hx).elim (hdr x) fun ⟨t, ht, e⟩ => Or.inr ⟨t, e, ht⟩
        rw [hcr]
        cases ho : onRead codec st (.ok (bs.take cap)) with
        | mk st' o =>
          rw [ho] at hchunk hinv
          cases o with
          | some out =>
            have hnp := onRead_ok_out codec st (bs.take cap) htne out (by rw [ho])
            refine ⟨bs.take cap, hbytes, ?_, hdo, fun _ => hsz, (hinv.2 out rfl).1, fun hp => by rw [hnp] at hp; cases hp⟩
            rw [hchunk]; simp [optList, hnp]
          | none =>
            simp only []
            obtain ⟨consumed, c1, c2, c3, _, c5, c6⟩ := ih st' car' hinv.1 hdo (by omega)
            have := pollNextF_size_le codec fuel st' car'
            refine ⟨bs.take cap ++ consumed, ?_, ?_, c3, fun _ => by omega, c5, fun hp hn => c6 hp fun x hx => ?_⟩
            · rw [hbytes, c1, List.append_assoc]
            · rw [consume_append, hchunk]; simp only [optList, List.nil_append]; rw [c2]
            · -- what the read left in the carrier has no pending segment either
              rcases hcar' x hx with hx | ⟨t, _, rfl⟩
              · exact hn x (List.mem_cons_of_mem _ hx)
              · nofun

theorem recvAllF_consume (codec : Codec) (hc : codec ≠ .identity 0) (fuel : Nat) (st : RState) (car : Carrier)
    (h : RInv codec st) (hd : DataOnly car) (hf : carSize car < fuel) :
    (recvAllF codec fuel st car).filter (fun o => !o.isPending) = (consume codec st (carBytes car)).1 := by
  induction fuel generalizing st car with
  | zero => omega
  | succ fuel ih =>
    unfold recvAllF
    cases car with
    | nil => simp [carBytes, consume]
    | cons s r =>
      obtain ⟨consumed, c1, c2, c3, c4, c5, _⟩ :=
        pollNextF_consume codec hc (carSize (s :: r) + 1) st (s :: r) h hd (by omega)
      have hinv := (pollNextF_inv codec (carSize (s :: r) + 1) st (s :: r) h).2.1
      have hlt := c4 (by simp)
      unfold pollNext
      simp only [c5, Bool.false_eq_true, if_false]
      rw [c1, consume_append, c2]
      simp only [List.filter_cons]
      rw [ih _ _ hinv c3 (by omega)]
      cases hp : (pollNextF codec (carSize (s :: r) + 1) st (s :: r)).1.isPending <;> simp

theorem consume_prefix (max : Option Nat) (rbLen : Nat) (rbData p1 p2 : Bytes)
    (h : ∀ b ∈ p1 ++ p2, isLast b = false) (hl : (p1 ++ p2).length < USIZE_LEN) :
    consume (.varint max) ⟨rbLen, rbData, p1.length, none, p1⟩ p2 =
      ([], ⟨rbLen, rbData, (p1 ++ p2).length, none, p1 ++ p2⟩) := by
  induction p2 generalizing p1 with
  | nil => simp [consume]
  | cons b p2 ih =>
    have hp1 : ∀ x ∈ p1, isLast x = false := fun x hx => h x (List.mem_append_left _ hx)
    have hb : isLast b = false := h b (by simp)
    have hlen : p1.length + 1 < USIZE_LEN := by simp at hl; omega
    have hfirst : onRead (.varint max) ⟨rbLen, rbData, p1.length, none, p1⟩ (.ok [b]) =
        (⟨rbLen, rbData, p1.length + 1, none, p1 ++ [b]⟩, none) := by
      simp only [onRead, List.length_singleton]
      rw [if_neg (by omega), readPayloadSize_snoc p1 b hp1 (by omega), hb, if_neg Bool.false_ne_true, if_pos hlen]
    rw [consume, hfirst]
    have e : p1.length + 1 = (p1 ++ [b]).length := by simp
    rw [e, ih (p1 ++ [b]) (by simpa using h) (by simpa using hl)]
    simp

theorem consume_length (max : Option Nat) (rbLen : Nat) (rbData pre : Bytes) (last : Nat) (rest : Bytes)
    (hpre : ∀ b ∈ pre, isLast b = false) (hlen : pre.length < USIZE_LEN) {p : RState × Option Out}
    (hlast : onRead (.varint max) ⟨rbLen, rbData, pre.length, none, pre⟩ (.ok [last]) = p) :
    consume (.varint max) ⟨rbLen, rbData, 0, none, []⟩ (pre ++ [last] ++ rest) =
      (optList p.2 ++ (consume (.varint max) p.1 rest).1, (consume (.varint max) p.1 rest).2) := by
  have hp := consume_prefix max rbLen rbData [] pre (by simpa using hpre) (by simpa using hlen)
  simp only [List.nil_append, List.length_nil] at hp
  rw [consume_append, consume_append, hp, consume_single, hlast]
  simp only [List.nil_append]

/-- `p`: state and output after the byte that completes the length prefix `encode::usize(L)`. -/
theorem consume_encodeUsize (max : Option Nat) (rbLen : Nat) (rbData : Bytes) {L : Nat} (hL : L < 2 ^ 64) (rest : Bytes)
    {p : RState × Option Out}
    (hp : p = if overMax max L then (⟨rbLen, rbData, 0, none, []⟩, some (.err .readFailure))
      else if L = 0 then (⟨rbLen, rbData, 0, none, []⟩, some (.frame []))
      else (⟨L, [], 0, some L, []⟩, none)) :
    consume (.varint max) ⟨rbLen, rbData, 0, none, []⟩ (encodeUsize L ++ rest) =
      (optList p.2 ++ (consume (.varint max) p.1 rest).1, (consume (.varint max) p.1 rest).2) := by
  obtain ⟨pre, last, henc, hpre, _, hplen⟩ := encodeUsize_shape L hL
  have hplen : pre.length < USIZE_LEN := Nat.lt_succ_of_le hplen
  have hrps := readPayloadSize_encode hL
  rw [henc, List.length_append, List.length_singleton] at hrps
  have hlast : onRead (.varint max) ⟨rbLen, rbData, pre.length, none, pre⟩ (.ok [last]) = p := by
    simp only [onRead, List.length_singleton]
    rw [if_neg (by omega), hrps]
    simp only []
    rw [if_neg (by omega), hp]
  rw [henc, consume_length max rbLen rbData pre last rest hpre hplen hlast]

def IdleState (codec : Codec) (st : RState) : Prop :=
  match codec with
  | .identity n => st.rbLen = n ∧ st.rbData = [] ∧ st.offset = 0
  | .varint max => AllocOk max st.rbLen ∧ st.offset = 0 ∧ st.cur = none ∧ st.svData = []

theorem idle_init (codec : Codec) : IdleState codec (RState.init codec) := by
  cases codec with
  | identity n => simp [IdleState, RState.init]
  | varint max => exact ⟨(rinv_init (.varint max)).1, rfl, rfl, rfl⟩

theorem consume_msg (codec : Codec) (hc : codec ≠ .identity 0) (st : RState) (hi : IdleState codec st)
    (m : Bytes) (hm : accepts codec m = true ∧ m.length < 2 ^ 64) :
    (consume codec st (encodeMsg codec m)).1 = [.frame m] ∧ IdleState codec (consume codec st (encodeMsg codec m)).2 := by
  obtain ⟨rbLen, rbData, offset, cur, svData⟩ := st
  cases codec with
  | identity n =>
    obtain ⟨rfl, rfl, rfl⟩ := hi
    have hlen : m.length = rbLen := by simpa [accepts] using hm.1
    have hmne : m ≠ [] := by intro he; subst he; exact hc (by rw [← hlen]; rfl)
    rw [encodeMsg, consume_body _ rbLen m hmne _ rfl (by simp only [Nat.zero_add]; omega)]
    simp only [onRead]
    rw [if_neg (by cases m <;> simp_all), if_pos (by omega)]
    simp [optList, IdleState, List.take_of_length_le (Nat.le_of_eq hlen)]
  | varint max =>
    obtain ⟨ha, rfl, rfl, rfl⟩ := hi
    obtain ⟨hacc, h64⟩ := hm
    have hov : overMax max m.length = false := by simpa [accepts] using hacc
    rw [encodeMsg, consume_encodeUsize max rbLen rbData h64 m rfl, hov, if_neg Bool.false_ne_true]
    by_cases hz : m.length = 0
    · have hm0 : m = [] := List.eq_nil_of_length_eq_zero hz
      subst hm0
      simp [consume, IdleState, ha, optList]
    · have hmne : m ≠ [] := by intro he; subst he; exact hz rfl
      simp only [hz, if_false, optList, List.nil_append]
      rw [consume_body _ m.length m hmne _ rfl (by simp only [Nat.zero_add]; omega)]
      simp only [onRead]
      rw [if_neg hz, if_pos (by omega)]
      refine ⟨by simp [optList], ?_, rfl, rfl, rfl⟩
      cases max <;> simp [AllocOk]

theorem consume_all (codec : Codec) (hc : codec ≠ .identity 0) (msgs : List Bytes) (st : RState)
    (hi : IdleState codec st) (hm : ∀ m ∈ msgs, accepts codec m = true ∧ m.length < 2 ^ 64) :
    (consume codec st (encodeAll codec msgs)).1 = msgs.map .frame ∧
    IdleState codec (consume codec st (encodeAll codec msgs)).2 := by
  induction msgs generalizing st with
  | nil => simp [encodeAll, consume, hi]
  | cons m ms ih =>
    simp only [encodeAll]
    rw [consume_append]
    obtain ⟨h1, h2⟩ := consume_msg codec hc st hi m (hm m (List.mem_cons_self))
    obtain ⟨h3, h4⟩ := ih _ h2 (fun x hx => hm x (List.mem_cons_of_mem _ hx))
    simp only [h1, h3, List.map_cons]
    exact ⟨rfl, h4⟩

theorem consume_oversize (m L : Nat) (rest : Bytes) (st : RState) (hi : IdleState (.varint (some m)) st)
    (hL : L < 2 ^ 64) (hbig : m < L) :
    (consume (.varint (some m)) st (encodeUsize L ++ rest)).1.head? = some (.err .readFailure) := by
  obtain ⟨rbLen, rbData, offset, cur, svData⟩ := st
  obtain ⟨_, rfl, rfl, rfl⟩ := hi
  rw [consume_encodeUsize _ rbLen rbData hL rest rfl, show overMax (some m) L = true by simp [overMax, hbig]]
  rfl

theorem consume_overlong (max : Option Nat) (pre : Bytes) (b : Nat) (rest : Bytes) (st : RState)
    (hi : IdleState (.varint max) st) (hpre : ∀ x ∈ pre, isLast x = false) (hb : isLast b = false)
    (hlen : pre.length + 1 = USIZE_LEN) :
    (consume (.varint max) st (pre ++ [b] ++ rest)).1.head? = some (.err .readFailure) := by
  obtain ⟨rbLen, rbData, offset, cur, svData⟩ := st
  obtain ⟨_, rfl, rfl, rfl⟩ := hi
  have hlast : onRead (.varint max) ⟨rbLen, rbData, pre.length, none, pre⟩ (.ok [b]) =
      (⟨rbLen, rbData, 0, none, []⟩, some (.err .readFailure)) := by
    simp only [onRead, List.length_singleton]
    rw [if_neg (by omega), readPayloadSize_snoc pre b hpre (by omega), hb, if_neg Bool.false_ne_true, if_neg (by omega)]
  rw [consume_length _ rbLen rbData pre b rest hpre (by omega) hlast]
  rfl

end Litep2pVerif.Substream
