import Litep2pVerif.Model.Substream.TokioCodec
import Litep2pVerif.Proofs.Substream.Varint
/-! Lemmas about the `tokio_util` codecs of `src/codec/` (C04): round trip, need-more on every proper
prefix, the maximum-size rule and the reservation bound. -/
namespace Litep2pVerif.Substream

theorem uviRead_nonlast (pre : Bytes) (i acc : Nat) (hpre : ∀ b ∈ pre, isLast b = false) (hlen : i + pre.length ≤ 9) :
    uviRead pre i acc = .error .insufficient := by
  induction pre generalizing i acc with
  | nil => rfl
  | cons b t ih =>
    have hb := hpre b (by simp)
    simp only [List.length_cons] at hlen
    simp only [uviRead, hb, Bool.false_eq_true, if_false]
    rw [if_neg (by simp [U64_MAX_BYTES]; omega)]
    exact ih _ _ (fun x hx => hpre x (by simp [hx])) (by omega)

theorem uviDecode_encode (st : UviState) (item rest : Bytes) (hl : st.len = none) (hm : item.length ≤ st.max)
    (h64 : item.length < 2 ^ 64) :
    uviDecode st (encodeUsize item.length ++ item ++ rest) = (.frame item, st, rest, none) := by
  unfold uviDecode
  rw [hl, List.append_assoc, uviRead_encode _ h64]
  simp only [uviBody]
  rw [if_neg (by omega), if_pos (by simp)]
  simp only [List.take_left', List.drop_left', Prod.mk.injEq, true_and]
  cases st; simp_all

/-- Every proper prefix of a frame: `None` (never an error, never a frame); the bytes stay available
(the length prefix is consumed once it is complete) and feeding the remainder yields the frame. -/
theorem uviDecode_prefix (st : UviState) (item : Bytes) (k : Nat) (hl : st.len = none) (hm : item.length ≤ st.max)
    (h64 : item.length < 2 ^ 64) (hk : k < (encodeUsize item.length ++ item).length) :
    ∃ st' buf rsv, uviDecode st ((encodeUsize item.length ++ item).take k) = (.needMore, st', buf, rsv) ∧
      (∀ r, rsv = some r → r ≤ st.max) ∧
      uviDecode st' (buf ++ (encodeUsize item.length ++ item).drop k) = (.frame item, st, [], none) := by
  obtain ⟨pre, last, he, hpre, _, hplen⟩ := encodeUsize_shape item.length h64
  have hrd : ∀ rest, uviRead (pre ++ last :: rest) 0 0 = .ok (item.length, rest) := fun rest => by
    have := uviRead_encode _ h64 rest
    rwa [he, List.append_assoc] at this
  have hst : ({ max := st.max, len := none } : UviState) = st := by cases st; simp_all
  by_cases hkp : k < (pre ++ [last]).length
  · -- inside the length prefix
    have htake : (encodeUsize item.length ++ item).take k = pre.take k := by
      rw [he, List.append_assoc, List.take_append_of_le_length (by simp at hkp ⊢; omega)]
    refine ⟨st, pre.take k, none, ?_, by simp, ?_⟩
    · rw [htake]
      unfold uviDecode
      rw [hl, uviRead_nonlast _ 0 0 (fun b hb => hpre b (List.mem_of_mem_take hb)) (by simp; omega)]
    · rw [← htake, List.take_append_drop]
      have := uviDecode_encode st item [] hl hm h64
      simpa using this
  · -- inside the body
    have hkp' : pre.length + 1 ≤ k := by simp at hkp; omega
    have hlenF : (encodeUsize item.length ++ item).length = pre.length + 1 + item.length := by rw [he]; simp; omega
    have htake : (encodeUsize item.length ++ item).take k = pre ++ last :: item.take (k - (pre.length + 1)) := by
      rw [he, List.take_append, List.take_of_length_le (by simp; omega)]
      simp
    have hdrop : (encodeUsize item.length ++ item).drop k = item.drop (k - (pre.length + 1)) := by
      rw [he, List.drop_append, List.drop_of_length_le (by simp; omega)]
      simp
    have hshort : (item.take (k - (pre.length + 1))).length < item.length := by
      simp only [List.length_take]; omega
    refine ⟨{ st with len := some item.length }, item.take (k - (pre.length + 1)),
      some (item.length - (item.take (k - (pre.length + 1))).length), ?_, ?_, ?_⟩
    · rw [htake]
      unfold uviDecode
      rw [hl, hrd]
      simp only [uviBody]
      rw [if_neg (by omega), if_neg (by omega)]
    · intro r hr; injection hr with hr; omega
    · rw [hdrop, List.take_append_drop]
      simp only [uviDecode, uviBody]
      rw [if_neg (by omega), if_pos (Nat.le_refl _)]
      simp [hst]

/-- The maximum-size rule, sender. -/
theorem uviEncode_refuses (st : UviState) (item dst : Bytes) (h : st.max < item.length) : uviEncode st item dst = none := by
  simp [uviEncode, h]

theorem uviEncode_accepts (st : UviState) (item dst : Bytes) (h : item.length ≤ st.max) :
    uviEncode st item dst = some (dst ++ encodeUsize item.length ++ item) := by
  simp [uviEncode]; omega

/-- The maximum-size rule, receiver: an announced length above the maximum is an error as soon as the
prefix is complete — whatever follows — and nothing is reserved for it. -/
theorem uviDecode_oversize (st : UviState) (n : Nat) (rest : Bytes) (hl : st.len = none) (hn : n < 2 ^ 64)
    (hbig : st.max < n) :
    uviDecode st (encodeUsize n ++ rest) = (.err .permissionDenied, st, rest, none) := by
  unfold uviDecode
  rw [hl, uviRead_encode _ hn]
  simp only [uviBody]
  rw [if_pos hbig]
  cases st; simp_all

/-- State invariant: a body is only awaited for an announced length within the maximum. -/
def UviInv (st : UviState) : Prop := ∀ n, st.len = some n → n ≤ st.max

theorem uviInv_new (max : Option Nat) : UviInv (UviState.new max) := by
  intro n h; simp [UviState.new] at h

theorem uviBody_spec (st : UviState) (n : Nat) (src : Bytes) :
    UviInv (uviBody st n src).2.1 ∧ (uviBody st n src).2.1.max = st.max ∧
    (∀ r, (uviBody st n src).2.2.2 = some r → r ≤ st.max) ∧
    (∀ f, (uviBody st n src).1 = .frame f → f.length ≤ st.max) := by
  unfold uviBody
  split
  · exact ⟨by intro k hk; simp at hk, rfl, by simp, by simp⟩
  · split
    · refine ⟨by intro k hk; simp at hk, rfl, by simp, ?_⟩
      intro f hf
      simp only [DecRes.frame.injEq] at hf
      subst hf
      simp only [List.length_take]; omega
    · refine ⟨?_, rfl, ?_, by simp⟩
      · intro k hk
        simp only [Option.some.injEq] at hk
        show k ≤ st.max
        omega
      · intro r hr; simp at hr; omega

/-- **No allocation beyond the declared maximum**: whatever the buffer holds, one `decode` call asks
`reserve` for at most `max` bytes, returns a frame of at most `max` bytes, and keeps the invariant. -/
theorem uviDecode_spec (st : UviState) (src : Bytes) (h : UviInv st) :
    UviInv (uviDecode st src).2.1 ∧ (uviDecode st src).2.1.max = st.max ∧
    (∀ r, (uviDecode st src).2.2.2 = some r → r ≤ st.max) ∧
    (∀ f, (uviDecode st src).1 = .frame f → f.length ≤ st.max) := by
  unfold uviDecode
  split
  · exact uviBody_spec st _ src
  · split
    · exact ⟨h, rfl, by simp, by simp⟩
    · exact ⟨h, rfl, by simp, by simp⟩
    · exact uviBody_spec st _ _

theorem idDecode_encode (n : Nat) (item rest dst : Bytes) (hn : 0 < n) (hl : item.length = n) :
    idEncode n item dst = some (dst ++ item) ∧ idDecode n (item ++ rest) = (.frame item, rest) := by
  have hne : item ≠ [] := by intro h; subst h; simp at hl; omega
  refine ⟨?_, ?_⟩
  · simp only [idEncode]
    rw [if_neg]
    simp [hl, hne]
  · simp only [idDecode]
    rw [if_neg]
    · rw [← hl]; simp
    · simp [hne]; omega

theorem idDecode_short (n : Nat) (src : Bytes) (h : src.length < n) : idDecode n src = (.needMore, src) := by
  simp [idDecode, h]

theorem idEncode_refuses (n : Nat) (item dst : Bytes) (h : item.length ≠ n) : idEncode n item dst = none := by
  simp [idEncode, h]

theorem idDecode_frame_len (n : Nat) (src f : Bytes) (h : (idDecode n src).1 = .frame f) : f.length = n := by
  simp only [idDecode] at h
  split at h
  · simp at h
  · rename_i hc
    simp only [DecRes.frame.injEq] at h
    subst h
    simp only [List.length_take]
    simp at hc; omega

end Litep2pVerif.Substream
