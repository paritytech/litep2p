import Litep2pVerif.Model.Substream.Sink
/-! The sink model (C04): `poll_flush` hands over a prefix of the queued bytes and `Ready` means none is left
(`pollFlush_spec`); `start_send` queues what `send_framed` writes (`startSend_eq`), of which `write_all` hands over a
prefix (`writeAlls_spec`); along a run without carrier failure, handed over ++ queued = the frames of the accepted
messages (`SinkInv`, `sinkRun_inv`). -/
namespace Litep2pVerif.Substream

def NoErr (evs : List WrEv) : Prop := ∀ e ∈ evs, e ≠ WrEv.err

/-- `pending_out_bytes` counts exactly the queued bytes. -/
def WInv (st : WState) : Prop := st.bytes = (queued st).length

theorem winv_init : WInv WState.init := by
  simp [WInv, WState.init, queued]

@[simp] theorem queued_some (fs : List Bytes) (f : Bytes) (b : Nat) :
    queued ⟨fs, some f, b⟩ = f ++ fs.flatten := rfl

@[simp] theorem queued_none (fs : List Bytes) (b : Nat) :
    queued ⟨fs, none, b⟩ = fs.flatten := by simp [queued]

theorem queued_of_takeFrame_none {st : WState} (h : takeFrame st = none) :
    st.frame = none ∧ st.frames = [] ∧ queued st = [] := by
  obtain ⟨fs, fr, b⟩ := st
  cases fr <;> cases fs <;> simp_all [takeFrame]

theorem queued_of_takeFrame_some {st : WState} {f : Bytes} {fs : List Bytes}
    (h : takeFrame st = some (f, fs)) : queued st = f ++ fs.flatten := by
  obtain ⟨fs', fr, b⟩ := st
  cases fr <;> cases fs' <;> simp_all [takeFrame]

theorem pollFlush_spec (evs : List WrEv) (st : WState) (fl : FlEv) (hne : NoErr evs) :
    (pollFlush evs st fl).2.2 ++ queued (pollFlush evs st fl).2.1 = queued st ∧
    ((pollFlush evs st fl).1 = .ready → takeFrame (pollFlush evs st fl).2.1 = none) ∧
    (WInv st → WInv (pollFlush evs st fl).2.1) := by
  induction evs generalizing st with
  | nil =>
    unfold pollFlush
    cases htf : takeFrame st with
    | none => simp [htf]
    | some p =>
      obtain ⟨f, fs⟩ := p
      have hq := queued_of_takeFrame_some htf
      refine ⟨by simp [hq], by simp, ?_⟩
      intro hw; unfold WInv at *; rw [hq] at hw; simpa using hw
  | cons ev evs ih =>
    unfold pollFlush
    cases htf : takeFrame st with
    | none => simp [htf]
    | some p =>
      obtain ⟨f, fs⟩ := p
      have hq := queued_of_takeFrame_some htf
      cases ev with
      | err => exact absurd rfl (hne _ (List.mem_cons_self))
      | pending =>
        refine ⟨by simp [hq], by simp, ?_⟩
        intro hw; unfold WInv at *; rw [hq] at hw; simpa using hw
      | accept k =>
        have hne' : NoErr evs := fun e he => hne e (List.mem_cons_of_mem _ he)
        obtain ⟨h1, h2, h3⟩ := ih ⟨fs, if f.length ≤ min (k + 1) f.length then none else some (f.drop (min (k + 1) f.length)),
              st.bytes - min (k + 1) f.length⟩ hne'
        have hq' : queued (⟨fs, if f.length ≤ min (k + 1) f.length then none else some (f.drop (min (k + 1) f.length)),
              st.bytes - min (k + 1) f.length⟩ : WState) = f.drop (min (k + 1) f.length) ++ fs.flatten := by
          by_cases hle : f.length ≤ min (k + 1) f.length
          · simp [hle, List.drop_of_length_le hle]
          · simp [hle]
        refine ⟨?_, h2, ?_⟩
        · rw [hq, List.append_assoc, h1, hq', ← List.append_assoc, List.take_append_drop]
        · intro hw
          apply h3
          unfold WInv at hw ⊢
          rw [hq']
          rw [hq] at hw
          simp only [List.length_append, List.length_drop] at hw ⊢
          have : min (k + 1) f.length ≤ f.length := Nat.min_le_right _ _
          omega

theorem framedBufs_some (codec : Codec) (item : Bytes) (bufs : List Bytes) (h : framedBufs codec item = some bufs) :
    bufs.flatten = encodeMsg codec item ∧ accepts codec item = true := by
  cases codec with
  | identity n =>
    simp only [framedBufs] at h
    split at h
    · simp at h
    · rename_i hl; simp at h; subst h; simp [encodeMsg, accepts]; simpa using hl
  | varint max =>
    simp only [framedBufs] at h
    split at h
    · simp at h
    · rename_i hov; simp at h; subst h; simp [encodeMsg, accepts, hov]

theorem startSend_eq (codec : Codec) (st : WState) (item : Bytes) :
    startSend codec st item =
      match framedBufs codec item with
      | none => (.refused, st)
      | some bufs => (.ok, ⟨st.frames ++ bufs, st.frame, st.bytes + bufs.flatten.length⟩) := by
  cases codec with
  | identity n => simp only [startSend, framedBufs]; split <;> simp
  | varint max => simp only [startSend, framedBufs]; split <;> simp

theorem startSend_spec (codec : Codec) (st st' : WState) (item : Bytes)
    (h : startSend codec st item = (.ok, st')) :
    queued st' = queued st ++ encodeMsg codec item ∧ accepts codec item = true ∧ (WInv st → WInv st') := by
  rw [startSend_eq] at h
  cases hb : framedBufs codec item with
  | none => rw [hb] at h; cases h
  | some bufs =>
    rw [hb] at h
    cases h
    obtain ⟨hfl, hacc⟩ := framedBufs_some codec item bufs hb
    have hq : queued ⟨st.frames ++ bufs, st.frame, st.bytes + bufs.flatten.length⟩ =
        queued st ++ encodeMsg codec item := by simp [queued, hfl]
    refine ⟨hq, hacc, fun hw => ?_⟩
    unfold WInv at hw ⊢
    rw [hq, hw, ← hfl, List.length_append]

theorem startSend_refused (codec : Codec) (st : WState) (item : Bytes) (h : accepts codec item = false) :
    startSend codec st item = (.refused, st) ∧ framedBufs codec item = none := by
  cases codec with
  | identity n => simp [accepts] at h; simp [startSend, framedBufs, h]
  | varint max => simp [accepts] at h; simp [startSend, framedBufs, h]

theorem flatten_dropEmpty (bufs : List Bytes) : (dropEmpty bufs).flatten = bufs.flatten := by
  induction bufs with
  | nil => simp [dropEmpty]
  | cons b r ih => cases b <;> simp [dropEmpty, ih]

theorem writeAlls_spec (evs : List WrEv) (bufs : List Bytes) :
    (writeAlls evs bufs).2.1 ++ (writeAlls evs bufs).2.2.1.flatten = bufs.flatten ∧
    ((writeAlls evs bufs).1 = .done → (writeAlls evs bufs).2.2.1 = []) := by
  induction evs generalizing bufs with
  | nil =>
    unfold writeAlls
    have hfl := flatten_dropEmpty bufs
    cases h : dropEmpty bufs with
    | nil => rw [h] at hfl; exact ⟨by simpa using hfl, fun _ => rfl⟩
    | cons b r => rw [h] at hfl; exact ⟨by simpa using hfl, fun hd => by simp at hd⟩
  | cons ev evs ih =>
    unfold writeAlls
    have hfl := flatten_dropEmpty bufs
    cases h : dropEmpty bufs with
    | nil => rw [h] at hfl; exact ⟨by simpa using hfl, fun _ => rfl⟩
    | cons b r =>
      rw [h] at hfl
      cases ev with
      | pending => simp only []; rw [← hfl]; exact ih (b :: r)
      | err => exact ⟨by simpa using hfl, fun hd => by simp at hd⟩
      | accept k =>
        obtain ⟨h1, h2⟩ := ih (b.drop (min (k + 1) b.length) :: r)
        refine ⟨?_, h2⟩
        rw [List.append_assoc, h1, ← hfl]
        simp [← List.append_assoc, List.take_append_drop]

theorem encodeAll_append (codec : Codec) (a b : List Bytes) :
    encodeAll codec (a ++ b) = encodeAll codec a ++ encodeAll codec b := by
  induction a with
  | nil => simp [encodeAll]
  | cons m a ih => simp [encodeAll, ih]

def OpNoErr : SinkOp → Prop
  | .send _ evs _ => NoErr evs
  | .flush evs _ => NoErr evs

/-- The stream invariant of the sink: handed over ++ still queued = frames of the accepted messages. -/
def SinkInv (codec : Codec) (r : SinkRun) : Prop :=
  r.wire ++ queued r.st = encodeAll codec r.accepted ∧ WInv r.st

theorem sinkStep_inv (codec : Codec) (r : SinkRun) (op : SinkOp) (h : SinkInv codec r) (hne : OpNoErr op) :
    SinkInv codec (sinkStep codec r op) := by
  obtain ⟨hw, hi⟩ := h
  cases op with
  | flush evs fl =>
    obtain ⟨h1, _, h3⟩ := pollFlush_spec evs r.st fl hne
    simp only [sinkStep]
    refine ⟨?_, h3 hi⟩
    show (r.wire ++ (pollFlush evs r.st fl).2.2) ++ queued (pollFlush evs r.st fl).2.1 = _
    rw [List.append_assoc, h1, hw]
  | send item evs fl =>
    have hready : (pollReady r.st evs fl).2.2 ++ queued (pollReady r.st evs fl).2.1 = queued r.st ∧
        (WInv r.st → WInv (pollReady r.st evs fl).2.1) := by
      unfold pollReady
      split
      · obtain ⟨h1, _, h3⟩ := pollFlush_spec evs r.st fl hne; exact ⟨h1, h3⟩
      · exact ⟨by simp, fun h => h⟩
    obtain ⟨h1, h3⟩ := hready
    simp only [sinkStep]
    cases hp : pollReady r.st evs fl with
    | mk o rest =>
      obtain ⟨st', out⟩ := rest
      rw [hp] at h1 h3
      have hbase : (r.wire ++ out) ++ queued st' = encodeAll codec r.accepted := by
        rw [List.append_assoc, h1, hw]
      cases o with
      | ready =>
        simp only []
        cases hs : startSend codec st' item with
        | mk res st'' =>
          cases res with
          | ok =>
            obtain ⟨hq, _, hwi⟩ := startSend_spec codec st' st'' item hs
            refine ⟨?_, hwi (h3 hi)⟩
            show (r.wire ++ out) ++ queued st'' = encodeAll codec (r.accepted ++ [item])
            rw [hq, ← List.append_assoc, hbase, encodeAll_append]
            simp [encodeAll]
          | refused =>
            have : st'' = st' := by
              rw [startSend_eq] at hs
              cases hb : framedBufs codec item with
              | none => rw [hb] at hs; cases hs; rfl
              | some bufs => rw [hb] at hs; cases hs
            subst this
            exact ⟨hbase, h3 hi⟩
      | pending => exact ⟨hbase, h3 hi⟩
      | err => exact ⟨hbase, h3 hi⟩

theorem sinkRun_inv (codec : Codec) (ops : List SinkOp) (hne : ∀ op ∈ ops, OpNoErr op) :
    SinkInv codec (sinkRun codec ops) :=
  List.foldlRecOn ops (sinkStep codec) ⟨by simp [SinkRun.init, WState.init, queued, encodeAll], winv_init⟩
    (fun r h op ho => sinkStep_inv codec r op h (hne op ho))

theorem sinkRun_accepts (codec : Codec) (ops : List SinkOp) :
    ∀ m ∈ (sinkRun codec ops).accepted, accepts codec m = true := by
  refine List.foldlRecOn (motive := fun r => ∀ m ∈ r.accepted, accepts codec m = true) ops (sinkStep codec)
    (b := SinkRun.init) (by simp [SinkRun.init]) (fun r h op _ => ?_)
  cases op with
  | flush evs fl => simpa [sinkStep] using h
  | send item evs fl =>
    simp only [sinkStep]
    cases hp : pollReady r.st evs fl with
    | mk o rest =>
      obtain ⟨st', out⟩ := rest
      cases o with
      | ready =>
        simp only []
        cases hs : startSend codec st' item with
        | mk res st'' =>
          cases res with
          | ok =>
            intro m hm
            rcases List.mem_append.mp hm with hm | hm
            · exact h m hm
            · simp at hm; subst hm; exact (startSend_spec codec st' st'' _ hs).2.1
          | refused => simpa using h
      | pending => simpa using h
      | err => simpa using h

theorem sinkRun_flush_ready (codec : Codec) (ops : List SinkOp) (evs : List WrEv) (fl : FlEv)
    (hne : OpNoErr (.flush evs fl))
    (h : (sinkRun codec (ops ++ [.flush evs fl])).last = .ready) :
    queued (sinkRun codec (ops ++ [.flush evs fl])).st = [] := by
  simp only [sinkRun, List.foldl_append, List.foldl_cons, List.foldl_nil, sinkStep] at h ⊢
  obtain ⟨_, h2, _⟩ := pollFlush_spec evs (List.foldl (sinkStep codec) SinkRun.init ops).st fl hne
  exact (queued_of_takeFrame_none (h2 h)).2.2

end Litep2pVerif.Substream
