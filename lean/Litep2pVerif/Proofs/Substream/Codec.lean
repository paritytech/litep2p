import Litep2pVerif.Model.Substream.Codec
/-! Lemmas about the reader model (C04): the invariant behind `no_oob` and `alloc_bound`, and what
`onRead` does with a chunk of a frame body and with the last byte of a length prefix; `Reach`, the states at a loop
head of `poll_next`, which all satisfy the invariant (`reach_inv`, `reach_pollNextF`). -/
namespace Litep2pVerif.Substream

theorem usize_le_size_vec : USIZE_LEN ≤ SIZE_VEC_LEN := by decide

/-- Bound on `read_buffer` allocations when a maximum is configured. -/
def AllocOk (max : Option Nat) (len : Nat) : Prop :=
  match max with
  | some m => len ≤ Nat.max INITIAL_READ_BUFFER m
  | none => True

/-- Invariant of the reader state at every loop head of `poll_next`. -/
def RInv (codec : Codec) (st : RState) : Prop :=
  match codec with
  | .identity n =>
    st.rbLen = n ∧ st.offset = st.rbData.length ∧ st.offset ≤ n ∧ (0 < n → st.offset < n)
  | .varint max =>
    AllocOk max st.rbLen ∧
    match st.cur with
    | some fs =>
      st.rbLen = fs ∧ st.offset = st.rbData.length ∧ st.offset < fs ∧ st.svData = [] ∧ overMax max fs = false
    | none =>
      st.offset = st.svData.length ∧ st.offset < USIZE_LEN ∧ ∀ b ∈ st.svData, isLast b = false

theorem rinv_init (codec : Codec) : RInv codec (RState.init codec) := by
  cases codec with
  | identity n => simp [RInv, RState.init]
  | varint max =>
    refine ⟨?_, ?_⟩
    · cases max <;> simp [AllocOk, RState.init, Nat.le_max_left]
    · simp [RState.init, USIZE_LEN]

/-- The frame size while a frame body is being read (`none`: a length prefix is being read). -/
def bodySize : Codec → RState → Option Nat
  | .identity n, _ => some n
  | .varint _, st => st.cur

/-- No slice expression panics: the inner read is handed the rest of the frame body, or one byte of `size_vec`. -/
theorem readCap_inv {codec : Codec} {st : RState} (h : RInv codec st) :
    readCap codec st = .ok (match bodySize codec st with | some T => T - st.offset | none => 1) ∧
    ∀ T, bodySize codec st = some T → codec ≠ .identity 0 → st.offset < T := by
  cases codec with
  | identity n =>
    obtain ⟨h1, _, h3, h4⟩ := h
    refine ⟨by rw [readCap, if_pos ⟨h3, Nat.le_of_eq h1.symm⟩]; rfl, fun T hT hc => ?_⟩
    cases hT
    exact h4 (Nat.pos_of_ne_zero fun h0 => hc (by rw [h0]))
  | varint max =>
    obtain ⟨_, h⟩ := h
    cases hc : st.cur with
    | some fs =>
      rw [hc] at h
      obtain ⟨h1, _, h3, _⟩ := h
      simp only [readCap, bodySize, hc]
      refine ⟨by rw [if_pos (by omega), h1], fun T hT _ => ?_⟩
      cases hT
      exact h3
    | none =>
      rw [hc] at h
      have := usize_le_size_vec
      simp only [readCap, bodySize, hc]
      exact ⟨if_pos (by omega), nofun⟩

theorem readCap_ok {codec : Codec} {st : RState} (h : RInv codec st) : ∃ cap, readCap codec st = .ok cap :=
  ⟨_, (readCap_inv h).1⟩

theorem carRead_le (cap : Nat) (car : Carrier) (bs : Bytes) (h : (carRead cap car).1 = .ok bs) :
    bs.length ≤ cap := by
  cases car with
  | nil => simp [carRead] at h
  | cons s r =>
    cases s with
    | data d =>
      simp only [carRead] at h
      split at h
      · simp at h; subst h; simp
      · simp at h; subst h; simp only [List.length_take]; exact Nat.min_le_left _ _
    | pending => simp [carRead] at h
    | err => simp [carRead] at h
    | eof => simp [carRead] at h; subst h; simp

theorem scanLast_append (pre l : Bytes) (i lim : Nat) (h : ∀ b ∈ pre, isLast b = false)
    (hl : i + pre.length ≤ lim) :
    scanLast (pre ++ l) i lim = scanLast l (i + pre.length) lim := by
  induction pre generalizing i with
  | nil => simp
  | cons b pre ih =>
    have hb : isLast b = false := h b (List.mem_cons_self)
    have hpre : ∀ b ∈ pre, isLast b = false := fun x hx => h x (List.mem_cons_of_mem _ hx)
    simp only [List.length_cons] at hl
    have h1 : ¬ lim ≤ i := by omega
    simp only [List.cons_append, scanLast, hb, h1, if_false, Bool.false_eq_true]
    rw [ih (i + 1) hpre (by omega)]
    congr 1
    simp only [List.length_cons]; omega

theorem scanLast_none_all (l : Bytes) (i lim : Nat) (hlen : i + l.length ≤ lim) (h : scanLast l i lim = none) :
    ∀ b ∈ l, isLast b = false := by
  induction l generalizing i with
  | nil => simp
  | cons b l ih =>
    simp only [scanLast] at h
    have h1 : ¬ lim ≤ i := by simp at hlen; omega
    simp only [h1, if_false] at h
    cases hb : isLast b with
    | true => simp [hb] at h
    | false =>
      simp [hb] at h
      intro x hx
      cases hx with
      | head => exact hb
      | tail _ hx => exact ih (i + 1) (by simp at hlen; omega) h x hx

theorem readPayloadSize_snoc (pre : Bytes) (b : Nat) (hpre : ∀ x ∈ pre, isLast x = false)
    (hlen : pre.length < USIZE_LEN) :
    readPayloadSize (pre ++ [b]) =
      if isLast b then
        match decodeLoop (pre ++ [b]) 0 0 with
        | .error _ => .error .decodeError
        | .ok size => .ok (size, pre.length + 1)
      else if pre.length + 1 < USIZE_LEN then .error .notEnoughBytes else .error .overflow := by
  have hl : (pre ++ [b]).length = pre.length + 1 := by simp
  have hmin : min (pre ++ [b]).length USIZE_LEN = pre.length + 1 := by rw [hl]; omega
  rw [readPayloadSize, hmin, scanLast_append pre [b] 0 _ hpre (by omega), scanLast, if_neg (by omega)]
  cases isLast b
  · simp only [Bool.false_eq_true, if_false, scanLast, hl]
  · simp only [if_true]
    rw [Nat.zero_add, List.take_of_length_le (by rw [hl]; exact Nat.le_refl _)]
    rfl

theorem onRead_pending (codec : Codec) (st : RState) : onRead codec st .pending = (st, some .pending) := by
  cases codec with
  | identity n => rfl
  | varint max => unfold onRead; cases st.cur <;> rfl

theorem onRead_body {codec : Codec} {st : RState} {T : Nat} (h : bodySize codec st = some T) (bs : Bytes)
    (hz : bs.length ≠ 0) (hne : st.offset + bs.length ≠ T) :
    onRead codec st (.ok bs) =
      ({ st with rbData := st.rbData ++ bs, offset := st.offset + bs.length }, none) := by
  cases codec with
  | identity n => cases h; simp only [onRead, if_neg hz, if_neg hne]
  | varint max => simp only [bodySize] at h; simp only [onRead, h, if_neg hz, if_neg hne]

/-- In a frame body, a chunk may as well arrive first byte first. -/
theorem onRead_body_cons {codec : Codec} {st : RState} {T : Nat} (h : bodySize codec st = some T) (b : Nat)
    (bs : Bytes) (hbs : bs ≠ []) :
    onRead codec st (.ok (b :: bs)) =
      onRead codec { st with rbData := st.rbData ++ [b], offset := st.offset + 1 } (.ok bs) := by
  have hl : bs.length ≠ 0 := fun h0 => hbs (List.eq_nil_of_length_eq_zero h0)
  have he : st.offset + (bs.length + 1) = st.offset + 1 + bs.length := by omega
  cases codec with
  | identity n => simp [onRead, hl, he]
  | varint max => simp only [bodySize] at h; simp [onRead, h, hl, he]

theorem onRead_idle (codec : Codec) (st : RState) (r : RdRes) (hr : ∀ bs, r = .ok bs → bs = []) :
    ∃ o, onRead codec st r = (st, some o) ∧ o.isPanic = false ∧ ∀ p, o ≠ .frame p := by
  obtain ⟨rbLen, rbData, offset, cur, svData⟩ := st
  rcases r with _ | _ | bs
  · exact ⟨_, onRead_pending _ _, rfl, nofun⟩
  · cases codec with
    | identity n => exact ⟨_, rfl, rfl, nofun⟩
    | varint max => cases cur <;> exact ⟨_, rfl, rfl, nofun⟩
  · obtain rfl := hr bs rfl
    cases codec with
    | identity n => exact ⟨_, rfl, rfl, nofun⟩
    | varint max => cases cur <;> exact ⟨_, rfl, rfl, nofun⟩

theorem onRead_inv {codec : Codec} {st : RState} (h : RInv codec st) (cap : Nat)
    (hcap : readCap codec st = .ok cap) (r : RdRes) (hr : ∀ bs, r = .ok bs → bs.length ≤ cap) :
    RInv codec (onRead codec st r).1 ∧ ∀ o, (onRead codec st r).2 = some o →
      o.isPanic = false ∧ ∀ p, o = .frame p → accepts codec p = true := by
  by_cases hidle : ∀ bs, r = .ok bs → bs = []
  · obtain ⟨o, ho, hp, hf⟩ := onRead_idle codec st r hidle
    rw [ho]
    exact ⟨h, fun o' h' => by cases h'; exact ⟨hp, fun p e => absurd e (hf p)⟩⟩
  obtain ⟨bs, rfl, hne⟩ : ∃ bs, r = .ok bs ∧ bs ≠ [] := by
    rcases r with _ | _ | bs
    · exact absurd nofun hidle
    · exact absurd nofun hidle
    · exact ⟨bs, rfl, fun h0 => hidle (fun _ hb => by cases hb; exact h0)⟩
  have hz : bs.length ≠ 0 := fun h0 => hne (List.eq_nil_of_length_eq_zero h0)
  have hle := hr bs rfl
  rw [(readCap_inv h).1] at hcap
  cases hcap
  obtain ⟨rbLen, rbData, offset, cur, svData⟩ := st
  cases codec with
  | identity n =>
    obtain ⟨h1, h2, h3, h4⟩ := h
    simp only at h1 h2 h3 h4
    simp only [bodySize] at hle
    by_cases hoff : offset + bs.length = n
    · simp only [onRead, if_neg hz, if_pos hoff]
      exact ⟨⟨rfl, rfl, Nat.zero_le _, fun hn => hn⟩, fun o ho => by
        cases ho
        refine ⟨rfl, fun p e => ?_⟩
        cases e
        simp only [accepts, List.length_take, List.length_append, decide_eq_true_eq]
        omega⟩
    · rw [onRead_body rfl bs hz hoff]
      exact ⟨⟨h1, by simp only [List.length_append]; omega, by show offset + bs.length ≤ n; omega,
        fun _ => by show offset + bs.length < n; omega⟩, nofun⟩
  | varint max =>
    obtain ⟨ha, h⟩ := h
    cases cur with
    | some fs =>
      obtain ⟨h1, h2, h3, h4, h5⟩ := h
      simp only at ha h1 h2 h3 h4 h5
      subst h4
      simp only [bodySize] at hle
      by_cases hoff : offset + bs.length = fs
      · simp only [onRead, if_neg hz, if_pos hoff]
        refine ⟨⟨?_, rfl, (by decide : 0 < USIZE_LEN), nofun⟩, fun o ho => by
          cases ho
          refine ⟨rfl, fun p e => ?_⟩
          cases e
          simp only [accepts, List.length_append, ← h2, hoff, h5, Bool.not_false]⟩
        cases max <;> simp [AllocOk]
      · rw [onRead_body rfl bs hz hoff]
        exact ⟨⟨ha, h1, by simp only [List.length_append]; omega, by show offset + bs.length < fs; omega, rfl, h5⟩,
          nofun⟩
    | none =>
      simp only at h ha
      obtain ⟨h1, h2, h3⟩ := h
      have hreset : RInv (.varint max) ⟨rbLen, rbData, 0, none, []⟩ := ⟨ha, rfl, (by decide : 0 < USIZE_LEN), nofun⟩
      obtain ⟨b, rfl⟩ := List.length_eq_one_iff.1 (Nat.le_antisymm hle (List.length_pos_iff.2 hne))
      simp only [onRead, List.length_singleton, if_neg (Nat.succ_ne_zero 0)]
      rw [readPayloadSize_snoc svData b h3 (by omega)]
      cases hb : isLast b with
      | false =>
        by_cases hlt : svData.length + 1 < USIZE_LEN
        · simp only [Bool.false_eq_true, if_false, if_pos hlt]
          refine ⟨⟨ha, by simp only [List.length_append, List.length_singleton]; omega,
            by show offset + 1 < USIZE_LEN; omega, ?_⟩, nofun⟩
          intro x hx
          rcases List.mem_append.mp hx with hx | hx
          · exact h3 x hx
          · cases List.mem_singleton.mp hx; exact hb
        · simp only [Bool.false_eq_true, if_false, if_neg hlt]
          exact ⟨hreset, fun o ho => by cases ho; exact ⟨rfl, nofun⟩⟩
      | true =>
        simp only [if_true]
        cases decodeLoop (svData ++ [b]) 0 0 with
        | error e => exact ⟨hreset, fun o ho => by cases ho; exact ⟨rfl, nofun⟩⟩
        | ok size =>
          simp only []
          rw [if_neg (by omega)]
          by_cases hov : overMax max size = true
          · rw [if_pos hov]
            exact ⟨hreset, fun o ho => by cases ho; exact ⟨rfl, nofun⟩⟩
          · rw [if_neg hov]
            by_cases hs0 : size = 0
            · rw [if_pos hs0]
              exact ⟨hreset, fun o ho => by
                cases ho
                refine ⟨rfl, fun p e => ?_⟩
                cases e
                simpa [accepts, hs0] using hov⟩
            · rw [if_neg hs0]
              refine ⟨⟨?_, rfl, rfl, by show 0 < size; omega, rfl, by simpa using hov⟩, nofun⟩
              cases max with
              | none => trivial
              | some m =>
                simp [overMax] at hov
                exact Nat.le_trans hov (Nat.le_max_right _ _)

theorem pollNextF_inv (codec : Codec) (fuel : Nat) (st : RState) (car : Carrier) (h : RInv codec st) :
    (pollNextF codec fuel st car).1.isPanic = false ∧ RInv codec (pollNextF codec fuel st car).2.1 ∧
      ∀ p, (pollNextF codec fuel st car).1 = .frame p → accepts codec p = true := by
  induction fuel generalizing st car with
  | zero => exact ⟨rfl, h, nofun⟩
  | succ fuel ih =>
    obtain ⟨cap, hcap⟩ := readCap_ok h
    unfold pollNextF
    simp only [hcap]
    obtain ⟨hinv, hnp⟩ := onRead_inv h cap hcap (carRead cap car).1 (carRead_le cap car)
    cases ho : (onRead codec st (carRead cap car).1) with
    | mk st' o =>
      rw [ho] at hinv hnp
      cases o with
      | some out => exact ⟨(hnp out rfl).1, hinv, (hnp out rfl).2⟩
      | none => exact ih st' _ hinv

theorem recvAllF_no_panic (codec : Codec) (fuel : Nat) (st : RState) (car : Carrier) (h : RInv codec st) :
    ∀ o ∈ recvAllF codec fuel st car, o.isPanic = false := by
  induction fuel generalizing st car with
  | zero => simp [recvAllF]
  | succ fuel ih =>
    unfold recvAllF
    cases car with
    | nil => simp
    | cons s r =>
      obtain ⟨hp, hinv, _⟩ := pollNextF_inv codec (carSize (s :: r) + 1) st (s :: r) h
      unfold pollNext
      simp only [hp, Bool.false_eq_true, if_false]
      intro o ho
      cases ho with
      | head => exact hp
      | tail _ ho => exact ih _ _ hinv o ho

/-- States the reader can be in at a loop head of `poll_next`: the initial state, and the state
after any inner read result the carrier may produce (at most `cap` bytes). -/
inductive Reach (codec : Codec) : RState → Prop
  | init : Reach codec (RState.init codec)
  | step (st : RState) (cap : Nat) (r : RdRes) : Reach codec st → readCap codec st = .ok cap →
      (∀ bs, r = .ok bs → bs.length ≤ cap) → Reach codec (onRead codec st r).1

theorem reach_inv {codec : Codec} {st : RState} (h : Reach codec st) : RInv codec st := by
  induction h with
  | init => exact rinv_init codec
  | step st cap r _ hcap hr ih => exact (onRead_inv ih cap hcap r hr).1

theorem reach_pollNextF (codec : Codec) (fuel : Nat) (st : RState) (car : Carrier) (h : Reach codec st) :
    Reach codec (pollNextF codec fuel st car).2.1 := by
  induction fuel generalizing st car with
  | zero => exact h
  | succ fuel ih =>
    obtain ⟨cap, hcap⟩ := readCap_ok (reach_inv h)
    unfold pollNextF
    simp only [hcap]
    have hstep := Reach.step st cap (carRead cap car).1 h hcap (carRead_le cap car)
    cases ho : (onRead codec st (carRead cap car).1) with
    | mk st' o =>
      rw [ho] at hstep
      cases o with
      | some out => exact hstep
      | none => exact ih st' _ hstep

end Litep2pVerif.Substream
