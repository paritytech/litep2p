import Litep2pVerif.Model.Noise.Transport
/-! The `NoiseSocket` model (C02): the cipher laws and their term model, the buffer copies, the writer
(`poll_write`, `poll_flush`) with its stream invariant `WSInv`, and what the reader's proof rests on — the buffer
invariant `RInv`, the output bookkeeping `SInv`, ciphertext integrity `Authentic`, runs. The reader's loop itself
is analysed in `Align.lean`. -/
namespace Litep2pVerif.Noise.Transport

/-- Laws of the cipher (ideal AEAD with explicit nonce) and of the byte embedding. They are
hypotheses of the theorems; `termLaws` proves them for the free term model. -/
structure WireLaws {C : Type} (P : Params) (w : WireOps C) : Prop where
  enc_len : ∀ n p, (w.enc n p).length = p.len + P.T
  dec_iff : ∀ n c p, w.dec n c = some p ↔ c = w.enc n p
  enc_inj : ∀ n p n' p', w.enc n p = w.enc n' p' → n = n' ∧ p = p'
  toByte_ofByte : ∀ v, v < 256 → w.toByte (w.ofByte v) = v

theorem termEnc_length (T n : Nat) (p : Chunk) : (termEnc T n p).length = p.len + T := by
  simp [termEnc]

theorem termEnc_head (T n : Nat) (p : Chunk) (hT : 1 ≤ T) :
    ∃ tl, termEnc T n p = .ct n p.start p.len 0 :: tl := by
  unfold termEnc
  have : p.len + T = (p.len + T - 1) + 1 := by omega
  rw [this, List.range_succ_eq_map]
  simp

theorem termDec_iff (T : Nat) (hT : 1 ≤ T) (n : Nat) (c : List TCell) (p : Chunk) :
    termDec T n c = some p ↔ c = termEnc T n p := by
  constructor
  · intro h
    unfold termDec at h
    split at h
    · rename_i n' s l tl
      split at h
      · rename_i hc
        cases h
        exact hc.2
      · cases h
    · cases h
  · intro h
    obtain ⟨tl, htl⟩ := termEnc_head T n p hT
    subst h
    unfold termDec
    rw [htl]
    simp only []
    rw [← htl]
    simp

theorem termEnc_inj (T : Nat) (hT : 1 ≤ T) (n : Nat) (p : Chunk) (n' : Nat) (p' : Chunk)
    (h : termEnc T n p = termEnc T n' p') : n = n' ∧ p = p' := by
  obtain ⟨tl, htl⟩ := termEnc_head T n p hT
  obtain ⟨tl', htl'⟩ := termEnc_head T n' p' hT
  rw [htl, htl'] at h
  injection h with h1 _
  injection h1 with a b c _
  refine ⟨a, ?_⟩
  cases p; cases p'; simp_all

theorem termLaws (P : Params) (hT : 1 ≤ P.T) : WireLaws P (termWire P.T) where
  enc_len := termEnc_length P.T
  dec_iff := termDec_iff P.T hT
  enc_inj := termEnc_inj P.T hT
  toByte_ofByte := by intro v _; rfl

variable {C : Type}

theorem blitList_size (buf : Array C) (dst : Nat) (l : List C) : (blitList buf dst l).size = buf.size := by
  induction l generalizing buf dst with
  | nil => rfl
  | cons x xs ih => simp [blitList, ih]

theorem blitList_getElem? (buf : Array C) (dst : Nat) (l : List C) (j : Nat) :
    (blitList buf dst l)[j]? =
      if dst ≤ j ∧ j < dst + l.length ∧ j < buf.size then l[j - dst]? else buf[j]? := by
  induction l generalizing buf dst with
  | nil => simp [blitList]; omega
  | cons x xs ih =>
    simp only [blitList, ih, Array.size_setIfInBounds, Array.getElem?_setIfInBounds, List.length_cons]
    by_cases h1 : dst + 1 ≤ j
    · have : j - dst = (j - (dst+1)) + 1 := by omega
      by_cases h2 : j < dst + 1 + xs.length ∧ j < buf.size
      · simp [h1, h2, this]; grind
      · grind
    · by_cases h3 : dst = j
      · subst h3; simp; grind
      · grind

theorem blit_size (fill : C) (buf : Array C) (dst : Nat) (src : Array C) (fr n : Nat) :
    (blit fill buf dst src fr n).size = buf.size := by
  induction n generalizing buf dst fr with
  | zero => rfl
  | succ n ih => simp [blit, ih]

theorem blit_eq_blitList (fill : C) (buf : Array C) (dst : Nat) (src : Array C) (fr n : Nat) (h : fr + n ≤ src.size) :
    blit fill buf dst src fr n = blitList buf dst (src.extract fr (fr + n)).toList := by
  induction n generalizing buf dst fr with
  | zero => simp [blit, blitList]
  | succ n ih =>
    have hlt : fr < src.size := by omega
    have e : (src.extract fr (fr + (n + 1))).toList = src[fr] :: (src.extract (fr + 1) (fr + 1 + n)).toList := by
      simp only [Array.toList_extract, List.extract_eq_take_drop]
      rw [List.drop_eq_getElem_cons (by simpa using hlt)]
      simp
    rw [blit, ih _ _ _ (by omega), e, blitList, Array.getD, dif_pos hlt]
    rfl

theorem blit_getElem? (fill : C) (buf : Array C) (dst : Nat) (src : Array C) (fr n : Nat) (j : Nat)
    (hsrc : fr + n ≤ src.size) :
    (blit fill buf dst src fr n)[j]? =
      if dst ≤ j ∧ j < dst + n ∧ j < buf.size then src[fr + (j - dst)]? else buf[j]? := by
  have hn : min (fr + n) src.size - fr = n := by omega
  rw [blit_eq_blitList _ _ _ _ _ _ hsrc, blitList_getElem?, Array.length_toList, Array.size_extract, hn]
  split
  · rw [Array.getElem?_toList, Array.getElem?_extract, hn, if_pos (by omega)]
  · rfl

/-- Script entries of a carrier that never fails (`Ok(0)` and `Err` excluded). -/
def GoodW : WHint → Prop
  | .acc k => 1 ≤ k
  | .pend => True
  | .zero => False
  | .err => False

def NoFault (script : List WHint) : Prop := ∀ h ∈ script, GoodW h

def WInv (P : Params) (s : WriteSock C) : Prop :=
  s.ebuf.size = P.encSize ∧
  match s.st with
  | .idle => True
  | .writing off len => off < len ∧ len ≤ s.ebuf.size

theorem WCarrier.write_spec (c : WCarrier C) (ebuf : Array C) (lo hi : Nat) (h : lo < hi) :
    (NoFault c.script → NoFault (c.write ebuf lo hi).1.script) ∧
    (c.write ebuf lo hi).1.script.length ≤ c.script.length ∧
    match (c.write ebuf lo hi).2 with
    | .accepted n => n ≤ hi - lo ∧ (c.write ebuf lo hi).1.out = c.out ++ ebuf.extract lo (lo + n) ∧
        (NoFault c.script → 1 ≤ n)
    | .pending => (c.write ebuf lo hi).1.out = c.out ∧ (c.write ebuf lo hi).1.script.length < c.script.length
    | .err => (c.write ebuf lo hi).1.out = c.out ∧ ¬ NoFault c.script := by
  unfold WCarrier.write
  cases hs : c.script with
  | nil =>
    simp only [NoFault]
    refine ⟨fun _ => by simp, by simp, ?_, ?_, ?_⟩
    · omega
    · have : lo + (hi - lo) = hi := by omega
      rw [this]
    · intro; omega
  | cons hd tl =>
    have htl : NoFault (hd :: tl) → NoFault tl := fun h x hx => h x (List.mem_cons_of_mem _ hx)
    have hlt : tl.length < (hd :: tl).length := Nat.lt_succ_self _
    cases hd with
    | acc k =>
      refine ⟨htl, Nat.le_of_lt hlt, ?_, rfl, ?_⟩
      · exact Nat.min_le_right _ _
      · intro hf
        have := hf (.acc k) (List.mem_cons_self ..)
        simp only [GoodW] at this
        omega
    | pend => exact ⟨htl, Nat.le_of_lt hlt, rfl, hlt⟩
    | zero =>
      refine ⟨htl, Nat.le_of_lt hlt, by omega, by simp [Nat.min_le_left], ?_⟩
      intro hf
      exact absurd (hf .zero (List.mem_cons_self ..)) (by simp [GoodW])
    | err =>
      refine ⟨htl, Nat.le_of_lt hlt, rfl, ?_⟩
      intro hf
      exact absurd (hf .err (List.mem_cons_self ..)) (by simp [GoodW])

/-- Bytes encrypted but not yet handed to the carrier. -/
def wtail (s : WriteSock C) : List C :=
  match s.st with
  | .idle => []
  | .writing off len => (s.ebuf.extract off len).toList

theorem extract_split (a : Array C) (i j k : Nat) (h1 : i ≤ j) (h2 : j ≤ k) :
    (a.extract i j).toList ++ (a.extract j k).toList = (a.extract i k).toList := by
  rw [← Array.toList_append, Array.extract_append_extract]
  simp [Nat.min_eq_left h1, Nat.max_eq_right h2]

theorem drain_spec (P : Params) {fuel : Nat} {s s' : WriteSock C} {c c' : WCarrier C} {o : DrainOut}
    (hinv : WInv P s) (hfuel : drainFuel s ≤ fuel) (e : drain fuel s c = (s', c', o)) :
    WInv P s' ∧ s'.nonce = s.nonce ∧ c'.out.toList ++ wtail s' = c.out.toList ++ wtail s ∧
    (∀ m, o ≠ .panic m) ∧ (o = .idle → s'.st = .idle) ∧
    (NoFault c.script → NoFault c'.script ∧ ∀ x, o ≠ .err x) ∧ o ≠ .err .invalidData ∧
    c'.script.length ≤ c.script.length ∧ (o = .blocked → c'.script.length < c.script.length) := by
  induction fuel generalizing s c with
  | zero =>
    exfalso
    unfold drainFuel at hfuel
    split at hfuel <;> omega
  | succ fuel ih =>
    unfold drain at e
    cases hst : s.st with
    | idle =>
      rw [hst] at e; cases e
      exact ⟨hinv, rfl, rfl, nofun, fun _ => hst, fun hf => ⟨hf, nofun⟩, nofun, Nat.le_refl _, nofun⟩
    | writing off len =>
      have hb : off < len ∧ len ≤ s.ebuf.size := by
        have := hinv.2; rwa [hst] at this
      rw [hst] at e
      simp only [] at e
      rw [if_neg (by omega)] at e
      have hw := WCarrier.write_spec c s.ebuf off len hb.1
      rcases hcw : c.write s.ebuf off len with ⟨c1, a⟩
      rw [hcw] at hw e
      obtain ⟨hsc, hle, hw⟩ := hw
      cases a with
      | pending =>
        cases e
        exact ⟨hinv, rfl, by rw [hw.1], nofun, nofun, fun hf => ⟨hsc hf, nofun⟩, nofun, hle, fun _ => hw.2⟩
      | err =>
        cases e
        exact ⟨hinv, rfl, by rw [hw.1], nofun, nofun, fun hf => absurd hf hw.2, nofun, hle, nofun⟩
      | accepted n =>
        obtain ⟨hn, hout, hpos⟩ := hw
        simp only [] at e hn hout hpos
        by_cases hn0 : n = 0
        · rw [if_pos hn0] at e; cases e
          subst hn0
          refine ⟨hinv, rfl, by rw [hout]; simp, nofun, nofun, fun hf => ?_, nofun, hle, nofun⟩
          have := hpos hf; omega
        · rw [if_neg hn0] at e
          by_cases hfull : off + n = len
          · rw [if_pos hfull] at e; cases e
            refine ⟨⟨hinv.1, trivial⟩, rfl, ?_, nofun, fun _ => rfl, fun hf => ⟨hsc hf, nofun⟩, nofun, hle, nofun⟩
            simp only [wtail, hst, hout, hfull, Array.toList_append, List.append_nil]
          · rw [if_neg hfull] at e
            obtain ⟨i1, i2, i3, i4, i5, i6, i7, i8, i9⟩ := ih (s := { s with st := .writing (off + n) len })
              ⟨hinv.1, by omega, hb.2⟩ (by simp only [drainFuel, hst] at hfuel ⊢; omega) e
            refine ⟨i1, i2, ?_, i4, i5, fun hf => i6 (hsc hf), i7, Nat.le_trans i8 hle,
              fun hb => Nat.lt_of_lt_of_le (i9 hb) hle⟩
            rw [i3, hout]
            simp only [wtail, hst, Array.toList_append, List.append_assoc]
            rw [extract_split _ _ _ _ (by omega) (by omega)]

/-- One frame on the wire: big-endian `u16` length, then the ciphertext. -/
def frameBytes (w : WireOps C) (T n : Nat) (ch : Chunk) : List C :=
  w.ofByte ((ch.len + T) / 256 % 256) :: w.ofByte ((ch.len + T) % 256) :: w.enc n ch

/-- The wire image of a list of plaintext chunks encrypted under nonces `n, n+1, …`. -/
def wireOf (w : WireOps C) (T : Nat) : Nat → List Chunk → List C
  | _, [] => []
  | n, ch :: r => frameBytes w T n ch ++ wireOf w T (n + 1) r

/-- Consecutive non-empty chunks of at most `MAXF` bytes starting at position `pos`. -/
def FramesFrom (MAXF : Nat) : Nat → List Chunk → Prop
  | _, [] => True
  | pos, ch :: r => ch.start = pos ∧ 1 ≤ ch.len ∧ ch.len ≤ MAXF ∧ FramesFrom MAXF (pos + ch.len) r

def plen (fr : List Chunk) : Nat := (fr.map (·.len)).sum

theorem wireOf_append (w : WireOps C) (T n : Nat) (a b : List Chunk) :
    wireOf w T n (a ++ b) = wireOf w T n a ++ wireOf w T (n + a.length) b := by
  induction a generalizing n with
  | nil => simp [wireOf]
  | cons x xs ih =>
    simp only [List.cons_append, wireOf, ih, List.length_cons, List.append_assoc]
    rw [show n + 1 + xs.length = n + (xs.length + 1) by omega]

theorem FramesFrom_append (MAXF pos : Nat) (a b : List Chunk) :
    FramesFrom MAXF pos (a ++ b) ↔ FramesFrom MAXF pos a ∧ FramesFrom MAXF (pos + plen a) b := by
  induction a generalizing pos with
  | nil => simp [FramesFrom, plen]
  | cons x xs ih =>
    simp only [List.cons_append, FramesFrom, ih, plen, List.map_cons, List.sum_cons]
    rw [show pos + x.len + (List.map (fun x => x.len) xs).sum = pos + (x.len + (List.map (fun x => x.len) xs).sum) by omega]
    constructor <;> intro h <;> simp_all

theorem plen_append (a b : List Chunk) : plen (a ++ b) = plen a + plen b := by
  simp [plen]

/-- State of `write_state` after step 3. -/
def stAfter (st : WState) (bo : Nat) : WState :=
  match st with
  | .idle => .writing 0 bo
  | .writing off _ => .writing off bo

theorem frame_region (ebuf : Array C) (bo : Nat) (ct : List C) (x y : C)
    (h : bo + (ct.length + 2) ≤ ebuf.size) :
    ((((blitList ebuf (bo + 2) ct).setIfInBounds bo x).setIfInBounds (bo + 1) y).extract bo
        (bo + (ct.length + 2))).toList = x :: y :: ct := by
  apply List.ext_getElem?
  intro i
  rw [Array.getElem?_toList, Array.getElem?_extract]
  simp only [Array.size_setIfInBounds, blitList_size, Array.getElem?_setIfInBounds, blitList_getElem?]
  by_cases h0 : i = 0
  · subst h0; simp; omega
  · by_cases h1 : i = 1
    · subst h1; simp; omega
    · by_cases h2 : i < ct.length + 2
      · have e : i = (i - 2) + 2 := by omega
        rw [if_pos (by omega), if_neg (by omega), if_neg (by omega), if_pos (by omega)]
        rw [show bo + i - (bo + 2) = i - 2 by omega]
        conv => rhs; rw [e]
        simp
      · rw [if_neg (by omega)]
        have : (x :: y :: ct).length ≤ i := by simp; omega
        rw [List.getElem?_eq_none this]

theorem frame_untouched (ebuf : Array C) (bo : Nat) (ct : List C) (x y : C) (j : Nat) (hj : j < bo) :
    (((blitList ebuf (bo + 2) ct).setIfInBounds bo x).setIfInBounds (bo + 1) y)[j]? = ebuf[j]? := by
  simp only [Array.getElem?_setIfInBounds, blitList_getElem?]
  rw [if_neg (by omega), if_neg (by omega), if_neg (by omega)]

theorem extract_congr (a b : Array C) (lo hi : Nat) (hsz : a.size = b.size)
    (h : ∀ j, lo ≤ j → j < hi → a[j]? = b[j]?) : (a.extract lo hi).toList = (b.extract lo hi).toList := by
  apply List.ext_getElem?
  intro i
  rw [Array.getElem?_toList, Array.getElem?_toList, Array.getElem?_extract, Array.getElem?_extract, hsz]
  split
  · apply h <;> omega
  · rfl

/-- Side conditions on the constants used by the write path. -/
structure WConsts (P : Params) : Prop where
  tag : P.T = P.TAG
  maxf : 1 ≤ P.MAXF
  /-- the largest frame fits a snow message: `MAX_FRAME_LEN + TAGLEN ≤ MAXMSGLEN` -/
  snow : P.MAXF + P.T ≤ P.SNOWMAX

theorem finishWrite_spec (s : WriteSock C) (bo total : Nat) :
    (finishWrite s bo total).1.ebuf = s.ebuf ∧ (finishWrite s bo total).1.nonce = s.nonce ∧
    if total = 0 then (finishWrite s bo total).2 = .pending ∧ (finishWrite s bo total).1.st = s.st
    else (finishWrite s bo total).2 = .ok total ∧ (finishWrite s bo total).1.st = stAfter s.st bo := by
  unfold finishWrite
  by_cases h : total = 0
  · simp [h]
  · simp only [h, if_false]
    cases hst : s.st <;> simp [stAfter]

/-- `bo`: the buffer offset the chunk loop starts from; `total`: the bytes taken before it. -/
def EncPost (P : Params) (w : WireOps C) (s : WriteSock C) (pos rem bo total : Nat) (r : WriteSock C × WOut) :
    Prop :=
  ∃ fr bo',
    FramesFrom P.MAXF pos fr ∧ plen fr ≤ rem ∧ r.1.nonce = s.nonce + fr.length ∧ r.1.ebuf.size = s.ebuf.size ∧
    bo' = bo + (wireOf w P.T s.nonce fr).length ∧ bo' ≤ s.ebuf.size ∧
    (∀ j, j < bo → r.1.ebuf[j]? = s.ebuf[j]?) ∧ (r.1.ebuf.extract bo bo').toList = wireOf w P.T s.nonce fr ∧
    (if total + plen fr = 0 then r.2 = .pending ∧ r.1.st = s.st
      else r.2 = .ok (total + plen fr) ∧ r.1.st = stAfter s.st bo')

theorem encLoop_spec (P : Params) (w : WireOps C) (hl : WireLaws P w) (hc : WConsts P)
    (fuel : Nat) (s : WriteSock C) (pos rem bo total : Nat) (hfuel : rem ≤ fuel) (hbo : bo ≤ s.ebuf.size) :
    EncPost P w s pos rem bo total (encLoop P w fuel s pos rem bo total) := by
  have stop : ∀ {s : WriteSock C} {bo total : Nat} (pos rem : Nat), bo ≤ s.ebuf.size →
      EncPost P w s pos rem bo total (finishWrite s bo total) := by
    intro s bo total pos rem hbo
    have hf := finishWrite_spec s bo total
    refine ⟨[], bo, trivial, by simp [plen], ?_⟩
    simp only [plen, wireOf, List.map_nil, List.sum_nil, List.length_nil, Nat.add_zero]
    exact ⟨hf.2.1, by rw [hf.1], trivial, hbo, fun j _ => by rw [hf.1], by simp, hf.2.2⟩
  induction fuel generalizing s pos rem bo total with
  | zero => exact stop pos rem hbo
  | succ fuel ih =>
    unfold encLoop
    by_cases hrem : rem = 0
    · rw [if_pos hrem]; exact stop pos rem hbo
    · rw [if_neg hrem]
      by_cases hfit : bo + min rem P.MAXF + (2 + P.TAG) > s.ebuf.size
      · rw [if_pos hfit]; exact stop pos rem hbo
      · rw [if_neg hfit]
        have hcl : 1 ≤ min rem P.MAXF := by have := hc.maxf; omega
        have hcm : min rem P.MAXF ≤ P.MAXF := Nat.min_le_right _ _
        have hsw : snowWrite P w s.nonce ⟨pos, min rem P.MAXF⟩ (s.ebuf.size - (bo + 2))
            = some (w.enc s.nonce ⟨pos, min rem P.MAXF⟩) := by
          unfold snowWrite
          have h1 := hc.snow; have h2 := hc.tag
          rw [if_neg]; simp only []; omega
        rw [hsw]
        simp only []
        have hlen : (w.enc s.nonce ⟨pos, min rem P.MAXF⟩).length = min rem P.MAXF + P.T := hl.enc_len _ _
        generalize hct : w.enc s.nonce ⟨pos, min rem P.MAXF⟩ = ct at hlen ⊢
        have htag := hc.tag
        have hbo1 : bo + (ct.length + 2) ≤ s.ebuf.size := by omega
        obtain ⟨fr, bo', h1, h2, h3, h4, h5, h6, h7, h8, h9⟩ :=
          ih { s with
                ebuf := ((blitList s.ebuf (bo + 2) ct).setIfInBounds bo
                  (w.ofByte (ct.length / 256 % 256))).setIfInBounds (bo + 1) (w.ofByte (ct.length % 256)),
                nonce := s.nonce + 1 }
            (pos + min rem P.MAXF) (rem - min rem P.MAXF) (bo + (ct.length + 2)) (total + min rem P.MAXF)
            (by omega) (by simp [blitList_size]; omega)
        simp only [Array.size_setIfInBounds, blitList_size] at h4 h6
        refine ⟨⟨pos, min rem P.MAXF⟩ :: fr, bo', ⟨rfl, hcl, hcm, h1⟩, ?_, ?_, h4, ?_, h6, ?_, ?_, ?_⟩
        · simp only [plen, List.map_cons, List.sum_cons] at h2 ⊢; omega
        · rw [h3]; simp; omega
        · rw [h5]; simp only [wireOf, frameBytes, List.length_append, List.length_cons, hct, hlen]
          omega
        · intro j hj
          rw [h7 j (by omega)]
          exact frame_untouched s.ebuf bo ct _ _ j hj
        · have hb1 : bo + (ct.length + 2) ≤ bo' := by omega
          rw [← extract_split _ bo (bo + (ct.length + 2)) bo' (by omega) hb1, h8]
          simp only [wireOf, frameBytes, hct]
          rw [extract_congr _ _ bo (bo + (ct.length + 2)) (by simp [h4, blitList_size]) (fun j _ hj => h7 j hj)]
          rw [frame_region s.ebuf bo ct _ _ hbo1, hlen]
        · have e : total + plen (⟨pos, min rem P.MAXF⟩ :: fr) = total + min rem P.MAXF + plen fr := by
            simp only [plen, List.map_cons, List.sum_cons]; omega
          rw [e]
          exact h9

/-- Stream invariant of the writer: what the carrier accepted so far, followed by what waits in the
encrypt buffer, is the wire image of the frames encrypted so far (nonces 0, 1, …), and these frames
are consecutive chunks covering plaintext positions `0 … wpos-1`. -/
structure WSInv (P : Params) (w : WireOps C) (s : WriteSock C) (c : WCarrier C)
    (frames : List Chunk) (wpos : Nat) : Prop where
  inv : WInv P s
  frs : FramesFrom P.MAXF 0 frames
  total : plen frames = wpos
  nonce : s.nonce = frames.length
  stream : c.out.toList ++ wtail s = wireOf w P.T 0 frames

theorem eq_nil_of_plen_eq_zero {MAXF pos : Nat} {fr : List Chunk} (h : FramesFrom MAXF pos fr)
    (h0 : plen fr = 0) : fr = [] := by
  cases fr with
  | nil => rfl
  | cons x xs => simp only [FramesFrom] at h; simp only [plen, List.map_cons, List.sum_cons] at h0; omega

theorem wireOf_length_pos (w : WireOps C) (T n : Nat) (fr : List Chunk) (h : fr ≠ []) :
    2 ≤ (wireOf w T n fr).length := by
  cases fr with
  | nil => exact absurd rfl h
  | cons x xs => simp [wireOf, frameBytes]

theorem bufferOffset_le (P : Params) (s : WriteSock C) (h : WInv P s) : bufferOffset s ≤ s.ebuf.size := by
  unfold bufferOffset
  have := h.2
  split <;> simp_all

theorem wtail_congr {P : Params} {s r : WriteSock C} (hinv : WInv P s) (hsz : r.ebuf.size = s.ebuf.size)
    (h7 : ∀ j, j < bufferOffset s → r.ebuf[j]? = s.ebuf[j]?) (hst : r.st = s.st) :
    WInv P r ∧ wtail r = wtail s := by
  refine ⟨⟨hsz.trans hinv.1, by rw [hst, hsz]; exact hinv.2⟩, ?_⟩
  unfold wtail
  rw [hst]
  cases hs : s.st with
  | idle => rfl
  | writing off len =>
    simp only [bufferOffset, hs] at h7
    exact extract_congr _ _ _ _ hsz fun j _ hj => h7 j hj

/-- Step 3 of `poll_write` after at least one frame. -/
theorem wtail_stAfter {P : Params} {s r : WriteSock C} (hinv : WInv P s) (hsz : r.ebuf.size = s.ebuf.size)
    {bo' : Nat} (hbo : bufferOffset s < bo') (hle : bo' ≤ s.ebuf.size)
    (h7 : ∀ j, j < bufferOffset s → r.ebuf[j]? = s.ebuf[j]?) (hst : r.st = stAfter s.st bo') :
    WInv P r ∧ wtail r = wtail s ++ (r.ebuf.extract (bufferOffset s) bo').toList := by
  have h2 := hinv.2
  unfold wtail
  rw [hst]
  cases hs : s.st with
  | idle =>
    simp only [bufferOffset, hs] at hbo ⊢
    exact ⟨⟨hsz.trans hinv.1, by rw [hst, hs, hsz]; exact ⟨hbo, hle⟩⟩, rfl⟩
  | writing off len =>
    simp only [stAfter, bufferOffset, hs] at hbo h7 h2 ⊢
    refine ⟨⟨hsz.trans hinv.1, by rw [hst, hs, hsz]; exact ⟨Nat.lt_trans h2.1 hbo, hle⟩⟩, ?_⟩
    rw [← extract_split _ off len bo' (Nat.le_of_lt h2.1) (Nat.le_of_lt hbo)]
    congr 1
    exact extract_congr _ _ _ _ hsz fun j _ hj => h7 j hj

theorem encryptStep_spec (P : Params) (w : WireOps C) (hl : WireLaws P w) (hc : WConsts P)
    (s : WriteSock C) (c : WCarrier C) (frames : List Chunk) (wpos n : Nat)
    (h : WSInv P w s c frames wpos) :
    (∀ m, (encryptStep P w s wpos n).2 ≠ .panic m) ∧ (∀ e, (encryptStep P w s wpos n).2 ≠ .err e) ∧
    match (encryptStep P w s wpos n).2 with
    | .ok k => k ≤ n ∧ (0 < n → 1 ≤ k) ∧
        ∃ fr, WSInv P w (encryptStep P w s wpos n).1 c (frames ++ fr) (wpos + k)
    | .pending => 0 < n ∧ WSInv P w (encryptStep P w s wpos n).1 c frames wpos
    | _ => True := by
  unfold encryptStep
  by_cases hn : n = 0
  · subst hn
    simp only [if_true]
    refine ⟨by simp, by simp, Nat.le_refl _, by omega, [], ?_⟩
    simpa using h
  · rw [if_neg hn, if_neg (by have := hc.maxf; omega)]
    obtain ⟨fr, bo', h1, h2, h3, h4, h5, h6, h7, h8, h9⟩ :=
      encLoop_spec P w hl hc n s wpos n (bufferOffset s) 0 (Nat.le_refl _) (bufferOffset_le P s h.inv)
    generalize encLoop P w n s wpos n (bufferOffset s) 0 = r at *
    simp only [Nat.zero_add] at h9
    by_cases hz : plen fr = 0
    · rw [if_pos hz] at h9
      obtain rfl := eq_nil_of_plen_eq_zero h1 hz
      obtain ⟨hi, ht⟩ := wtail_congr h.inv h4 h7 h9.2
      rw [h9.1]
      exact ⟨by simp, by simp, by omega, hi, h.frs, h.total, by rw [h3, h.nonce]; rfl, by rw [ht, h.stream]⟩
    · rw [if_neg hz] at h9
      have hwl := wireOf_length_pos w P.T s.nonce fr (by intro e; subst e; simp [plen] at hz)
      obtain ⟨hi, ht⟩ := wtail_stAfter h.inv h4 (by omega) h6 h7 h9.2
      rw [h9.1]
      refine ⟨by simp, by simp, h2, fun _ => by omega, fr, hi, ?_, by rw [plen_append, h.total],
        by rw [h3, h.nonce]; simp, ?_⟩
      · rw [FramesFrom_append]; exact ⟨h.frs, by rw [h.total, Nat.zero_add]; exact h1⟩
      · rw [ht, h8, wireOf_append, ← h.stream, List.append_assoc, Nat.zero_add, h.nonce]

theorem WSInv.of_drain {P : Params} {w : WireOps C} {s s' : WriteSock C} {c c' : WCarrier C}
    {frames : List Chunk} {wpos : Nat} (h : WSInv P w s c frames wpos) (hinv : WInv P s')
    (hnonce : s'.nonce = s.nonce) (hstream : c'.out.toList ++ wtail s' = c.out.toList ++ wtail s) :
    WSInv P w s' c' frames wpos :=
  ⟨hinv, h.frs, h.total, by rw [hnonce, h.nonce], by rw [hstream, h.stream]⟩

/-- `poll_write`: never panics, never fails by itself, and extends the stream by whole frames. -/
theorem pollWrite_spec (P : Params) (w : WireOps C) (hl : WireLaws P w) (hc : WConsts P)
    (s : WriteSock C) (c : WCarrier C) (frames : List Chunk) (wpos n : Nat)
    (h : WSInv P w s c frames wpos) :
    (∀ m, (pollWrite P w s c wpos n).2.2 ≠ .panic m) ∧
    (pollWrite P w s c wpos n).2.2 ≠ .err .invalidData ∧
    (NoFault c.script → NoFault (pollWrite P w s c wpos n).2.1.script ∧
        ∀ e, (pollWrite P w s c wpos n).2.2 ≠ .err e) ∧
    match (pollWrite P w s c wpos n).2.2 with
    | .ok k => k ≤ n ∧ (0 < n → 1 ≤ k) ∧
        ∃ fr, WSInv P w (pollWrite P w s c wpos n).1 (pollWrite P w s c wpos n).2.1 (frames ++ fr) (wpos + k)
    | .pending => 0 < n ∧ WSInv P w (pollWrite P w s c wpos n).1 (pollWrite P w s c wpos n).2.1 frames wpos
    | _ => True := by
  unfold pollWrite
  rcases hd : drain (drainFuel s) s c with ⟨s', c', o⟩
  obtain ⟨hinv, hnonce, hstream, nopanic, -, hgood, hdata, -⟩ := drain_spec P h.inv (Nat.le_refl _) hd
  have hs' := h.of_drain hinv hnonce hstream
  have he := encryptStep_spec P w hl hc s' c' frames wpos n hs'
  cases o with
  | err e =>
    refine ⟨by simp, fun hh => hdata ?_, fun hf => absurd rfl ((hgood hf).2 e), trivial⟩
    simpa using hh
  | panic m => exact absurd rfl (nopanic m)
  | idle | blocked =>
    simp only []
    rcases hes : encryptStep P w s' wpos n with ⟨s'', o'⟩
    rw [hes] at he
    exact ⟨he.1, he.2.1 _, fun hf => ⟨(hgood hf).1, he.2.1⟩, he.2.2⟩

/-- `poll_flush`: never panics; `Ok` means everything encrypted so far has been handed to the carrier and the encrypt
buffer is empty; a `Pending` is a `Pending` of the carrier, which consumed a script entry. -/
theorem pollFlush_spec (P : Params) (w : WireOps C) (s : WriteSock C) (c : WCarrier C)
    (frames : List Chunk) (wpos : Nat) (h : WSInv P w s c frames wpos) :
    (∀ m, (pollFlush s c).2.2 ≠ .panic m) ∧
    (NoFault c.script → NoFault (pollFlush s c).2.1.script ∧ ∀ e, (pollFlush s c).2.2 ≠ .err e) ∧
    ((∀ e, (pollFlush s c).2.2 ≠ .err e) → WSInv P w (pollFlush s c).1 (pollFlush s c).2.1 frames wpos) ∧
    (∀ k, (pollFlush s c).2.2 = .ok k →
      (pollFlush s c).2.1.out.toList = wireOf w P.T 0 frames ∧ (pollFlush s c).1.st = .idle) ∧
    (pollFlush s c).2.1.script.length ≤ c.script.length ∧
    ((pollFlush s c).2.2 = .pending →
      (drain (drainFuel s) s c).2.2 = .blocked ∧ (pollFlush s c).2.1.script.length < c.script.length) := by
  unfold pollFlush
  rcases hd : drain (drainFuel s) s c with ⟨s', c', o⟩
  obtain ⟨hinv, hnonce, hstream, nopanic, hidle, hgood, -, hle, hlt⟩ := drain_spec P h.inv (Nat.le_refl _) hd
  have hs' := h.of_drain hinv hnonce hstream
  cases o with
  | err e =>
    exact ⟨by simp, fun hf => absurd rfl ((hgood hf).2 e), fun hh => absurd rfl (hh e), by simp, hle, by simp⟩
  | panic m => exact absurd rfl (nopanic m)
  | idle =>
    refine ⟨by simp, fun hf => ⟨(hgood hf).1, by simp⟩, fun _ => hs', fun k _ => ⟨?_, hidle rfl⟩, hle, by simp⟩
    have := hs'.stream
    simp only [wtail, hidle rfl, List.append_nil] at this
    exact this
  | blocked =>
    exact ⟨by simp, fun hf => ⟨(hgood hf).1, by simp⟩, fun _ => hs', by simp, hle, fun _ => ⟨rfl, hlt rfl⟩⟩

/-- Side conditions on the constants used by the read path. -/
structure RConsts (P : Params) : Prop where
  tag : P.T = P.TAG
  f1 : 1 ≤ P.F
  /-- a frame of `u16::MAX` bytes fits behind the read-ahead area: `65535 ≤ MAX_NOISE_MSG_LEN + 2` -/
  m : 65533 ≤ P.M

/-- Size of the frame whose body starts at `offset` and has not been consumed yet. -/
def pendSize (s : ReadSock C) : Nat :=
  match s.st with
  | .process (some _) _ _ fsz => fsz
  | _ => s.cur.getD 0

def StInv (P : Params) (s : ReadSock C) : Prop :=
  match s.st with
  | .readData m => s.nread < m ∧ m ≤ s.buf.size ∧ s.decBuf = true ∧
      (m ≤ s.canon ∨ (m ≤ s.offset + s.cur.getD 0 ∧ s.offset + s.cur.getD 0 ≤ s.buf.size))
  | .readFrameLen => s.decBuf = true
  | .process none _ _ _ => s.decBuf = true ∧ ∃ fs, s.cur = some fs ∧ P.TAG < fs ∧ s.offset + fs ≤ s.nread
  | .process (some ch) off size fsz =>
      s.cur = none ∧ off < size ∧ size ≤ P.MAXF ∧ s.offset + fsz ≤ s.nread ∧ size = ch.len

/-- The read-buffer invariant: `read_buffer[0..nread)` is the window `[cpos-nread, cpos)` of the
carrier stream, the cursors are ordered, and every slice the next step takes is in bounds. -/
structure RInv (P : Params) (s : ReadSock C) (c : RCarrier C) : Prop where
  size : s.buf.size = P.bufSize
  canon : s.canon = P.canon
  nread_le : s.nread ≤ c.cpos
  cpos_le : c.cpos ≤ c.str.size
  window : ∀ j, j < s.nread → s.buf[j]? = c.str[c.cpos - s.nread + j]?
  off_le : s.offset ≤ s.nread
  cur_lt : ∀ fs, s.cur = some fs → fs < 65536
  room : s.nread ≤ s.canon ∨ (s.nread ≤ s.offset + pendSize s ∧ s.offset + pendSize s ≤ s.buf.size)
  st : StInv P s

theorem RInv.update {P : Params} {s s' : ReadSock C} {c : RCarrier C} (h : RInv P s c) (hb : s'.buf = s.buf)
    (hn : s'.nread = s.nread) (hc : s'.canon = s.canon) (off_le : s'.offset ≤ s.nread)
    (cur_lt : ∀ fs, s'.cur = some fs → fs < 65536)
    (room : s.nread ≤ s.canon ∨ (s.nread ≤ s'.offset + pendSize s' ∧ s'.offset + pendSize s' ≤ s.buf.size))
    (st : StInv P s') : RInv P s' c :=
  ⟨hb ▸ h.size, hc ▸ h.canon, hn ▸ h.nread_le, h.cpos_le, by rw [hb, hn]; exact h.window, hn ▸ off_le, cur_lt,
    by rw [hb, hn, hc]; exact room, st⟩

theorem canon_ge (P : Params) (hc : RConsts P) : 65533 ≤ P.canon := by
  have h1 := hc.f1; have h2 := hc.m
  unfold Params.canon
  calc 65533 ≤ P.M := h2
    _ = 1 * P.M := by omega
    _ ≤ P.F * P.M := Nat.mul_le_mul_right _ h1

theorem bufSize_eq (P : Params) : P.bufSize = P.canon + (2 + P.M) := rfl

theorem RInv.canon_le_size {P : Params} {s : ReadSock C} {c : RCarrier C} (h : RInv P s c) : s.canon ≤ s.buf.size := by
  rw [h.size, h.canon, bufSize_eq]; exact Nat.le_add_right _ _

theorem RInv.nread_le_size {P : Params} {s : ReadSock C} {c : RCarrier C} (h : RInv P s c) : s.nread ≤ s.buf.size :=
  h.room.elim (fun hr => Nat.le_trans hr h.canon_le_size) fun hr => Nat.le_trans hr.1 hr.2

/-- Plaintext position at which frame `n` starts. -/
def startOf (frames : List Chunk) (n : Nat) : Nat := plen (frames.take n)

/-- Output bookkeeping: `outLen` bytes were handed out so far, they are the first `outLen` stream
positions, and the nonce counts the frames decrypted. -/
def SInv (frames : List Chunk) (s : ReadSock C) (outLen : Nat) : Prop :=
  match s.st with
  | .process (some ch) off _ _ => 1 ≤ s.nonce ∧ frames[s.nonce - 1]? = some ch ∧ outLen = ch.start + off
  | _ => s.nonce ≤ frames.length ∧ outLen = startOf frames s.nonce

/-- Ciphertext integrity for the stream on the carrier: whatever window of it decrypts under nonce
`n` is the writer's `n`-th frame (the attacker can rearrange, cut and corrupt, but cannot make a
valid ciphertext of its own). Proved for the term model in `Authentic_term`. -/
def Authentic (w : WireOps C) (frames : List Chunk) (str : List C) : Prop :=
  ∀ n i len p, i + len ≤ str.length → w.dec n ((str.drop i).take len) = some p → frames[n]? = some p

theorem framesFrom_get {B pos : Nat} {frames : List Chunk} (h : FramesFrom B pos frames) {n : Nat} {ch : Chunk}
    (hn : frames[n]? = some ch) :
    ch.start = pos + plen (frames.take n) ∧ plen (frames.take (n + 1)) = plen (frames.take n) + ch.len ∧
    n < frames.length ∧ 1 ≤ ch.len ∧ ch.len ≤ B := by
  induction frames generalizing pos n with
  | nil => simp at hn
  | cons x xs ih =>
    cases n with
    | zero =>
      simp at hn; subst hn
      simp only [FramesFrom] at h
      simp [plen, h.1, h.2.1, h.2.2.1]
    | succ n =>
      simp only [List.getElem?_cons_succ] at hn
      simp only [FramesFrom] at h
      obtain ⟨a, b, c, d⟩ := ih h.2.2.2 hn
      refine ⟨?_, ?_, by simp; omega, d⟩
      · rw [a]; simp [plen]; omega
      · simp only [plen, List.take_succ_cons, List.map_cons, List.sum_cons] at b ⊢; omega

theorem snowRead_some (P : Params) (w : WireOps C) (hl : WireLaws P w) (n : Nat) (msg : List C) (sp : Nat)
    (ch : Chunk) (h : snowRead P w n msg sp = some ch) :
    w.dec n msg = some ch ∧ msg.length = ch.len + P.T ∧ ch.len ≤ sp := by
  unfold snowRead at h
  split at h
  · cases h
  · split at h
    · cases h
    · have := (hl.dec_iff n msg ch).1 h
      have hlen := hl.enc_len n ch
      rw [← this] at hlen
      exact ⟨h, hlen, by omega⟩

/-- What happens around the reader: it is polled with a buffer of `k` bytes, the carrier gets more
data, its script is extended, or it is closed. -/
inductive REvent (C : Type) where
  | poll (k : Nat)
  | deliver (data : List C)
  | script (hs : List RHint)
  | close

def applyEnv (c : RCarrier C) : REvent C → RCarrier C
  | .deliver d => { c with str := c.str ++ d.toArray }
  | .script hs => { c with script := c.script ++ hs }
  | .close => { c with closed := true }
  | .poll _ => c

/-- Outputs of the polls of a run; the run ends at the first error (a caller stops there). -/
def runReader (P : Params) (w : WireOps C) : ReadSock C → RCarrier C → List (REvent C) → List ROut
  | _, _, [] => []
  | s, c, .poll k :: es =>
    match pollRead P w k s c with
    | (s', c', .ok n pos) => .ok n pos :: runReader P w s' c' es
    | (s', c', .pending) => .pending :: runReader P w s' c' es
    | (_, _, o) => [o]
  | s, c, .deliver d :: es => runReader P w s (applyEnv c (.deliver d)) es
  | s, c, .script hs :: es => runReader P w s (applyEnv c (.script hs)) es
  | s, c, .close :: es => runReader P w s (applyEnv c .close) es

/-- Stream positions handed to the caller, in order. -/
def outBytes : List ROut → List Nat
  | [] => []
  | .ok n pos :: r => List.range' pos n ++ outBytes r
  | _ :: r => outBytes r

/-- Everything the carrier delivers during a run. -/
def delivered : List (REvent C) → List C
  | [] => []
  | .deliver d :: es => d ++ delivered es
  | _ :: es => delivered es

def NoPanic : List ROut → Prop
  | [] => True
  | .panic _ :: _ => False
  | .diverged :: _ => False
  | _ :: r => NoPanic r

theorem take_drop_of_prefix {l m : List C} (h : l <+: m) {a n : Nat} (ha : a + n ≤ l.length) :
    (m.drop a).take n = (l.drop a).take n := by
  obtain ⟨t, rfl⟩ := h
  rw [List.drop_append_of_le_length (by omega), List.take_append_of_le_length (by rw [List.length_drop]; omega)]

theorem Authentic.mono {w : WireOps C} {frames : List Chunk} {l m : List C} (hp : l <+: m)
    (h : Authentic w frames m) : Authentic w frames l := by
  intro n i len p hi hd
  refine h n i len p (Nat.le_trans hi hp.length_le) ?_
  rw [take_drop_of_prefix hp hi]; exact hd

theorem RInv_init (P : Params) (w : WireOps C) (hc : RConsts P) (c : RCarrier C) (h0 : c.cpos = 0) :
    RInv P (newReadSock P w) c := by
  have := canon_ge P hc
  have := bufSize_eq P
  refine ⟨by simp [newReadSock], rfl, Nat.zero_le _, by rw [h0]; exact Nat.zero_le _,
    fun j hj => absurd hj (Nat.not_lt_zero _), Nat.le_refl _, by simp [newReadSock], Or.inl (Nat.zero_le _), ?_⟩
  simp only [StInv, newReadSock, Array.size_replicate]
  refine ⟨by omega, by omega, trivial, Or.inl (Nat.le_refl _)⟩

theorem SInv_init (P : Params) (w : WireOps C) (frames : List Chunk) : SInv frames (newReadSock P w) 0 := by
  simp [SInv, newReadSock, startOf, plen]

theorem WSInv_init (P : Params) (w : WireOps C) : WSInv P w (newWriteSock P w) ⟨#[], []⟩ [] 0 :=
  ⟨⟨by simp [newWriteSock], trivial⟩, trivial, rfl, rfl, by simp [wtail, newWriteSock, wireOf]⟩

/-- In the term model every stream whose ciphertext cells all stem from the writer's frames is
authentic — whatever was cut, moved, repeated or overwritten with other bytes. -/
theorem Authentic_term (T : Nat) (hT : 1 ≤ T) (frames : List Chunk) (str : List TCell)
    (h : ∀ n s l i, TCell.ct n s l i ∈ str → frames[n]? = some ⟨s, l⟩) :
    Authentic (termWire T) frames str := by
  intro n i len p _ hd
  have he : (str.drop i).take len = termEnc T n p := (termDec_iff T hT n _ p).1 hd
  obtain ⟨tl, htl⟩ := termEnc_head T n p hT
  have hm : TCell.ct n p.start p.len 0 ∈ (str.drop i).take len := by rw [he, htl]; exact List.mem_cons_self ..
  have := h n p.start p.len 0 (List.mem_of_mem_drop (List.mem_of_mem_take hm))
  simpa using this

theorem mem_wireOf_term (T n : Nat) (frames : List Chunk) (m s l i : Nat)
    (h : TCell.ct m s l i ∈ wireOf (termWire T) T n frames) : n ≤ m ∧ frames[m - n]? = some ⟨s, l⟩ := by
  induction frames generalizing n with
  | nil => simp [wireOf] at h
  | cons x xs ih =>
    simp only [wireOf, frameBytes, List.mem_append, List.mem_cons] at h
    rcases h with (h | h | h) | h
    · cases h
    · cases h
    · simp only [termWire, termEnc, List.mem_map, List.mem_range] at h
      obtain ⟨j, _, hj⟩ := h
      injection hj with a b c d
      subst a b c
      simp
    · obtain ⟨a, b⟩ := ih (n + 1) h
      refine ⟨by omega, ?_⟩
      have : m - n = (m - (n + 1)) + 1 := by omega
      rw [this]; simpa using b

theorem Authentic_term_honest (T : Nat) (hT : 1 ≤ T) (frames : List Chunk) :
    Authentic (termWire T) frames (wireOf (termWire T) T 0 frames) :=
  Authentic_term T hT frames _ (fun n s l i h => by simpa using (mem_wireOf_term T 0 frames n s l i h).2)

end Litep2pVerif.Noise.Transport
