import Litep2pVerif.Model.Noise.Identity
import Litep2pVerif.Proofs.Wire.RoundtripGen
import Litep2pVerif.Proofs.Id.PeerId
/-! Helper lemmas for C01 (identity check): protobuf round trips of the honest payload and key encoding,
totality of the peer-id derivation, acceptance as an equivalence and on canonical key encodings, the laws of the free
instance. -/
namespace Litep2pVerif.Noise.Identity
open Litep2pVerif.Wire Litep2pVerif.Id

/-- `keys_proto::PublicKey::decode` of the canonical encoding of a 32-byte key. -/
theorem decode_keyEncoding (key : Bytes) (hk : key.length = 32) :
    PublicKeyPb.decode (keyEncoding key) = some { type := 1, data := key } := by
  have e : keyEncoding key = PublicKeyPb.encode { type := 1, data := key } := by
    simp [keyEncoding, PublicKeyPb.encode, encInt32Field, encVarintField, encBytesField, writeKey, writeVarint,
      writeVarintAux, hk, i32ToU64]
  rw [e]
  exact PublicKeyPb.decode_encode _ ⟨(by decide : okI32 1), by simp [okBytes, hk]⟩

/-- `RemotePublicKey::from_protobuf_encoding` accepts the canonical encoding of a valid key. -/
theorem remotePublicKey_keyEncoding (vp : Bytes → Bool) (key : Bytes) (hk : key.length = 32) (hv : vp key = true) :
    remotePublicKey vp (keyEncoding key) = .ok key := by
  simp [remotePublicKey, decode_keyEncoding key hk, hk, hv]

/-- `NoiseHandshakePayload::decode` of what an honest node encodes. -/
theorem decode_encodePayload (kb sig : Bytes) (hk : kb.length < 2 ^ 64) (hs : sig.length < 2 ^ 64) :
    NoisePayload.decode (encodePayload kb sig) = some { identityKey := some kb, identitySig := some sig } := by
  have e : encodePayload kb sig = NoisePayload.encode { identityKey := some kb, identitySig := some sig } := by
    simp [encodePayload, NoisePayload.encode, encOpt, encBytesField]
  rw [e]
  exact NoisePayload.decode_encode _ ⟨hk, hs, trivial⟩

theorem peerIdOfEncoding_inline (c : Crypto) (kb : Bytes) (h : kb.length ≤ Consts.MAX_INLINE_KEY_LENGTH) :
    peerIdOfEncoding c kb = .ok ⟨⟨IDENTITY_CODE, toU8 kb⟩⟩ :=
  PeerId.fromPublicKeyProtobuf_inline (by decide) _ _ (by simpa [toU8] using h)

theorem peerIdOfEncoding_total (c : Crypto) (hsha : ∀ x, (c.sha256 x).length = 32) (kb : Bytes) :
    ∃ P, peerIdOfEncoding c kb = .ok P := by
  by_cases h : kb.length ≤ Consts.MAX_INLINE_KEY_LENGTH
  · exact ⟨_, peerIdOfEncoding_inline c kb h⟩
  · exact ⟨_, PeerId.fromPublicKeyProtobuf_hashed _ _ (by rw [hsha]; decide) (by simpa [toU8] using h)⟩

/-- "The key encoded in `P` signed the static key `rs`": the payload `pl` carries identity-key bytes `kb` that decode to
`key`, a signature `sig` that `key` verifies over the domain-separated static key, and `P` is the peer id of `kb`. -/
def Verified (c : Crypto) (pl rs : Bytes) (P : PeerId) : Prop :=
  ∃ p kb key sig, NoisePayload.decode pl = some p ∧ p.identityKey = some kb ∧ p.identitySig = some sig ∧
    remotePublicKey c.validPoint kb = .ok key ∧ c.verify key (STATIC_KEY_DOMAIN ++ rs) sig = true ∧
    peerIdOfEncoding c kb = .ok P

/-- `parse_and_verify_peer_id` accepts exactly if every test passed. -/
theorem checkPayload_ok_iff (c : Crypto) (p : NoisePayload) (rs : Bytes) (P : PeerId) :
    checkPayload c p rs = .ok P ↔ ∃ kb key sig, p.identityKey = some kb ∧ p.identitySig = some sig ∧
      remotePublicKey c.validPoint kb = .ok key ∧ c.verify key (STATIC_KEY_DOMAIN ++ rs) sig = true ∧
      peerIdOfEncoding c kb = .ok P := by
  unfold checkPayload
  cases p.identityKey with
  | none => simp
  | some kb =>
    cases hkey : remotePublicKey c.validPoint kb with
    | ok key =>
      cases p.identitySig with
      | none => simp [hkey]
      | some sig =>
        cases hp : peerIdOfEncoding c kb with
        | error e => cases e; simp [hkey, hp]
        | ok peer => cases hv : c.verify key (STATIC_KEY_DOMAIN ++ rs) sig <;> simp [hkey, hp, hv]
    | _ => simp [hkey]

theorem parseAndVerify_ok_iff (c : Crypto) (payload rs : Bytes) (P : PeerId) :
    parseAndVerify c payload rs = .ok P ↔ Verified c payload rs P := by
  unfold parseAndVerify Verified
  cases NoisePayload.decode payload with
  | none => simp
  | some p => simp [checkPayload_ok_iff]

/-- The check on a payload that advertises the canonical encoding of the key of identity `k`: the peer id is the
inlined one of that encoding, and everything hangs on the signature. -/
theorem checkPayload_pubOf (c : Crypto) (L : Laws c) (k : Nat) (sig rs : Bytes) :
    checkPayload c { identityKey := some (keyEncoding (c.pubOf k)), identitySig := some sig } rs =
      if c.verify (c.pubOf k) (STATIC_KEY_DOMAIN ++ rs) sig then .ok ⟨⟨IDENTITY_CODE, toU8 (keyEncoding (c.pubOf k))⟩⟩
      else .error .badSignature := by
  have hkl : (keyEncoding (c.pubOf k)).length = 36 := by simp [keyEncoding, L.pub_len]
  simp only [checkPayload, remotePublicKey_keyEncoding c.validPoint (c.pubOf k) (L.pub_len k) (L.pub_valid k),
    peerIdOfEncoding_inline c (keyEncoding (c.pubOf k)) (by rw [hkl]; decide)]

theorem parseAndVerify_pubOf (c : Crypto) (L : Laws c) (k : Nat) (sig rs : Bytes) (hs : sig.length < 2 ^ 64) :
    parseAndVerify c (encodePayload (keyEncoding (c.pubOf k)) sig) rs =
      if c.verify (c.pubOf k) (STATIC_KEY_DOMAIN ++ rs) sig then .ok ⟨⟨IDENTITY_CODE, toU8 (keyEncoding (c.pubOf k))⟩⟩
      else .error .badSignature := by
  have hkl : (keyEncoding (c.pubOf k)).length = 36 := by simp [keyEncoding, L.pub_len]
  rw [parseAndVerify, decode_encodePayload (keyEncoding (c.pubOf k)) sig (by omega) hs]
  exact checkPayload_pubOf c L k sig rs

theorem freeSecret_freePub (k : Nat) : freeSecret (freePub k) = some k := by
  simp [freeSecret, freePub]

theorem freeSign_inj {k k' : Nat} {m m' : Bytes} (h : freeSign k m = freeSign k' m') : k = k' ∧ m = m' := by
  unfold freeSign at h
  simp only [List.cons.injEq] at h
  obtain ⟨hk, hl, hm⟩ := h
  refine ⟨hk, ?_⟩
  exact (List.append_inj hm hl).1

theorem free_laws : Laws freeCrypto where
  pub_len := by intro k; simp [freeCrypto, freePub]
  pub_valid := by intro k; simp [freeCrypto, freeSecret_freePub]
  sig_len := by
    intro k rs hrs
    simp [freeCrypto, freeSign, STATIC_KEY_DOMAIN, hrs]
  verify_sign := by intro k m; simp [freeCrypto, freeSecret_freePub]
  sign_binds := by
    intro k k' m m' h
    simp only [freeCrypto, freeSecret_freePub, decide_eq_true_eq] at h
    have := freeSign_inj h
    exact ⟨this.1.symm, this.2.symm⟩

/-! ### Representations of an id (round gtcp) -/

theorem derived_short_code (c : Crypto) (kb : Bytes) (P : PeerId) (hlen : kb.length ≤ Consts.MAX_INLINE_KEY_LENGTH)
    (hP : peerIdOfEncoding c kb = .ok P) : P.multihash.code = IDENTITY_CODE := by
  rw [peerIdOfEncoding_inline c kb hlen] at hP
  cases hP; rfl

theorem hashed_code (c : Crypto) (kb : Bytes) (d : PeerId) (hd : hashedIdOfEncoding c kb = some d) :
    d.multihash.code = SHA2_256_CODE := by
  unfold hashedIdOfEncoding Multihash.wrap at hd
  split at hd
  · rename_i mh hw
    split at hw
    · simp at hw
    · simp only [Except.ok.injEq] at hw
      subst hw
      simp [PeerId.fromMultihash] at hd
      rw [← hd]
  · simp at hd

end Litep2pVerif.Noise.Identity
