import Litep2pVerif.Proofs.Noise.Transport
import Litep2pVerif.Proofs.Common.List
/-! The reader of the `NoiseSocket` model (C02), one `poll_read` and whole runs. Each state of the loop is
analysed once, on any authentic stream, for the buffer invariant `RInv` and the reader's place along the frame
list `LInv`. Where the stream is known to start with `j` intact frames (`Scene`), this says what a run hands out and
why it stops: no panic on any stream, completeness (everything intact comes out), detection (an error follows) and the
absence of errors without a cause. -/
namespace Litep2pVerif.Noise.Transport

variable {C : Type}

/-- All side conditions on the constants (read path, write path, `TAGLEN ≥ 1`, `u16` lengths). -/
structure AConsts (P : Params) : Prop where
  r : RConsts P
  w : WConsts P
  t1 : 1 ≤ P.T
  u16 : P.SNOWMAX < 65536

/-- The reader's interpretation of the two length bytes. -/
def parseLen (w : WireOps C) (b0 b1 : C) : Nat := w.toByte b0 % 256 * 256 + w.toByte b1 % 256

/-- Wire offset of frame `n`. -/
def woff (w : WireOps C) (T : Nat) (frames : List Chunk) (n : Nat) : Nat :=
  (wireOf w T 0 (frames.take n)).length

/-- `rest` does not begin with the intact frame `j` (as the reader parses it): it is empty or too
short, or its length bytes announce more than what follows, or what they announce is not the
ciphertext of the writer's `j`-th chunk under nonce `j`. -/
def BadAt (w : WireOps C) (frames : List Chunk) (j : Nat) (rest : List C) : Prop :=
  ∀ b0 b1 tl ch, rest = b0 :: b1 :: tl → frames[j]? = some ch → parseLen w b0 b1 ≤ tl.length →
    tl.take (parseLen w b0 b1) ≠ w.enc j ch

/-- The frame announced by the first two bytes of `rest` is completely there (and has at least two
bytes): the reader does not have to wait for more data to judge it. -/
def CompleteAt (w : WireOps C) (rest : List C) : Prop :=
  ∃ b0 b1 tl, rest = b0 :: b1 :: tl ∧ parseLen w b0 b1 ≤ tl.length ∧ 2 ≤ tl.length

/-- `l` begins with frame `n` carrying `ch`, as the reader parses it: two length bytes, and behind them all of the
ciphertext they announce, which is that of `ch` under nonce `n`. -/
def Intact (w : WireOps C) (n : Nat) (ch : Chunk) (l : List C) : Prop :=
  ∃ b0 b1 tl, l = b0 :: b1 :: tl ∧ parseLen w b0 b1 ≤ tl.length ∧ tl.take (parseLen w b0 b1) = w.enc n ch

theorem Intact.drop_append {w : WireOps C} {n : Nat} {ch : Chunk} {l : List C} {a : Nat}
    (h : Intact w n ch (l.drop a)) (t : List C) : Intact w n ch ((l ++ t).drop a) := by
  obtain ⟨b0, b1, tl, hd, hl, he⟩ := h
  have ha : a ≤ l.length := by
    have := congrArg List.length hd
    rw [List.length_drop, List.length_cons] at this; omega
  rw [List.drop_append_of_le_length ha, hd]
  exact ⟨b0, b1, tl ++ t, rfl, by rw [List.length_append]; omega, by rw [List.take_append_of_le_length hl, he]⟩

/-- The setting: `full` (what the carrier delivers in the end) consists of the first `j` frames of
the writer, intact, followed by `rest`, which does not begin with frame `j`. -/
structure Scene (P : Params) (w : WireOps C) (frames : List Chunk) (j : Nat) (rest full : List C) : Prop where
  laws : WireLaws P w
  consts : AConsts P
  frs : FramesFrom P.MAXF 0 frames
  hj : j ≤ frames.length
  full_eq : full = wireOf w P.T 0 (frames.take j) ++ rest
  bad : BadAt w frames j rest
  auth : Authentic w frames full

theorem woff_succ {P : Params} {w : WireOps C} (hl : WireLaws P w) {frames : List Chunk} {n : Nat} {ch : Chunk}
    (h : frames[n]? = some ch) :
    woff w P.T frames (n + 1) = woff w P.T frames n + (ch.len + P.T + 2) := by
  unfold woff
  rw [List.take_add_one, h, wireOf_append]
  simp [wireOf, frameBytes, hl.enc_len]

theorem drop_eq_cons_cons {l : List C} {a : Nat} {x y : C} {t : List C} :
    l.drop a = x :: y :: t ↔ l[a]? = some x ∧ l[a + 1]? = some y ∧ l.drop (a + 2) = t := by
  constructor
  · intro h
    have h1 : l.drop (a + 1) = y :: t := by rw [← List.tail_drop, h]; rfl
    exact ⟨by rw [← List.head?_drop, h]; rfl, by rw [← List.head?_drop, h1]; rfl, by rw [← List.tail_drop, h1]; rfl⟩
  · rintro ⟨h0, h1, rfl⟩
    obtain ⟨ha, rfl⟩ := List.getElem?_eq_some_iff.1 h0
    obtain ⟨hb, rfl⟩ := List.getElem?_eq_some_iff.1 h1
    rw [List.drop_eq_getElem_cons ha, List.drop_eq_getElem_cons hb]

section scene
variable {P : Params} {w : WireOps C} {frames : List Chunk} {j : Nat} {rest full : List C}

theorem Scene.drop_rest (sc : Scene P w frames j rest full) : full.drop (woff w P.T frames j) = rest := by
  rw [sc.full_eq]
  unfold woff
  exact List.drop_left' rfl

theorem Scene.intact (sc : Scene P w frames j rest full) {n : Nat} (hn : n < j) :
    ∃ ch, frames[n]? = some ch ∧ 1 ≤ ch.len ∧ ch.len ≤ P.MAXF ∧
      Intact w n ch (full.drop (woff w P.T frames n)) := by
  have hjl := sc.hj
  have hnl : n < (frames.take j).length := by rw [List.length_take]; omega
  obtain ⟨ch, tl, hch, e⟩ : ∃ ch tl, frames[n]? = some ch ∧ frames.take j = frames.take n ++ ch :: tl := by
    refine ⟨(frames.take j)[n], (frames.take j).drop (n + 1), ?_, ?_⟩
    · rw [← List.getElem?_eq_getElem hnl, List.getElem?_take, if_pos hn]
    · have := List.take_append_drop n (frames.take j)
      rw [List.take_take, Nat.min_eq_left (Nat.le_of_lt hn), List.drop_eq_getElem_cons hnl] at this
      exact this.symm
  obtain ⟨-, -, -, h1, hm⟩ := framesFrom_get sc.frs hch
  have hl : (frames.take n).length = n := by rw [List.length_take]; omega
  have hp : parseLen w (w.ofByte ((ch.len + P.T) / 256 % 256)) (w.ofByte ((ch.len + P.T) % 256)) = ch.len + P.T := by
    unfold parseLen
    rw [sc.laws.toByte_ofByte _ (Nat.mod_lt _ (by decide)), sc.laws.toByte_ofByte _ (Nat.mod_lt _ (by decide))]
    have := sc.consts.w.snow; have := sc.consts.u16
    omega
  have hd : full.drop (woff w P.T frames n) = w.ofByte ((ch.len + P.T) / 256 % 256) ::
      w.ofByte ((ch.len + P.T) % 256) :: (w.enc n ch ++ (wireOf w P.T (n + 1) tl ++ rest)) := by
    rw [sc.full_eq, e, wireOf_append, hl]
    simp only [wireOf, frameBytes, Nat.zero_add, List.append_assoc, List.cons_append]
    unfold woff
    rw [List.drop_left' rfl]
  refine ⟨ch, hch, h1, hm, _, _, _, hd, ?_, ?_⟩
  · rw [hp, List.length_append, sc.laws.enc_len]; omega
  · rw [hp]; exact List.take_left' (sc.laws.enc_len n ch)

end scene

/-- Absolute wire offset of the reader's frame cursor (`offset` seen from the start of the stream). -/
def absOff (s : ReadSock C) (c : RCarrier C) : Nat := c.cpos - s.nread + s.offset

/-- Where the cursor is, outside a partially handed-out frame: on the length prefix of frame `nonce`
(`current_frame_size = None`), or just behind it, `current_frame_size` holding what the two bytes say. -/
def CurAt (w : WireOps C) (T : Nat) (frames : List Chunk) (full : List C) (cur : Option Nat) (nonce A : Nat) :
    Prop :=
  match cur with
  | none => A = woff w T frames nonce
  | some fs => A = woff w T frames nonce + 2 ∧
      ∃ b0 b1, full[woff w T frames nonce]? = some b0 ∧ full[woff w T frames nonce + 1]? = some b1 ∧
        fs = parseLen w b0 b1

def Cursor (w : WireOps C) (T : Nat) (frames : List Chunk) (full : List C) (s : ReadSock C) (c : RCarrier C) :
    Prop :=
  match s.st with
  | .process (some _) _ _ fsz => absOff s c + fsz = woff w T frames s.nonce
  | _ => CurAt w T frames full s.cur s.nonce (absOff s c)

/-- In `ReadData` the frame under the cursor is incomplete. -/
def RdBound (s : ReadSock C) : Prop :=
  match s.st with
  | .readData _ =>
    match s.cur with
    | none => s.nread - s.offset < 2
    | some fs => s.nread - s.offset < 2 ∨ s.nread - s.offset < fs
  | _ => True

/-- **Alignment invariant**: the reader's frame cursor sits exactly on the wire offset of the frame
whose nonce comes next, and `s.nonce ≤ j`. It is used at `j := frames.length` on the stream so far (`LInv.al`); that
in a scene the nonce stays within the scene's `j` intact frames is `Scene.nonce_le`. -/
structure AInv (w : WireOps C) (T : Nat) (frames : List Chunk) (j : Nat) (full : List C) (s : ReadSock C)
    (c : RCarrier C) : Prop where
  nle : s.nonce ≤ j
  cursor : Cursor w T frames full s c
  rd : RdBound s

theorem Cursor.mono {w : WireOps C} {T : Nat} {frames : List Chunk} {l m : List C} (h : l <+: m) {s : ReadSock C}
    {c c' : RCarrier C} (hpos : c'.cpos = c.cpos) : Cursor w T frames l s c → Cursor w T frames m s c' := by
  unfold Cursor absOff
  rw [hpos]
  split
  · exact id
  · unfold CurAt
    split
    · exact id
    · exact fun ⟨hA, b0, b1, g0, g1, hfs⟩ => ⟨hA, b0, b1, getElem?_of_prefix h g0, getElem?_of_prefix h g1, hfs⟩

theorem RInv.mono {P : Params} {s : ReadSock C} {c c' : RCarrier C} (h : RInv P s c) (hpos : c'.cpos = c.cpos)
    (hpre : c.str.toList <+: c'.str.toList) : RInv P s c' := by
  have hle := hpre.length_le
  rw [Array.length_toList, Array.length_toList] at hle
  refine ⟨h.size, h.canon, by rw [hpos]; exact h.nread_le, by rw [hpos]; exact Nat.le_trans h.cpos_le hle,
    fun j hj => ?_, h.off_le, h.cur_lt, h.room, h.st⟩
  have hlt : c.cpos - s.nread + j < c.str.toList.length := by
    have := h.nread_le; have := h.cpos_le; rw [Array.length_toList]; omega
  rw [hpos, h.window j hj, ← Array.getElem?_toList, ← Array.getElem?_toList, List.getElem?_eq_getElem hlt,
    getElem?_of_prefix hpre (List.getElem?_eq_getElem hlt)]

/-- Where the reader is along the frame list, on any authentic stream: the output bookkeeping, the cursor on the
wire offset of frame `nonce` (`AInv` for the stream so far, all of `frames` allowed), and every frame decrypted so
far intact at its wire offset. -/
structure LInv (w : WireOps C) (T : Nat) (frames : List Chunk) (s : ReadSock C) (c : RCarrier C) (outLen : Nat) :
    Prop where
  out : SInv frames s outLen
  al : AInv w T frames frames.length c.str.toList s c
  hist : ∀ i ch, i < s.nonce → frames[i]? = some ch → Intact w i ch (c.str.toList.drop (woff w T frames i))

theorem LInv.step {w : WireOps C} {T : Nat} {frames : List Chunk} {s s' : ReadSock C} {c : RCarrier C}
    {outLen outLen' : Nat} (hi : LInv w T frames s c outLen) (hn : s'.nonce = s.nonce)
    (hout : SInv frames s' outLen') (hcu : Cursor w T frames c.str.toList s' c) (hrd : RdBound s') :
    LInv w T frames s' c outLen' :=
  ⟨hout, ⟨hn ▸ hi.al.nle, hcu, hrd⟩, hn ▸ hi.hist⟩

theorem LInv.mono {w : WireOps C} {T : Nat} {frames : List Chunk} {s : ReadSock C} {c c' : RCarrier C}
    {outLen : Nat} (hi : LInv w T frames s c outLen) (hpos : c'.cpos = c.cpos)
    (hpre : c.str.toList <+: c'.str.toList) : LInv w T frames s c' outLen := by
  refine ⟨hi.out, ⟨hi.al.nle, hi.al.cursor.mono hpre hpos, hi.al.rd⟩, fun i ch hlt hf => ?_⟩
  obtain ⟨t, ht⟩ := hpre
  rw [← ht]; exact (hi.hist i ch hlt hf).drop_append t

/-- Script entries of a carrier that delivers and never fails. -/
def GoodR : RHint → Prop
  | .chunk k => 1 ≤ k
  | .pend => True
  | .eof => False
  | .err => False

def GoodScript (l : List RHint) : Prop := ∀ h ∈ l, GoodR h

theorem GoodScript.suffix {a b : List RHint} (h : GoodScript b) (hs : a <:+ b) : GoodScript a :=
  fun x hx => h x (hs.subset hx)

theorem RCarrier.deflt_spec (c : RCarrier C) (cap : Nat) :
    (c.deflt cap).1.str = c.str ∧ (c.deflt cap).1.closed = c.closed ∧ (c.deflt cap).1.script = c.script ∧
    match (c.deflt cap).2 with
    | .ready n => n ≤ cap ∧ (c.deflt cap).1.cpos = c.cpos + n ∧ (c.cpos ≤ c.str.size → c.cpos + n ≤ c.str.size) ∧
        (n = 0 → 0 < cap → c.closed = true ∧ c.str.size ≤ c.cpos)
    | .pending => (c.deflt cap).1.cpos = c.cpos ∧ c.closed = false ∧ c.str.size ≤ c.cpos
    | .err => False := by
  unfold RCarrier.deflt
  by_cases h : c.str.size - c.cpos = 0
  · rw [if_pos h]
    cases hc : c.closed <;> simp <;> omega
  · rw [if_neg h]
    exact ⟨rfl, rfl, rfl, Nat.min_le_left _ _, rfl, fun _ => by omega, fun _ _ => by omega⟩

theorem RCarrier.read_spec (c : RCarrier C) (req : Nat) :
    (c.read req).1.str = c.str ∧ (c.read req).1.closed = c.closed ∧ (c.read req).1.script <:+ c.script ∧
    match (c.read req).2 with
    | .ready n => n ≤ req ∧ (c.read req).1.cpos = c.cpos + n ∧ (c.cpos ≤ c.str.size → c.cpos + n ≤ c.str.size) ∧
        (n = 0 → 0 < req → GoodScript c.script → c.closed = true ∧ c.str.size ≤ c.cpos)
    | .pending => (c.read req).1.cpos = c.cpos ∧
        ((c.read req).1.script.length < c.script.length ∨ (c.closed = false ∧ c.str.size ≤ c.cpos))
    | .err => ¬ GoodScript c.script := by
  unfold RCarrier.read
  cases hs : c.script with
  | nil =>
    obtain ⟨d1, d2, d3, d4⟩ := RCarrier.deflt_spec c req
    refine ⟨d1, d2, by rw [d3, hs]; exact List.suffix_refl _, ?_⟩
    split <;> rename_i e <;> rw [e] at d4
    · exact ⟨d4.1, d4.2.1, d4.2.2.1, fun hn hr _ => d4.2.2.2 hn hr⟩
    · exact ⟨d4.1, Or.inr d4.2⟩
    · exact d4.elim
  | cons hd tl =>
    have hsuf : tl <:+ hd :: tl := List.suffix_cons _ _
    have hbad : ¬ GoodR hd → ¬ GoodScript (hd :: tl) := fun hb hg => hb (hg hd (List.mem_cons_self ..))
    cases hd with
    | pend => exact ⟨rfl, rfl, hsuf, rfl, Or.inl (by simp)⟩
    | eof => exact ⟨rfl, rfl, hsuf, Nat.zero_le _, rfl, fun h => h, fun _ _ hg => absurd hg (hbad (by simp [GoodR]))⟩
    | err => exact ⟨rfl, rfl, hsuf, hbad (by simp [GoodR])⟩
    | chunk k =>
      obtain ⟨d1, d2, d3, d4⟩ := RCarrier.deflt_spec { c with script := tl } (min req k)
      refine ⟨d1, d2, by rw [d3]; exact hsuf, ?_⟩
      split <;> rename_i e <;> rw [e] at d4
      · refine ⟨by omega, d4.2.1, d4.2.2.1, fun hn hr hg => d4.2.2.2 hn ?_⟩
        have : 1 ≤ k := hg (.chunk k) (List.mem_cons_self ..)
        omega
      · exact ⟨d4.1, Or.inl (by rw [d3]; simp)⟩
      · exact d4.elim

section steps
variable {P : Params} {w : WireOps C} {frames : List Chunk}

/-- The complete frame under the cursor is refused (`sp`: an output space `processStep` offers to snow). -/
def Refused (P : Params) (w : WireOps C) (s : ReadSock C) : Prop :=
  ∃ fs, s.cur = some fs ∧ s.offset + fs ≤ s.nread ∧
    (fs ≤ P.TAG ∨ ∃ sp, (fs - P.TAG ≤ sp ∨ P.MAXF ≤ sp) ∧ snowRead P w s.nonce (window s fs) sp = none)

/-- What a whole `poll_read` guarantees (`c`: the carrier before the poll). A `Pending` or an end of stream finds the
reader waiting for data, and says what the carrier did; `InvalidData` finds it in front of a frame it refuses. -/
def PollPost (P : Params) (w : WireOps C) (frames : List Chunk) (k outLen : Nat) (c : RCarrier C) (s' : ReadSock C)
    (c' : RCarrier C) : ROut → Prop
  | .ok n pos => pos = outLen ∧ (0 < k → 0 < n) ∧ RInv P s' c' ∧ LInv w P.T frames s' c' (outLen + n)
  | .pending => RInv P s' c' ∧ LInv w P.T frames s' c' outLen ∧ (∃ m, s'.st = .readData m) ∧
      (c'.script.length < c.script.length ∨ (c'.closed = false ∧ c'.str.size ≤ c'.cpos))
  | .err .eof => RInv P s' c' ∧ LInv w P.T frames s' c' outLen ∧ (∃ m, s'.st = .readData m) ∧
      (GoodScript c.script → c'.closed = true ∧ c'.str.size ≤ c'.cpos)
  | .err .invalidData => RInv P s' c' ∧ LInv w P.T frames s' c' outLen ∧ outLen = startOf frames s'.nonce ∧
      CurAt w P.T frames c'.str.toList s'.cur s'.nonce (absOff s' c') ∧ Refused P w s'
  | .err .carrier => ¬ GoodScript c.script
  | .err .permissionDenied => False
  | .panic _ => False
  | .diverged => False

theorem PollPost.mono {k outLen : Nat} {c0 c1 c' : RCarrier C} {s' : ReadSock C} {o : ROut}
    (h3 : c1.script <:+ c0.script) (p : PollPost P w frames k outLen c1 s' c' o) :
    PollPost P w frames k outLen c0 s' c' o := by
  have := h3.length_le
  cases o with
  | pending => exact ⟨p.1, p.2.1, p.2.2.1, p.2.2.2.imp_left (by omega)⟩
  | err e =>
    cases e with
    | eof => exact ⟨p.1, p.2.1, p.2.2.1, fun hg => p.2.2.2 (hg.suffix h3)⟩
    | carrier => exact fun hg => p (hg.suffix h3)
    | _ => exact p
  | _ => exact p

def IterPost (P : Params) (w : WireOps C) (frames : List Chunk) (k outLen : Nat) (c : RCarrier C) (s' : ReadSock C)
    (c' : RCarrier C) : Option ROut → Prop
  | none => RInv P s' c' ∧ LInv w P.T frames s' c' outLen
  | some o => PollPost P w frames k outLen c s' c' o

/-- Termination measure of the `poll_read` loop: a `continue` out of `ReadData` has read at least one byte and lands in
`ReadFrameLen` (2 per remaining byte, against the `+ 1`); a `continue` out of `ReadFrameLen` reads nothing but leaves
that state. -/
def rmeasure (s : ReadSock C) (c : RCarrier C) : Nat :=
  2 * (c.str.size - c.cpos) + (match s.st with | .readFrameLen => 1 | _ => 0)

theorem rmeasure_lt_fuel (s : ReadSock C) (c : RCarrier C) : rmeasure s c < readFuel c := by
  unfold rmeasure readFuel
  split <;> omega

theorem readDataStep_spec {k : Nat} {s s' : ReadSock C} {c c' : RCarrier C} {m : Nat} {o : Option ROut}
    (h : RInv P s c) (hst : s.st = .readData m) {outLen : Nat} (hi : LInv w P.T frames s c outLen)
    (e : readDataStep w s c m = (s', c', o)) :
    c'.str = c.str ∧ c'.closed = c.closed ∧ c'.script <:+ c.script ∧
    IterPost P w frames k outLen c s' c' o ∧ (o = none → rmeasure s' c' < rmeasure s c) := by
  have hsti := h.st
  simp only [StInv, hst] at hsti
  obtain ⟨hlt, hmb, hdec, hmr⟩ := hsti
  unfold readDataStep at e
  rw [if_neg (not_or.2 ⟨Nat.not_lt.2 (Nat.le_of_lt hlt), Nat.not_lt.2 hmb⟩)] at e
  obtain ⟨r1, r2, r3, r4⟩ := RCarrier.read_spec c (m - s.nread)
  rcases hcr : c.read (m - s.nread) with ⟨c1, ans⟩
  rw [hcr] at e r1 r2 r3 r4
  have hpre : c.str.toList <+: c1.str.toList := by rw [r1]; exact List.prefix_refl _
  cases ans with
  | pending =>
    cases e
    exact ⟨r1, r2, r3, ⟨h.mono r4.1 hpre, hi.mono r4.1 hpre, ⟨m, hst⟩, by rw [r1, r2, r4.1]; exact r4.2⟩, nofun⟩
  | err => cases e; exact ⟨r1, r2, r3, r4, nofun⟩
  | ready n =>
    obtain ⟨rn, rc, rs, r0⟩ := r4
    simp only [] at e rc
    by_cases hn : n = 0
    · rw [if_pos hn] at e; cases e
      subst hn
      exact ⟨r1, r2, r3, ⟨h.mono rc hpre, hi.mono rc hpre, ⟨m, hst⟩,
        fun hg => by rw [r1, r2, rc]; exact r0 rfl (Nat.sub_pos_of_lt hlt) hg⟩, nofun⟩
    · rw [if_neg hn] at e; cases e
      have rs := rs h.cpos_le
      have hnl := h.nread_le
      have hnm : s.nread + n ≤ m := by omega
      have hs' : s.nonce ≤ frames.length ∧ outLen = startOf frames s.nonce := by simpa only [SInv, hst] using hi.out
      have hcu := hi.al.cursor
      simp only [Cursor, hst] at hcu
      refine ⟨r1, r2, r3, ⟨⟨by simp [blit_size, h.size], h.canon, by rw [rc]; exact Nat.add_le_add_right hnl n,
        by rw [r1, rc]; exact rs, ?_, Nat.le_trans h.off_le (Nat.le_add_right _ _), h.cur_lt, ?_, hdec⟩,
        hs', ⟨hi.al.nle, ?_, trivial⟩, by rw [r1]; exact hi.hist⟩, fun _ => ?_⟩
      · intro j hj
        have hj : j < s.nread + n := hj
        show (blit (w.ofByte 0) s.buf s.nread c.str c.cpos n)[j]? = c'.str[c'.cpos - (s.nread + n) + j]?
        rw [blit_getElem? _ _ _ _ _ _ _ rs, r1, rc, Nat.add_sub_add_right]
        by_cases hjn : j < s.nread
        · rw [if_neg fun hh => Nat.not_le.2 hjn hh.1]; exact h.window j hjn
        · rw [if_pos (by omega)]; congr 1; omega
      · simp only [pendSize, blit_size]
        exact hmr.imp (Nat.le_trans hnm) fun hm => ⟨Nat.le_trans hnm hm.1, hm.2⟩
      · show CurAt w P.T _ c'.str.toList s.cur s.nonce (c'.cpos - (s.nread + n) + s.offset)
        rw [r1, rc, Nat.add_sub_add_right]; exact hcu
      · unfold rmeasure
        rw [hst, r1, rc]
        show 2 * (c.str.size - (c.cpos + n)) + 1 < 2 * (c.str.size - c.cpos) + 0
        omega

theorem resetRead_spec {s : ReadSock C} {r : Nat} (hr : r < 2)
    (hb : r = 1 → 0 < s.nread ∧ s.nread - 1 < s.buf.size) :
    ∃ b, resetRead s r = .ok { s with buf := b, nread := r, offset := 0, st := .readData s.canon } ∧
      b.size = s.buf.size ∧ (r = 1 → b[0]? = s.buf[s.nread - 1]?) := by
  unfold resetRead
  obtain rfl | rfl : r = 0 ∨ r = 1 := by omega
  · exact ⟨s.buf, rfl, rfl, nofun⟩
  · simp only [dif_pos (hb rfl)]
    refine ⟨_, rfl, by simp, fun _ => ?_⟩
    rw [Array.getElem?_setIfInBounds, if_pos rfl, if_pos (Nat.lt_of_le_of_lt (Nat.zero_le _) (hb rfl).2),
      Array.getElem?_eq_getElem]

theorem RInv.buf_getD {s : ReadSock C} {c : RCarrier C} (h : RInv P s c) {i : Nat} (hi : i < s.nread) (d : C) :
    c.str.toList[c.cpos - s.nread + i]? = some (s.buf.getD i d) := by
  have hlt : c.cpos - s.nread + i < c.str.size := by have := h.nread_le; have := h.cpos_le; omega
  rw [Array.getElem?_toList, Array.getD_eq_getD_getElem?, h.window i hi, Array.getElem?_eq_getElem hlt]
  rfl

theorem window_eq {s : ReadSock C} {c : RCarrier C} (h : RInv P s c) {fs : Nat} (hfs : s.offset + fs ≤ s.nread) :
    window s fs = (c.str.toList.drop (absOff s c)).take fs ∧
    (window s fs).length = fs ∧ absOff s c + fs ≤ c.str.toList.length := by
  have h1 := h.nread_le; have h2 := h.cpos_le; have hnb := h.nread_le_size
  unfold absOff
  refine ⟨?_, ?_, by simp; omega⟩
  · apply List.ext_getElem?
    intro i
    unfold window
    rw [Array.getElem?_toList, Array.getElem?_extract, List.getElem?_take, List.getElem?_drop, Array.getElem?_toList]
    by_cases hi : i < fs
    · rw [if_pos (by omega), if_pos hi, h.window _ (by omega)]
      congr 1; omega
    · rw [if_neg (by omega), if_neg hi]
  · unfold window; simp; omega

theorem rmeasure_frameLen {s s' : ReadSock C} (c : RCarrier C) (hst : s.st = .readFrameLen)
    (hst' : s'.st ≠ .readFrameLen) : rmeasure s' c < rmeasure s c := by
  unfold rmeasure
  rw [hst]
  split
  · exact absurd ‹_› hst'
  · exact Nat.lt_succ_self _

theorem afterSize_spec (hc : RConsts P) {k : Nat} {s s' : ReadSock C} {c : RCarrier C} {off' fs : Nat}
    {o : Option ROut} (h : RInv P s c) (hst : s.st = .readFrameLen) {outLen : Nat}
    (hi : LInv w P.T frames s c outLen) (hoff : off' ≤ s.nread) (hfs : fs < 65536)
    (hroom : s.nread ≤ s.canon ∨ (s.nread ≤ off' + fs ∧ off' + fs ≤ s.buf.size))
    (hcu : CurAt w P.T frames c.str.toList (some fs) s.nonce (c.cpos - s.nread + off'))
    (e : afterSize P { s with offset := off', cur := none } fs (s.nread - off') = (s', o)) :
    IterPost P w frames k outLen c s' c o ∧ (o = none → rmeasure s' c < rmeasure s c) := by
  have hdec : s.decBuf = true := by have := h.st; simpa [StInv, hst] using this
  have hs' : s.nonce ≤ frames.length ∧ outLen = startOf frames s.nonce := by simpa only [SInv, hst] using hi.out
  have hfit : off' + fs ≤ s.buf.size := by
    have := canon_ge P hc; have := bufSize_eq P; have := hc.m; have := h.size; have := h.canon
    omega
  have hcl : ∀ x, some fs = some x → x < 65536 := fun _ hx => Option.some.inj hx ▸ hfs
  unfold afterSize at e
  simp only [] at e
  by_cases h1 : s.nread - off' < fs
  · -- the frame is incomplete: back to `ReadData`, with either `max_read`, of which only this much matters
    obtain ⟨m, ⟨m1, m2, m3⟩, e⟩ : ∃ m, (s.nread < m ∧ m ≤ s.buf.size ∧ (m ≤ s.canon ∨ m ≤ off' + fs)) ∧
        ({ s with offset := off', cur := some fs, st := .readData m }, none) = (s', o) := by
      rw [if_pos h1] at e
      split at e
      · exact ⟨_, ⟨Nat.lt_of_le_of_lt (Nat.le_add_right _ _) ‹_›, h.canon_le_size, Or.inl (Nat.le_refl _)⟩, e⟩
      · have hm : s.nread + fs - (s.nread - off') = off' + fs := by omega
        exact ⟨_, ⟨by omega, hm ▸ hfit, Or.inr (Nat.le_of_eq hm)⟩, e⟩
    cases e
    refine ⟨⟨h.update rfl rfl rfl hoff hcl hroom ?_, hi.step rfl hs' hcu (Or.inr h1)⟩,
      fun _ => rmeasure_frameLen c hst nofun⟩
    simp only [StInv]
    exact ⟨m1, m2, hdec, m3.imp id fun hm => ⟨hm, hfit⟩⟩
  · rw [if_neg h1] at e
    have h2 : off' + fs ≤ s.nread := by omega
    by_cases h3 : fs ≤ P.TAG
    · rw [if_pos h3] at e; cases e
      refine ⟨⟨h.update rfl rfl rfl hoff hcl ?_ ?_, hi.step rfl ?_ ?_ ?_, hs'.2, hcu, fs, rfl, h2, Or.inl h3⟩, nofun⟩
      · simpa only [pendSize, hst, Option.getD_some] using hroom
      · simp only [StInv, hst]; exact hdec
      · simp only [SInv, hst]; exact hs'
      · simp only [Cursor, hst]; exact hcu
      · simp only [RdBound, hst]
    · rw [if_neg h3] at e; cases e
      refine ⟨⟨h.update rfl rfl rfl hoff hcl hroom ?_, hi.step rfl hs' hcu trivial⟩,
        fun _ => rmeasure_frameLen c hst nofun⟩
      simp only [StInv]
      exact ⟨hdec, fs, rfl, Nat.lt_of_not_le h3, h2⟩

theorem frameLenStep_spec (hc : RConsts P) {k : Nat} {s s' : ReadSock C} {c : RCarrier C} {o : Option ROut}
    (h : RInv P s c) (hst : s.st = .readFrameLen) {outLen : Nat} (hi : LInv w P.T frames s c outLen)
    (e : frameLenStep P w s = (s', o)) :
    IterPost P w frames k outLen c s' c o ∧ (o = none → rmeasure s' c < rmeasure s c) := by
  have hol := h.off_le; have hnl := h.nread_le; have hnb := h.nread_le_size
  have hcu : CurAt w P.T frames c.str.toList s.cur s.nonce (absOff s c) := by
    simpa only [Cursor, hst] using hi.al.cursor
  unfold frameLenStep at e
  rw [if_neg (Nat.not_lt.2 hol)] at e
  by_cases hrem : s.nread - s.offset < 2
  · rw [if_pos hrem] at e
    generalize hr : s.nread - s.offset = r at e hrem
    have hr : s.nread = s.offset + r := by omega
    obtain ⟨b, e1, hb1, hb2⟩ := resetRead_spec (s := s) hrem (by omega)
    rw [e1] at e; cases e
    have hdec : s.decBuf = true := by have := h.st; simpa [StInv, hst] using this
    have hs' : s.nonce ≤ frames.length ∧ outLen = startOf frames s.nonce := by simpa only [SInv, hst] using hi.out
    have hc2 : r < s.canon := by have := canon_ge P hc; have := h.canon; omega
    refine ⟨⟨⟨hb1.trans h.size, h.canon, show r ≤ c.cpos by omega, h.cpos_le, ?_, Nat.zero_le _,
      h.cur_lt, Or.inl (Nat.le_of_lt hc2), ?_⟩, hi.step rfl hs' ?_ ?_⟩, fun _ => rmeasure_frameLen c hst nofun⟩
    · intro j hj
      have hj : j < r := hj
      obtain ⟨rfl, rfl⟩ : j = 0 ∧ r = 1 := by omega
      show b[0]? = c.str[c.cpos - 1 + 0]?
      rw [hb2 rfl, h.window _ (by omega)]; congr 1; omega
    · simp only [StInv]
      exact ⟨hc2, hb1 ▸ h.canon_le_size, hdec, Or.inl (Nat.le_refl _)⟩
    · show CurAt w P.T _ _ s.cur s.nonce (c.cpos - r + 0)
      rw [show c.cpos - r + 0 = absOff s c by unfold absOff; omega]
      exact hcu
    · simp only [RdBound, Nat.sub_zero]
      split
      · exact hrem
      · exact Or.inl hrem
  · rw [if_neg hrem] at e
    have hroom := h.room
    simp only [pendSize, hst] at hroom
    cases hcur : s.cur with
    | some fs =>
      rw [hcur] at e hroom
      exact afterSize_spec hc h hst hi hol (h.cur_lt fs hcur) hroom (hcur ▸ hcu) e
    | none =>
      rw [hcur] at e hroom
      rw [if_pos (by omega), Nat.sub_sub] at e
      refine afterSize_spec hc h hst hi (by omega) (by omega) (Or.inl (by simp at hroom; omega)) ?_ e
      have hA : c.cpos - s.nread + s.offset = woff w P.T frames s.nonce := by rwa [hcur] at hcu
      have k0 := h.buf_getD (i := s.offset) (by omega) (w.ofByte 0)
      have k1 := h.buf_getD (i := s.offset + 1) (by omega) (w.ofByte 0)
      rw [← Nat.add_assoc, hA] at k1
      rw [hA] at k0
      exact ⟨by rw [← Nat.add_assoc, hA], _, _, k0, k1, rfl⟩

theorem snowRead_enc (hl : WireLaws P w) (n : Nat) (ch : Chunk) (sp : Nat) (h1 : ch.len + P.T ≤ P.SNOWMAX)
    (h2 : ch.len ≤ sp) : snowRead P w n (w.enc n ch) sp = some ch := by
  unfold snowRead
  rw [hl.enc_len, if_neg (by omega), if_neg (by omega)]
  exact (hl.dec_iff n _ ch).2 rfl

theorem processStep_spec (hl : WireLaws P w) (hc : RConsts P) {B : Nat} (hfr : FramesFrom B 0 frames) {k : Nat}
    {s s' : ReadSock C} {c : RCarrier C} {o : ROut} (h : RInv P s c) {pending : Option Chunk} {off size fsz : Nat}
    (hst : s.st = .process pending off size fsz) {outLen : Nat} (hi : LInv w P.T frames s c outLen)
    (hauth : Authentic w frames c.str.toList) (e : processStep P w k s pending off size fsz = (s', o)) :
    PollPost P w frames k outLen c s' c o := by
  have hsti := h.st
  have htag := hc.tag
  have hroom := h.room
  have hs := hi.out
  have hcu := hi.al.cursor
  unfold processStep at e
  cases pending with
  | some ch =>
    simp only [StInv, hst] at hsti
    obtain ⟨hcur, ho, hsz, hof, hsl⟩ := hsti
    simp only [SInv, hst] at hs
    obtain ⟨hn1, hfn, hout⟩ := hs
    simp only [pendSize, hst] at hroom
    simp only [Cursor, hst] at hcu
    simp only [] at e
    rw [if_neg (not_or.2 ⟨Nat.not_lt.2 (Nat.le_of_lt ho), Nat.not_lt.2 hsz⟩)] at e
    by_cases hk : k ≥ size - off
    · rw [if_pos hk] at e; cases e
      obtain ⟨fa, fb, fc, -⟩ := framesFrom_get hfr hfn
      refine ⟨hout.symm, fun _ => Nat.sub_pos_of_lt ho, h.update rfl rfl rfl hof h.cur_lt ?_ rfl,
        hi.step rfl ?_ ?_ trivial⟩
      · simp only [pendSize, hcur, Option.getD_none, Nat.add_zero]; exact hroom
      · simp only [SInv]
        have e : s.nonce = s.nonce - 1 + 1 := by omega
        rw [e]
        exact ⟨fc, by unfold startOf; omega⟩
      · show CurAt w P.T _ _ s.cur _ _
        rw [hcur]; exact (Nat.add_assoc ..).symm.trans hcu
    · rw [if_neg hk] at e; cases e
      refine ⟨hout.symm, id, h.update rfl rfl rfl h.off_le h.cur_lt hroom ?_,
        hi.step rfl ?_ hcu trivial⟩
      · simp only [StInv]; exact ⟨hcur, by omega, hsz, hof, hsl⟩
      · simp only [SInv]; exact ⟨hn1, hfn, by rw [hout, Nat.add_assoc]⟩
  | none =>
    simp only [StInv, hst] at hsti
    obtain ⟨hdec, fs, hcur, htg, hof⟩ := hsti
    simp only [SInv, hst] at hs
    obtain ⟨hnl, hout⟩ := hs
    simp only [pendSize, hst, hcur, Option.getD_some] at hroom
    simp only [Cursor, hst] at hcu
    have hcu' := hcu
    rw [hcur] at hcu'
    obtain ⟨hA, b0, b1, g0, g1, hfs⟩ := hcu'
    have hfit : ¬ s.offset + fs > s.buf.size := Nat.not_lt.2 (Nat.le_trans hof h.nread_le_size)
    obtain ⟨hw1, hw2, hw3⟩ := window_eq h hof
    -- a frame that decrypts is the writer's next one, it lies intact under the cursor, and the caller gets its
    -- first bytes
    have hdecr : ∀ {sp ch}, snowRead P w s.nonce (window s fs) sp = some ch →
        fs = ch.len + P.T ∧ ch.len ≤ sp ∧ frames[s.nonce]? = some ch ∧ ch.start = outLen ∧
        s.nonce < frames.length ∧ outLen + ch.len = startOf frames (s.nonce + 1) ∧ 1 ≤ ch.len ∧
        absOff s c + fs = woff w P.T frames (s.nonce + 1) ∧
        ∀ i ch', i < s.nonce + 1 → frames[i]? = some ch' →
          Intact w i ch' (c.str.toList.drop (woff w P.T frames i)) := by
      intro sp ch hsr
      obtain ⟨hd, hlen, hsp⟩ := snowRead_some P w hl _ _ _ _ hsr
      have henc := (hl.dec_iff _ _ _).1 hd
      rw [hw1] at hd
      have hfn := hauth _ _ _ _ hw3 hd
      obtain ⟨fa, fb, fc, fd, -⟩ := framesFrom_get hfr hfn
      refine ⟨hw2.symm.trans hlen, hsp, hfn, fa.trans ((Nat.zero_add _).trans hout.symm), fc,
        by rw [hout]; exact fb.symm, fd, by rw [woff_succ hl hfn, hA]; omega, fun i ch' hi' hf' => ?_⟩
      rcases Nat.lt_succ_iff_lt_or_eq.1 hi' with hlt | rfl
      · exact hi.hist i ch' hlt hf'
      · obtain rfl : ch = ch' := Option.some.inj (hfn.symm.trans hf')
        refine ⟨b0, b1, _, drop_eq_cons_cons.2 ⟨g0, g1, rfl⟩, ?_, ?_⟩
        · rw [← hfs, List.length_drop, ← hA]; omega
        · rw [← hfs, ← henc, hw1, hA]
    have hbad : ∀ {sp}, (fs - P.TAG ≤ sp ∨ P.MAXF ≤ sp) → snowRead P w s.nonce (window s fs) sp = none →
        PollPost P w frames k outLen c s c (.err .invalidData) :=
      fun hsp hsr => ⟨h, hi, hout, hcu, fs, hcur, hof, Or.inr ⟨_, hsp, hsr⟩⟩
    simp only [hcur] at e
    rw [if_neg (Nat.not_lt.2 (Nat.le_of_lt htg))] at e
    by_cases hk : k ≥ fs - P.TAG
    · rw [if_pos hk, if_neg hfit] at e
      cases hsr : snowRead P w s.nonce (window s fs) k with
      | none => rw [hsr] at e; cases e; exact hbad (Or.inl hk) hsr
      | some ch =>
        rw [hsr] at e; cases e
        obtain ⟨-, -, -, hpos, fc, fb, fd, hal, hh⟩ := hdecr hsr
        refine ⟨hpos, fun _ => fd, h.update rfl rfl rfl hof nofun hroom hdec, ?_,
          ⟨fc, (Nat.add_assoc ..).symm.trans hal, trivial⟩, hh⟩
        simp only [SInv]; exact ⟨fc, fb⟩
    · rw [if_neg hk, if_neg (by simp [hdec]), if_neg hfit] at e
      cases hsr : snowRead P w s.nonce (window s fs) P.MAXF with
      | none => rw [hsr] at e; cases e; exact hbad (Or.inr (Nat.le_refl _)) hsr
      | some ch =>
        obtain ⟨hlen, hsp, hfn, hpos, fc, -, -, hal, hh⟩ := hdecr hsr
        have hkl : k < ch.len := by omega
        rw [hsr] at e
        simp only [] at e
        rw [if_neg (Nat.not_lt.2 (Nat.le_trans (Nat.le_of_lt hkl) hsp))] at e; cases e
        refine ⟨hpos, id, h.update rfl rfl rfl h.off_le nofun hroom ?_, ?_, ⟨fc, hal, trivial⟩, hh⟩
        · simp only [StInv]; exact ⟨trivial, hkl, hsp, hof, trivial⟩
        · simp only [SInv]; exact ⟨Nat.le_add_left _ _, hfn, by rw [hpos]⟩

theorem readIter_spec (hl : WireLaws P w) (hc : RConsts P) {B : Nat} (hfr : FramesFrom B 0 frames) {k : Nat}
    {s s' : ReadSock C} {c c' : RCarrier C} {o : Option ROut} (h : RInv P s c) {outLen : Nat}
    (hi : LInv w P.T frames s c outLen) (hauth : Authentic w frames c.str.toList)
    (e : readIter P w k s c = (s', c', o)) :
    c'.str = c.str ∧ c'.closed = c.closed ∧ c'.script <:+ c.script ∧
    IterPost P w frames k outLen c s' c' o ∧ (o = none → rmeasure s' c' < rmeasure s c) := by
  unfold readIter at e
  cases hst : s.st with
  | readData m =>
    rw [hst] at e
    exact readDataStep_spec h hst hi e
  | readFrameLen =>
    rw [hst] at e
    rcases hfl : frameLenStep P w s with ⟨s1, o1⟩
    rw [hfl] at e; cases e
    exact ⟨rfl, rfl, List.suffix_refl _, frameLenStep_spec hc h hst hi hfl⟩
  | process pending off size fsz =>
    simp only [hst] at e
    rcases hps : processStep P w k s pending off size fsz with ⟨s1, o1⟩
    rw [hps] at e; cases e
    exact ⟨rfl, rfl, List.suffix_refl _, processStep_spec hl hc hfr h hst hi hauth hps, by simp⟩

theorem readLoop_spec (hl : WireLaws P w) (hc : RConsts P) {B : Nat} (hfr : FramesFrom B 0 frames) {k fuel : Nat}
    {s s' : ReadSock C} {c c' : RCarrier C} {o : ROut} (h : RInv P s c) {outLen : Nat}
    (hi : LInv w P.T frames s c outLen) (hauth : Authentic w frames c.str.toList)
    (hfuel : rmeasure s c < fuel) (e : readLoop P w k fuel s c = (s', c', o)) :
    c'.str = c.str ∧ c'.closed = c.closed ∧ c'.script <:+ c.script ∧ PollPost P w frames k outLen c s' c' o := by
  induction fuel generalizing s c with
  | zero => omega
  | succ fuel ih =>
    unfold readLoop at e
    rcases hri : readIter P w k s c with ⟨s1, c1, o1⟩
    obtain ⟨a1, a2, a3, a4, a5⟩ := readIter_spec hl hc hfr h hi hauth hri
    rw [hri] at e
    cases o1 with
    | none =>
      obtain ⟨b1, b2, b3, b4⟩ := ih a4.1 a4.2 (by rw [a1]; exact hauth) (by have := a5 rfl; omega) e
      exact ⟨b1.trans a1, b2.trans a2, b3.trans a3, b4.mono a3⟩
    | some o1 =>
      cases e
      exact ⟨a1, a2, a3, a4⟩

theorem pollRead_spec (hl : WireLaws P w) (hc : RConsts P) {B : Nat} (hfr : FramesFrom B 0 frames) {k : Nat}
    {s s' : ReadSock C} {c c' : RCarrier C} {o : ROut} (h : RInv P s c) {outLen : Nat}
    (hi : LInv w P.T frames s c outLen) (hauth : Authentic w frames c.str.toList)
    (e : pollRead P w k s c = (s', c', o)) :
    c'.str = c.str ∧ c'.closed = c.closed ∧ c'.script <:+ c.script ∧ PollPost P w frames k outLen c s' c' o :=
  readLoop_spec hl hc hfr h hi hauth (rmeasure_lt_fuel s c) e

variable {j : Nat} {rest full : List C}

/-- Frame `j` is never decrypted: it would have lain intact where `rest` begins. -/
theorem Scene.nonce_le (sc : Scene P w frames j rest full) {s : ReadSock C} {c : RCarrier C} {outLen : Nat}
    (hi : LInv w P.T frames s c outLen) (hpre : c.str.toList <+: full) : s.nonce ≤ j := by
  refine Nat.le_of_not_lt fun hlt => ?_
  have hjl : j < frames.length := Nat.lt_of_lt_of_le hlt hi.al.nle
  obtain ⟨t, ht⟩ := hpre
  have := (hi.hist j _ hlt (List.getElem?_eq_getElem hjl)).drop_append t
  rw [ht, sc.drop_rest] at this
  obtain ⟨b0, b1, tl, hr, hl, he⟩ := this
  exact sc.bad b0 b1 tl _ hr (List.getElem?_eq_getElem hjl) hl he

/-- A complete frame is refused only at `j`: an intact one is accepted. -/
theorem Scene.refused (sc : Scene P w frames j rest full) {s : ReadSock C} {c : RCarrier C} {outLen : Nat}
    (h : RInv P s c) (hi : LInv w P.T frames s c outLen) (hpre : c.str.toList <+: full)
    (hcu : CurAt w P.T frames c.str.toList s.cur s.nonce (absOff s c)) (hr : Refused P w s) :
    s.nonce = j ∧ 2 ≤ rest.length := by
  obtain ⟨fs, hcur, hof, hbad⟩ := hr
  rw [hcur] at hcu
  obtain ⟨hA, b0, b1, g0, g1, hfs⟩ := hcu
  have f0 := getElem?_of_prefix hpre g0
  have f1 := getElem?_of_prefix hpre g1
  have hnj : s.nonce = j := by
    refine Nat.le_antisymm (sc.nonce_le hi hpre) (Nat.le_of_not_lt fun hlt => ?_)
    obtain ⟨ch, hch, hc1, hcm, a0, a1, tl, hd, hpl, hen⟩ := sc.intact hlt
    obtain ⟨d0, d1, htl⟩ := drop_eq_cons_cons.1 hd
    rw [d0] at f0
    rw [d1] at f1
    cases f0; cases f1
    have hfl : fs = ch.len + P.T := by
      have := congrArg List.length hen
      rw [List.length_take, Nat.min_eq_left hpl, sc.laws.enc_len] at this
      exact hfs.trans this
    have htag := sc.consts.r.tag
    rcases hbad with hb | ⟨sp, hsp, hnone⟩
    · omega
    · obtain ⟨hw1, -, hw3⟩ := window_eq h hof
      have hw4 := take_drop_of_prefix hpre hw3
      rw [hw1, ← hw4, hA, htl, hfs, hen,
        snowRead_enc sc.laws _ _ _ (by have := sc.consts.w.snow; omega) (by omega)] at hnone
      cases hnone
  refine ⟨hnj, ?_⟩
  obtain ⟨hlt, _⟩ := List.getElem?_eq_some_iff.1 f1
  rw [← sc.drop_rest, List.length_drop, ← hnj]
  omega

theorem Scene.exhausted (sc : Scene P w frames j rest full) {s : ReadSock C} {c : RCarrier C} {outLen : Nat}
    (h : RInv P s c) (hi : LInv w P.T frames s c outLen) {m : Nat} (hst : s.st = .readData m)
    (hex : c.str.size ≤ c.cpos) (hfull : c.str.toList = full) :
    outLen = startOf frames j ∧ ¬ CompleteAt w rest := by
  have hol := h.off_le; have hnl := h.nread_le; have hcl := h.cpos_le
  have hlen : full.length = c.cpos := by rw [← hfull]; simp; omega
  have hcu := hi.al.cursor
  have hrd := hi.al.rd
  simp only [Cursor, RdBound, hst] at hcu hrd
  rw [hfull] at hcu
  unfold absOff at hcu
  -- the frame under the cursor is not completely there
  have key : ∀ b0 b1 tl, full.drop (woff w P.T frames s.nonce) = b0 :: b1 :: tl →
      ¬ (parseLen w b0 b1 ≤ tl.length ∧ 2 ≤ tl.length) := by
    intro b0 b1 tl hd ⟨hp, h2⟩
    have hdl : full.length - woff w P.T frames s.nonce = tl.length + 2 := by rw [← List.length_drop, hd]; rfl
    cases hcur : s.cur with
    | none =>
      rw [hcur] at hcu hrd
      simp only [CurAt] at hcu
      omega
    | some fs =>
      rw [hcur] at hcu hrd
      obtain ⟨hA, c0, c1, g0, g1, hfs⟩ := hcu
      obtain ⟨d0, d1, -⟩ := drop_eq_cons_cons.1 hd
      rw [d0] at g0
      rw [d1] at g1
      cases g0; cases g1
      omega
  have hnj : s.nonce = j := by
    refine Nat.le_antisymm (sc.nonce_le hi (by rw [hfull]; exact List.prefix_refl _)) (Nat.le_of_not_lt fun hlt => ?_)
    obtain ⟨ch, -, hc1, -, b0, b1, tl, hd, hpl, hen⟩ := sc.intact hlt
    refine key _ _ _ hd ⟨hpl, ?_⟩
    have := congrArg List.length hen
    rw [List.length_take, Nat.min_eq_left hpl, sc.laws.enc_len] at this
    have := sc.consts.t1
    omega
  exact ⟨hnj ▸ (show _ ∧ _ by simpa only [SInv, hst] using hi.out).2,
    fun ⟨b0, b1, tl, hr, hp⟩ => key b0 b1 tl (by rw [hnj, sc.drop_rest, hr]) hp⟩

/-- Why a read may fail: end of stream on a closed carrier, or bytes that are not the next frame. -/
def Cause (rest : List C) (closed : Prop) : RErr → Prop
  | .eof => closed
  | .invalidData => 2 ≤ rest.length
  | _ => False

theorem Cause.mono {rest : List C} {p q : Prop} (hpq : p → q) {e : RErr} (h : Cause rest p e) : Cause rest q e := by
  cases e <;> simp only [Cause] at h ⊢
  · exact hpq h
  · exact h

/-- An environment that delivers and never fails: good script entries, `close` only after the last
delivered byte. -/
def GoodEnv : List (REvent C) → Prop
  | [] => True
  | .poll _ :: es => GoodEnv es
  | .deliver _ :: es => GoodEnv es
  | .script hs :: es => GoodScript hs ∧ GoodEnv es
  | .close :: es => delivered es = [] ∧ GoodEnv es

/-- Number of script entries (an upper bound on the number of `Pending`s of a good carrier). -/
def scriptLen : List (REvent C) → Nat
  | [] => 0
  | .script hs :: es => hs.length + scriptLen es
  | _ :: es => scriptLen es

def Closes : List (REvent C) → Prop
  | [] => False
  | .close :: _ => True
  | _ :: es => Closes es

theorem startOf_mono (frames : List Chunk) {a b : Nat} (h : a ≤ b) : startOf frames a ≤ startOf frames b := by
  have := sum_map_take_le (·.len) (frames.take b) a
  rwa [List.take_take, Nat.min_eq_left h] at this

theorem SInv.le_startOf {B : Nat} (hfr : FramesFrom B 0 frames) {s : ReadSock C} {c : RCarrier C}
    (h : RInv P s c) {outLen : Nat} (hs : SInv frames s outLen) : outLen ≤ startOf frames s.nonce := by
  unfold SInv at hs
  split at hs
  · rename_i ch off _ _ e
    obtain ⟨h1, h2, h3⟩ := hs
    obtain ⟨fa, fb, -⟩ := framesFrom_get hfr h2
    have hq := h.st
    simp only [StInv, e] at hq
    have e2 : s.nonce = s.nonce - 1 + 1 := by omega
    rw [e2]; unfold startOf; omega
  · exact Nat.le_of_eq hs.2

theorem Scene.outLen_le (sc : Scene P w frames j rest full) {s : ReadSock C} {c : RCarrier C} (h : RInv P s c)
    {outLen : Nat} (hi : LInv w P.T frames s c outLen) (hpre : c.str.toList <+: full) : outLen ≤ startOf frames j :=
  Nat.le_trans (hi.out.le_startOf sc.frs h) (startOf_mono frames (sc.nonce_le hi hpre))

theorem applyEnv_spec (c : RCarrier C) (ev : REvent C) :
    (applyEnv c ev).cpos = c.cpos ∧ c.str.toList <+: (applyEnv c ev).str.toList := by
  cases ev <;> simp [applyEnv]

theorem RInv.applyEnv {s : ReadSock C} {c : RCarrier C} (h : RInv P s c) (ev : REvent C) :
    RInv P s (applyEnv c ev) :=
  h.mono (applyEnv_spec c ev).1 (applyEnv_spec c ev).2

theorem LInv.applyEnv {s : ReadSock C} {c : RCarrier C} {outLen : Nat} (hi : LInv w P.T frames s c outLen)
    (ev : REvent C) : LInv w P.T frames s (applyEnv c ev) outLen :=
  hi.mono (applyEnv_spec c ev).1 (applyEnv_spec c ev).2

theorem applyEnv_delivered (c : RCarrier C) (ev : REvent C) (es : List (REvent C)) :
    (applyEnv c ev).str.toList ++ delivered es = c.str.toList ++ delivered (ev :: es) := by
  cases ev <;> simp [applyEnv, delivered]

theorem runReader_env (s : ReadSock C) (c : RCarrier C) {ev : REvent C} (es : List (REvent C))
    (h : ∀ k, ev ≠ .poll k) : runReader P w s c (ev :: es) = runReader P w s (applyEnv c ev) es := by
  cases ev with
  | poll k => exact absurd rfl (h k)
  | _ => rfl

/-- Safety of a run, whatever the environment does (`es` is arbitrary). -/
theorem runReader_spec (hl : WireLaws P w) (hc : RConsts P) {B : Nat} (hfr : FramesFrom B 0 frames)
    (es : List (REvent C)) {s : ReadSock C} {c : RCarrier C} (h : RInv P s c) {outLen : Nat}
    (hi : LInv w P.T frames s c outLen) (hauth : Authentic w frames (c.str.toList ++ delivered es)) :
    NoPanic (runReader P w s c es) ∧
    ∃ m, outBytes (runReader P w s c es) = List.range' outLen m ∧
      ∀ {j rest full}, Scene P w frames j rest full → c.str.toList ++ delivered es <+: full →
        outLen + m ≤ startOf frames j := by
  have stop : ∀ {s : ReadSock C} {c : RCarrier C} {outLen : Nat} (es : List (REvent C)), RInv P s c →
      LInv w P.T frames s c outLen → ∀ {j rest full}, Scene P w frames j rest full →
        c.str.toList ++ delivered es <+: full → outLen + 0 ≤ startOf frames j :=
    fun _ h hi _ _ _ sc hpre => sc.outLen_le h hi ((List.prefix_append _ _).trans hpre)
  induction es generalizing s c outLen with
  | nil => exact ⟨trivial, 0, rfl, stop _ h hi⟩
  | cons ev es ih =>
    by_cases hev : ∃ k, ev = .poll k
    · obtain ⟨k, rfl⟩ := hev
      rcases hp : pollRead P w k s c with ⟨s', c', o⟩
      obtain ⟨p1, -, -, p2⟩ := pollRead_spec hl hc hfr h hi (hauth.mono (List.prefix_append _ _)) hp
      simp only [runReader, hp]
      cases o with
      | ok n pos =>
        obtain ⟨rfl, -, q4, q5⟩ := p2
        rw [← p1] at hauth ⊢
        obtain ⟨i1, m, i2, i4⟩ := ih q4 q5 hauth
        refine ⟨i1, n + m, ?_, fun sc hpre => ?_⟩
        · simp only [outBytes, i2]
          rw [← List.range'_append_1]
        · have := i4 sc hpre
          omega
      | pending =>
        rw [← p1] at hauth ⊢
        exact ih p2.1 p2.2.1 hauth
      | err e => exact ⟨trivial, 0, rfl, stop _ h hi⟩
      | panic m => exact p2.elim
      | diverged => exact p2.elim
    · rw [runReader_env s c es (fun k hk => hev ⟨k, hk⟩), ← applyEnv_delivered c ev es]
      exact ih (h.applyEnv ev) (hi.applyEnv ev) (applyEnv_delivered c ev es ▸ hauth)

theorem outBytes_append_err (pre : List ROut) (e : RErr) : outBytes (pre ++ [.err e]) = outBytes pre := by
  induction pre with
  | nil => rfl
  | cons x xs ih => cases x <;> simp [outBytes, ih]

theorem delivered_polls (ks : List Nat) : delivered (ks.map (REvent.poll (C := C))) = [] := by
  induction ks with
  | nil => rfl
  | cons x xs ih => simpa [delivered] using ih

theorem delivered_append (a b : List (REvent C)) : delivered (a ++ b) = delivered a ++ delivered b := by
  induction a with
  | nil => rfl
  | cons x xs ih => cases x <;> simp [delivered, ih]

/-- What one poll of a run contributes in a scene, in the form the two inductions below need. -/
theorem poll_cases (sc : Scene P w frames j rest full) (k : Nat) {s : ReadSock C} {c : RCarrier C} (h : RInv P s c)
    {outLen : Nat} (hi : LInv w P.T frames s c outLen) (hpre : c.str.toList <+: full) (hg : GoodScript c.script)
    (hcf : c.closed = true → c.str.toList = full) :
    ∃ s' c' o, pollRead P w k s c = (s', c', o) ∧ c'.str = c.str ∧ c'.closed = c.closed ∧
      GoodScript c'.script ∧ c'.script.length ≤ c.script.length ∧
      match o with
      | .ok n pos => pos = outLen ∧ (0 < k → 0 < n) ∧ outLen + n ≤ startOf frames j ∧
          RInv P s' c' ∧ LInv w P.T frames s' c' (outLen + n)
      | .pending => RInv P s' c' ∧ LInv w P.T frames s' c' outLen ∧
          (c'.script.length < c.script.length ∨
            (c'.closed = false ∧ (c'.str.toList = full → outLen = startOf frames j ∧ ¬ CompleteAt w rest)))
      | .err e => outLen = startOf frames j ∧ Cause rest (c'.closed = true) e
      | _ => False := by
  rcases hp : pollRead P w k s c with ⟨s', c', o⟩
  obtain ⟨p1, p2, p3, p4⟩ := pollRead_spec sc.laws sc.consts.r sc.frs h hi (sc.auth.mono hpre) hp
  have hpre' : c'.str.toList <+: full := by rw [p1]; exact hpre
  refine ⟨s', c', o, rfl, p1, p2, hg.suffix p3, p3.length_le, ?_⟩
  cases o with
  | ok n pos =>
    obtain ⟨e1, e3, e4, e5⟩ := p4
    exact ⟨e1, e3, sc.outLen_le e4 e5 hpre', e4, e5⟩
  | pending =>
    obtain ⟨e1, e2, ⟨m, hst⟩, e4⟩ := p4
    exact ⟨e1, e2, e4.imp id fun r => ⟨r.1, sc.exhausted e1 e2 hst r.2⟩⟩
  | err e =>
    cases e with
    | eof =>
      obtain ⟨e1, e2, ⟨m, hst⟩, e4⟩ := p4
      exact ⟨(sc.exhausted e1 e2 hst (e4 hg).2 (by rw [p1]; exact hcf (p2 ▸ (e4 hg).1))).1, (e4 hg).1⟩
    | invalidData =>
      obtain ⟨e1, e2, e3, e4, e5⟩ := p4
      obtain ⟨q1, q2⟩ := sc.refused e1 e2 hpre' e4 e5
      exact ⟨q1 ▸ e3, q2⟩
    | carrier => exact absurd hg p4
    | permissionDenied => exact p4.elim
  | panic m => exact p4
  | diverged => exact p4

/-- `nk`: the polls with non-empty buffers still to come; `need`: how many of them suffice to hand out everything
intact; `fin`: the stream is known to end. The three clauses: an error comes only behind all the intact bytes and has its
`Cause`; `need` polls suffice for all the intact bytes; on a stream known to end, one poll more and the outputs end
with an error. -/
def RunPost (frames : List Chunk) (j : Nat) (rest : List C) (outLen : Nat) (closed fin : Prop) (need nk : Nat)
    (out : List ROut) : Prop :=
  (∀ e, .err e ∈ out → outBytes out = List.range' outLen (startOf frames j - outLen) ∧ Cause rest closed e) ∧
  (need ≤ nk → outBytes out = List.range' outLen (startOf frames j - outLen)) ∧
  (fin → need + 1 ≤ nk → ∃ pre e, out = pre ++ [.err e])

theorem RunPost.err {outLen : Nat} {closed fin : Prop} {need nk : Nat} {e : RErr}
    (h : outLen = startOf frames j ∧ Cause rest closed e) :
    RunPost frames j rest outLen closed fin need nk [.err e] := by
  refine ⟨fun e' he => ?_, fun _ => ?_, fun _ _ => ⟨[], e, rfl⟩⟩
  · obtain rfl : e' = e := by simpa using he
    exact ⟨by rw [h.1]; simp [outBytes], h.2⟩
  · rw [h.1]; simp [outBytes]

theorem RunPost.cons {outLen n : Nat} {closed closed' fin fin' : Prop} {need need' nk nk' : Nat} {x : ROut}
    {out : List ROut} (p : RunPost frames j rest (outLen + n) closed' fin' need' nk' out)
    (hx : ∀ e, x ≠ .err e) (hb : outBytes (x :: out) = List.range' outLen n ++ outBytes out)
    (hle : outLen + n ≤ startOf frames j) (hc : closed' → closed) (hf : fin → fin')
    (hneed : need' + nk ≤ need + nk') : RunPost frames j rest outLen closed fin need nk (x :: out) := by
  have hcomb : outBytes out = List.range' (outLen + n) (startOf frames j - (outLen + n)) →
      outBytes (x :: out) = List.range' outLen (startOf frames j - outLen) := by
    intro hl
    rw [hb, hl, show startOf frames j - outLen = n + (startOf frames j - (outLen + n)) by omega,
      List.range'_append_1]
  refine ⟨fun e he => ?_, fun hn => hcomb (p.2.1 (by omega)), fun h hn => ?_⟩
  · obtain ⟨j1, j2⟩ := p.1 e ((List.mem_cons.1 he).resolve_left (fun h => hx e h.symm))
    exact ⟨hcomb j1, j2.mono hc⟩
  · obtain ⟨pre, e, hpe⟩ := p.2.2 (hf h) (by omega)
    exact ⟨x :: pre, e, by rw [hpe]; rfl⟩

theorem drain_polls (sc : Scene P w frames j rest full) (ks : List Nat) (hk : ∀ k ∈ ks, 1 ≤ k) {s : ReadSock C}
    {c : RCarrier C} (h : RInv P s c) {outLen : Nat} (hi : LInv w P.T frames s c outLen)
    (hfull : c.str.toList = full) (hg : GoodScript c.script) :
    RunPost frames j rest outLen (c.closed = true) (c.closed = true ∨ CompleteAt w rest)
      ((startOf frames j - outLen) + c.script.length) ks.length (runReader P w s c (ks.map .poll)) := by
  induction ks generalizing s c outLen with
  | nil =>
    have := sc.outLen_le h hi (hfull ▸ List.prefix_refl _)
    refine ⟨by simp [runReader], fun hb => ?_, fun _ hb => by simp at hb⟩
    simp only [List.length_nil] at hb
    have : startOf frames j - outLen = 0 := by omega
    rw [this]; rfl
  | cons k ks ih =>
    have hpre : c.str.toList <+: full := hfull ▸ List.prefix_refl _
    have hk1 : 1 ≤ k := hk k (List.mem_cons_self ..)
    have hk' : ∀ k ∈ ks, 1 ≤ k := fun x hx => hk x (List.mem_cons_of_mem _ hx)
    obtain ⟨s', c', o, hp, c1, c2, c3, c4, c5⟩ := poll_cases sc k h hi hpre hg (fun _ => hfull)
    have hfull' : c'.str.toList = full := by rw [c1]; exact hfull
    rw [← c2]
    simp only [List.map_cons, runReader, hp, List.length_cons]
    cases o with
    | ok n pos =>
      obtain ⟨rfl, e2, e3, e4, e5⟩ := c5
      have hn := e2 (by omega)
      exact (ih hk' e4 e5 hfull' c3).cons nofun rfl e3 id id (by omega)
    | pending =>
      obtain ⟨e4, e5, e7⟩ := c5
      have i := ih hk' e4 e5 hfull' c3
      rcases e7 with l | ⟨r, e7'⟩
      · exact RunPost.cons (n := 0) i nofun rfl (sc.outLen_le h hi hpre) id id (by omega)
      · -- the carrier is open and exhausted: everything intact is out already and no end is in sight
        refine ⟨fun e he => i.1 e (by simpa using he), fun _ => ?_, fun hc => ?_⟩
        · have hpre' : c'.str.toList ++ delivered (ks.map (REvent.poll (C := C))) <+: full := by
            rw [delivered_polls, List.append_nil, c1]; exact hpre
          obtain ⟨-, m, m1, m3⟩ := runReader_spec sc.laws sc.consts.r sc.frs (ks.map .poll) e4 e5
            (sc.auth.mono hpre')
          have m2 := m3 sc hpre'
          have hdone := (e7' hfull').1
          have : m = 0 := by omega
          simp only [outBytes]
          rw [m1, this, hdone]; simp
        · rcases hc with hc | hc
          · rw [hc] at r; cases r
          · exact ((e7' hfull').2 hc).elim
    | err e => exact RunPost.err c5
    | panic m => exact c5.elim
    | diverged => exact c5.elim

theorem run_complete (sc : Scene P w frames j rest full) (ks : List Nat) (hk : ∀ k ∈ ks, 1 ≤ k) (es : List (REvent C))
    {s : ReadSock C} {c : RCarrier C} (h : RInv P s c) {outLen : Nat} (hi : LInv w P.T frames s c outLen)
    (hstr : c.str.toList ++ delivered es = full) (hg : GoodScript c.script)
    (hge : GoodEnv es) (hcl : c.closed = true → delivered es = []) :
    RunPost frames j rest outLen (c.closed = true ∨ Closes es) ((c.closed = true ∨ Closes es) ∨ CompleteAt w rest)
      ((startOf frames j - outLen) + c.script.length + scriptLen es) ks.length
      (runReader P w s c (es ++ ks.map .poll)) := by
  induction es generalizing s c outLen with
  | nil =>
    obtain ⟨i1, i2, i3⟩ := drain_polls sc ks hk h hi (by simpa [delivered] using hstr) hg
    simp only [List.nil_append, scriptLen, Nat.add_zero]
    refine ⟨fun e he => ⟨(i1 e he).1, (i1 e he).2.mono Or.inl⟩, i2, fun hc => ?_⟩
    rcases hc with (hc | hc) | hc
    · exact i3 (Or.inl hc)
    · exact hc.elim
    · exact i3 (Or.inr hc)
  | cons ev es ih =>
    have hpre : c.str.toList <+: full := ⟨_, hstr⟩
    cases ev with
    | poll k =>
      have hfull' : c.closed = true → c.str.toList = full := by
        intro hc
        have := hcl hc
        simp only [delivered] at this hstr
        rw [this] at hstr; simpa using hstr
      obtain ⟨s', c', o, hp, c1, c2, c3, c4, c5⟩ := poll_cases sc k h hi hpre hg hfull'
      rw [← c2]
      simp only [List.cons_append, runReader, hp, GoodEnv, scriptLen, Closes, delivered] at hge hstr hcl ⊢
      cases o with
      | ok n pos =>
        obtain ⟨rfl, e2, e3, e4, e5⟩ := c5
        exact (ih e4 e5 (by rw [c1]; exact hstr) c3 hge (by rw [c2]; exact hcl)).cons nofun rfl e3 id id (by omega)
      | pending =>
        obtain ⟨e4, e5, _⟩ := c5
        have i := ih e4 e5 (by rw [c1]; exact hstr) c3 hge (by rw [c2]; exact hcl)
        exact RunPost.cons (n := 0) i nofun rfl (sc.outLen_le h hi hpre) id id (by omega)
      | err e => exact RunPost.err ⟨c5.1, c5.2.mono Or.inl⟩
      | panic m => exact c5.elim
      | diverged => exact c5.elim
    | deliver d =>
      simp only [List.cons_append, runReader, GoodEnv, scriptLen, Closes, delivered] at hge hstr hcl ⊢
      have hcl' : c.closed = true → delivered es = [] := fun hc => (List.append_eq_nil_iff.1 (hcl hc)).2
      exact ih (h.applyEnv _) (hi.applyEnv _) (by simpa [applyEnv] using hstr) hg hge hcl'
    | script hs' =>
      simp only [List.cons_append, runReader, GoodEnv, scriptLen, Closes, delivered] at hge hstr hcl ⊢
      have hg' : GoodScript (c.script ++ hs') := by
        intro x hx
        rcases List.mem_append.1 hx with hx | hx
        · exact hg x hx
        · exact hge.1 x hx
      obtain ⟨i1, i2, i3⟩ := ih (h.applyEnv (.script hs')) (hi.applyEnv _) hstr hg' hge.2 hcl
      simp only [applyEnv, List.length_append] at i1 i2 i3
      exact ⟨i1, fun hb => i2 (by omega), fun hc hb => i3 hc (by omega)⟩
    | close =>
      simp only [List.cons_append, runReader, GoodEnv, scriptLen, Closes, delivered] at hge hstr hcl ⊢
      obtain ⟨i1, i2, i3⟩ := ih (h.applyEnv .close) (hi.applyEnv _) hstr hg hge.2 (fun _ => hge.1)
      simp only [applyEnv] at i1 i2 i3
      exact ⟨fun e he => ⟨(i1 e he).1, (i1 e he).2.mono (fun _ => Or.inr trivial)⟩, i2,
        fun _ hb => i3 (Or.inl (Or.inl trivial)) hb⟩

theorem LInv_init (P : Params) (w : WireOps C) (frames : List Chunk) (c : RCarrier C) (h0 : c.cpos = 0) :
    LInv w P.T frames (newReadSock P w) c 0 :=
  ⟨SInv_init P w frames, ⟨Nat.zero_le _, by simp [Cursor, CurAt, newReadSock, absOff, h0, woff, wireOf],
    by simp [RdBound, newReadSock]⟩, fun _ _ hi => absurd hi (Nat.not_lt_zero _)⟩

end steps

/-- Outputs of the polls of a run of a fresh reader on a carrier that has delivered nothing yet. -/
def freshRun (P : Params) (w : WireOps C) (es : List (REvent C)) : List ROut :=
  runReader P w (newReadSock P w) ⟨#[], 0, [], false⟩ es

theorem BadAt_of_not_prefix (w : WireOps C) (frames : List Chunk) (j : Nat) (rest : List C)
    (h : ∀ ch, frames[j]? = some ch → ¬ w.enc j ch <+: rest.drop 2) : BadAt w frames j rest := by
  intro b0 b1 tl ch hr hf _ he
  apply h ch hf
  rw [hr, ← he]
  exact List.take_prefix _ _

theorem BadAt_short (w : WireOps C) (frames : List Chunk) (j : Nat) (rest : List C) (h : rest.length < 2) :
    BadAt w frames j rest := by
  intro b0 b1 tl ch hr
  rw [hr] at h; simp at h; omega

theorem BadAt_end (w : WireOps C) (frames : List Chunk) (j : Nat) (rest : List C) (h : frames.length ≤ j) :
    BadAt w frames j rest := by
  intro b0 b1 tl ch _ hf
  rw [List.getElem?_eq_none h] at hf; cases hf

section fresh
variable {P : Params} {w : WireOps C} {frames : List Chunk} {j : Nat} {rest full : List C}

theorem Scene.honest (hl : WireLaws P w) (hc : AConsts P) (hfr : FramesFrom P.MAXF 0 frames)
    (hauth : Authentic w frames (wireOf w P.T 0 frames)) :
    Scene P w frames frames.length [] (wireOf w P.T 0 frames) :=
  { laws := hl, consts := hc, frs := hfr, hj := Nat.le_refl _,
    full_eq := by simp, bad := BadAt_short w frames _ [] (by simp), auth := hauth }

/-- Safety part, for every environment delivering a prefix of `full`. -/
theorem fresh_safe (sc : Scene P w frames j rest full) (es : List (REvent C)) (hd : delivered es <+: full) :
    outBytes (freshRun P w es) <+: List.range (startOf frames j) ∧ NoPanic (freshRun P w es) := by
  have hc := sc.consts.r
  obtain ⟨np, m, m1, m3⟩ := runReader_spec sc.laws hc sc.frs es (RInv_init _ w hc ⟨#[], 0, [], false⟩ rfl)
    (LInv_init _ w frames _ rfl) (by simpa using sc.auth.mono hd)
  have m2 := m3 sc (by simpa using hd)
  refine ⟨?_, np⟩
  unfold freshRun
  rw [m1, List.range_eq_range']
  have : startOf frames j = m + (startOf frames j - m) := by omega
  rw [this, ← List.range'_append_1]
  simp only [Nat.zero_add]
  exact List.prefix_append _ _

/-- Liveness part: a good environment delivers all of `full`; then polls with non-empty buffers. -/
theorem fresh_complete (sc : Scene P w frames j rest full) (es : List (REvent C)) (hd : delivered es = full)
    (hge : GoodEnv es) (ks : List Nat) (hk : ∀ k ∈ ks, 1 ≤ k) :
    (∀ e, .err e ∈ freshRun P w (es ++ ks.map .poll) →
      outBytes (freshRun P w (es ++ ks.map .poll)) = List.range (startOf frames j) ∧ Cause rest (Closes es) e) ∧
    (startOf frames j + scriptLen es ≤ ks.length →
      outBytes (freshRun P w (es ++ ks.map .poll)) = List.range (startOf frames j)) ∧
    (Closes es ∨ CompleteAt w rest → startOf frames j + scriptLen es + 1 ≤ ks.length →
      ∃ pre e, freshRun P w (es ++ ks.map .poll) = pre ++ [.err e]) := by
  obtain ⟨i1, i2, i3⟩ := run_complete sc ks hk es (RInv_init _ w sc.consts.r ⟨#[], 0, [], false⟩ rfl)
    (LInv_init _ w frames _ rfl) (by simpa using hd) (by intro x hx; cases hx) hge (by intro h; cases h)
  simp only [Nat.sub_zero, List.length_nil, Nat.add_zero, ← List.range_eq_range'] at i1 i2 i3
  unfold freshRun
  refine ⟨fun e he => ⟨(i1 e he).1, (i1 e he).2.mono ?_⟩, i2, fun hc => i3 (hc.imp Or.inr id)⟩
  rintro (h | h)
  · cases h
  · exact h

end fresh

end Litep2pVerif.Noise.Transport
