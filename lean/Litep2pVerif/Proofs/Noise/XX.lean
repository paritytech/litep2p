import Litep2pVerif.Proofs.Noise.Identity
import Litep2pVerif.Model.Noise.XX
/-! Helper lemmas for C01 (symbolic XX model): the honest run, inversion of the read operations and of the stages built
on them, and agreement — per message and, for an attacker that encrypts nothing itself (`Passive`), per run against the
honest transcript `hm1`, `hm2`, `hm3`; every scripted attacker is `Passive`. -/
namespace Litep2pVerif.Noise.XX
open Litep2pVerif Litep2pVerif.Wire Litep2pVerif.Id Litep2pVerif.Noise.Identity

theorem dh_pub (g : DH) (hg : g.Laws) (a b : Nat) : dh g a (.bytes (g.pubB b)) = .dhs (min a b) (max a b) := by
  simp [dh, hg.sec_pub]

theorem dh_comm (g : DH) (hg : g.Laws) (a b : Nat) : dh g a (.bytes (g.pubB b)) = dh g b (.bytes (g.pubB a)) := by
  rw [dh_pub g hg, dh_pub g hg, Nat.min_comm, Nat.max_comm]

/-- The peer id of honest identity `k`. -/
def idOf (c : Crypto) (k : Nat) : PeerId := ⟨⟨IDENTITY_CODE, toU8 (keyEncoding (c.pubOf k))⟩⟩

theorem finish_honest (E : Env) (hc : Laws E.c) (hg : E.g.Laws) (p : Party) :
    ∃ pl, NoisePayload.decode (p.payload E) = some pl ∧
      finish E pl (.bytes (E.g.pubB p.s)) = .ok (idOf E.c p.id) (E.g.pubB p.s) := by
  have hkl : (keyEncoding (E.c.pubOf p.id)).length = 36 := by simp [keyEncoding, hc.pub_len]
  have hsl := hc.sig_len p.id (E.g.pubB p.s) (hg.pub_len _)
  refine ⟨_, decode_encodePayload _ _ (by omega) (by omega), ?_⟩
  simp [finish, termBytes, checkPayload_pubOf E.c hc, hc.verify_sign, idOf]

/-- The network that delivers every message unchanged. -/
def honestNet : Attacker := scripted false .pass .pass .pass

theorem honest_accepts (E : Env) (hc : Laws E.c) (hg : E.g.Laws) (D L : Party) :
    run1 E D L honestNet =
      (.ok (idOf E.c L.id) (E.g.pubB L.s), .ok (idOf E.c D.id) (E.g.pubB D.s)) := by
  obtain ⟨plL, hdL, hfL⟩ := finish_honest E hc hg L
  obtain ⟨plD, hdD, hfD⟩ := finish_honest E hc hg D
  have hlen := hg.pub_len
  simp only [run1, honestNet, scripted, applyAct, stageL1, dWrite1, lRead1, takeField, T.size, hlen, L1.msg?]
  simp [stageD2, stageL3, dRead2, lRead3, lWrite2, dWrite3, dWrite1, takeField, T.size, hlen, restTerm,
    SS.init, SS.mixHash, SS.mixKey, SS.encryptAndHash, SS.decryptAndHash, D2.res, D2.msg?,
    dh_comm E.g hg L.e D.e, dh_comm E.g hg L.s D.e, dh_comm E.g hg L.e D.s, termBytes, hdL, hdD, hfL, hfD]

theorem takeField_inv {n : Nat} {body rest : List T} {f : T} (h : takeField n body = some (f, rest)) :
    (body = f :: rest ∧ f.size = n) ∨ (f = .junk 0 n ∧ rest = []) := by
  unfold takeField at h
  split at h
  · simp at h
  · rename_i f' r
    split at h
    · rename_i hs
      simp only [Option.some.injEq, Prod.mk.injEq] at h
      obtain ⟨rfl, rfl⟩ := h
      exact Or.inl ⟨rfl, hs⟩
    · split at h
      · simp at h
      · simp only [Option.some.injEq, Prod.mk.injEq] at h
        exact Or.inr ⟨h.1.symm, h.2.symm⟩

theorem restTerm_aead {b : List T} {k : T} {n : Nat} {ad p : T} (h : restTerm b = .aead k n ad p) :
    b = [.aead k n ad p] := by
  match b, h with
  | [], h => simp [restTerm] at h
  | [x], h => simp [restTerm] at h; simp [h]
  | x :: y :: r, h => simp [restTerm] at h

theorem restTerm_bytes_nil {b : List T} (h : restTerm b = .bytes []) : b = [] ∨ b = [.bytes []] := by
  match b, h with
  | [], _ => exact Or.inl rfl
  | [x], h => simp [restTerm] at h; simp [h]
  | x :: y :: r, h => simp [restTerm] at h

theorem decrypt_inv {s s' : SS} {k c p : T} (hk : s.k = some k) (h : s.decryptAndHash c = some (p, s')) :
    c = .aead k s.n s.h p ∧ s' = { s.mixHash c with n := s.n + 1 } := by
  unfold SS.decryptAndHash at h
  rw [hk] at h
  simp only at h
  split at h
  · rename_i k' n' ad' p'
    split at h
    · rename_i hc
      simp only [Option.some.injEq, Prod.mk.injEq] at h
      obtain ⟨rfl, rfl⟩ := h
      obtain ⟨rfl, rfl, rfl⟩ := hc
      exact ⟨rfl, rfl⟩
    · simp at h
  · simp at h

theorem lRead1_inv {ss ssL : SS} {x1 : List T} {reL : T} (h : lRead1 ss x1 = some (ssL, reL)) :
    ∃ rest, takeField 32 x1 = some (reL, rest) ∧ ssL = (ss.mixHash reL).mixHash (restTerm rest) := by
  unfold lRead1 at h
  split at h
  · simp at h
  · rename_i re rest ht
    simp only [Option.some.injEq, Prod.mk.injEq] at h
    obtain ⟨rfl, rfl⟩ := h
    exact ⟨rest, ht, rfl⟩

theorem dRead2_inv {E : Env} {D : Party} {ss ssD : SS} {x2 : List T} {reD rsD plD : T}
    (h2 : dRead2 E D ss x2 = some (ssD, reD, rsD, plD)) :
    ∃ c1 c2, x2 = [reD, c1, c2] ∧
      c1 = .aead (.k2 ss.ck (dh E.g D.e reD)) 0 (.h ss.h reD) rsD ∧
      c2 = .aead (.k2 (.k1 ss.ck (dh E.g D.e reD)) (dh E.g D.e rsD)) 0 (.h (.h ss.h reD) c1) plD ∧
      ssD = { ck := .k1 (.k1 ss.ck (dh E.g D.e reD)) (dh E.g D.e rsD), h := .h (.h (.h ss.h reD) c1) c2,
              k := some (.k2 (.k1 ss.ck (dh E.g D.e reD)) (dh E.g D.e rsD)), n := 1 } := by
  unfold dRead2 at h2
  split at h2
  · simp at h2
  · rename_i re' b1 ht1
    split at h2
    · simp at h2
    · rename_i c1' b2 ht2
      split at h2
      · simp at h2
      · rename_i rs' ss2 hd1
        split at h2
        · simp at h2
        · rename_i pl ss3 hd2
          simp only [Option.some.injEq, Prod.mk.injEq] at h2
          obtain ⟨rfl, rfl, rfl, rfl⟩ := h2
          obtain ⟨hc1, rfl⟩ := decrypt_inv rfl hd1
          obtain ⟨hc2, rfl⟩ := decrypt_inv rfl hd2
          simp only [SS.mixKey, SS.mixHash] at hc1 hc2
          have hb2 := restTerm_aead hc2
          rcases takeField_inv ht2 with ⟨rfl, _⟩ | ⟨hj, _⟩
          · rcases takeField_inv ht1 with ⟨rfl, _⟩ | ⟨_, hb⟩
            · subst hb2
              refine ⟨c1', _, rfl, hc1, rfl, ?_⟩
              simp [restTerm, SS.mixKey, SS.mixHash]
            · cases hb
          · rw [hj] at hc1; simp at hc1

/-- **Agreement, dialer side.** If the dialer's Noise state accepts `x2` as message 2 and every ciphertext in it was made
by the listener in this session (`hNC`: the attacker does not encrypt), then `x2` is exactly the listener's message 2 and the
listener had read exactly the dialer's message 1. -/
theorem agreement_D (E : Env) (D L : Party) (x1 x2 : List T) (ssL : SS) (reL : T) (out : SS × T × T × T)
    (h1 : lRead1 SS.init x1 = some (ssL, reL))
    (h2 : dRead2 E D (dWrite1 E D).2 x2 = some out)
    (hNC : ∀ k n ad p, T.aead k n ad p ∈ x2 → T.aead k n ad p ∈ (lWrite2 E L ssL reL (L.payload E)).1) :
    x2 = (lWrite2 E L ssL reL (L.payload E)).1 ∧
      ssL = (SS.init.mixHash (.bytes (E.g.pubB D.e))).mixHash (.bytes []) ∧ reL = .bytes (E.g.pubB D.e) := by
  obtain ⟨t1, -, rfl⟩ := lRead1_inv h1
  obtain ⟨ssD, reD, rsD, plD⟩ := out
  obtain ⟨c1x, c2x, rfl, hc1x, hc2x, -⟩ := dRead2_inv h2
  have hm := hNC _ _ _ _ (by rw [hc2x]; exact List.mem_cons_of_mem _ (List.mem_cons_of_mem _ (List.mem_singleton.2 rfl)))
  subst hc2x hc1x
  simp only [lWrite2, SS.encryptAndHash, SS.mixKey, SS.mixHash, SS.init, dWrite1, List.mem_cons,
    reduceCtorEq, T.aead.injEq, List.mem_nil_iff, or_false, false_or, T.h.injEq, T.k2.injEq, T.k1.injEq,
    and_true, true_and, List.cons.injEq] at hm ⊢
  simp only [false_and, and_false, false_or] at hm
  -- `hm`: the dialer's payload ciphertext can only be the listener's second one (the first has another key). Term
  -- constructors are injective, so the equation splits into: the keys (`hk1`, `hk2`), the associated data, i.e. the
  -- hash chain back through message 1 (`hre`, `hrest`, `hre'`) and the static-key ciphertext (`hrs`), and the payload.
  obtain ⟨⟨hk1, hk2⟩, ⟨⟨⟨hre, hrest⟩, hre'⟩, -, -, hrs⟩, hpl⟩ := hm
  subst hre hre' hrs hpl
  rw [← hrest] at *
  simp only [← hk1, ← hk2, and_self]

theorem lRead3_inv {E : Env} {L : Party} {ss ss' : SS} {k : T} {x3 : List T} {rs pl : T} (hk : ss.k = some k)
    (h3 : lRead3 E L ss x3 = some (ss', rs, pl)) :
    ∃ c1 c2, x3 = [c1, c2] ∧ c1 = .aead k ss.n ss.h rs ∧
      c2 = .aead (.k2 ss.ck (dh E.g L.e rs)) 0 (.h ss.h c1) pl := by
  unfold lRead3 at h3
  split at h3
  · simp at h3
  · rename_i c1' b1 ht1
    split at h3
    · simp at h3
    · rename_i rs' ss1 hd1
      split at h3
      · simp at h3
      · rename_i pl' ss2 hd2
        simp only [Option.some.injEq, Prod.mk.injEq] at h3
        obtain ⟨rfl, rfl, rfl⟩ := h3
        obtain ⟨hc1, rfl⟩ := decrypt_inv hk hd1
        obtain ⟨hc2, rfl⟩ := decrypt_inv rfl hd2
        simp only [SS.mixKey, SS.mixHash] at hc2
        have hb := restTerm_aead hc2
        rcases takeField_inv ht1 with ⟨rfl, _⟩ | ⟨hj, _⟩
        · subst hb
          exact ⟨c1', _, rfl, hc1, rfl⟩
        · rw [hj] at hc1; simp at hc1

/-- **Agreement, listener side.** If the listener's Noise state accepts `x3` as message 3 and the payload ciphertext
in it was made by an honest party of this session, then `x3` is exactly the dialer's message 3, the dialer had
accepted exactly the listener's message 2, and the listener had read exactly the dialer's message 1. -/
theorem agreement_L (E : Env) (D L : Party) (x1 x2 x3 : List T) (ssL ssD : SS) (reL reD rsD plD : T)
    (out : SS × T × T)
    (h1 : lRead1 SS.init x1 = some (ssL, reL))
    (h2 : dRead2 E D (dWrite1 E D).2 x2 = some (ssD, reD, rsD, plD))
    (h3 : lRead3 E L (lWrite2 E L ssL reL (L.payload E)).2 x3 = some out)
    (hNC : ∀ k n ad p, T.aead k n ad p ∈ x3 →
      T.aead k n ad p ∈ (dWrite3 E D ssD reD (D.payload E)).1 ∨ T.aead k n ad p ∈ (lWrite2 E L ssL reL (L.payload E)).1) :
    x3 = (dWrite3 E D ssD reD (D.payload E)).1 ∧ x2 = (lWrite2 E L ssL reL (L.payload E)).1 ∧
      ssL = (SS.init.mixHash (.bytes (E.g.pubB D.e))).mixHash (.bytes []) ∧ reL = .bytes (E.g.pubB D.e) := by
  obtain ⟨t1, -, rfl⟩ := lRead1_inv h1
  obtain ⟨c1x, c2x, rfl, hc1x, hc2x, rfl⟩ := dRead2_inv h2
  obtain ⟨ss', rs', pl'⟩ := out
  obtain ⟨c1', c2', rfl, hc1', hc2'⟩ := lRead3_inv (k := _) rfl h3
  have hm := hNC _ _ _ _ (by rw [hc2']; exact List.mem_cons_of_mem _ (List.mem_singleton.2 rfl))
  subst hc2' hc1' hc2x hc1x
  simp only [lWrite2, dWrite3, dWrite1, SS.encryptAndHash, SS.mixKey, SS.mixHash, SS.init, List.mem_cons,
    reduceCtorEq, T.aead.injEq, List.mem_nil_iff, or_false, false_or, T.h.injEq, T.k2.injEq, T.k1.injEq,
    true_and, List.cons.injEq, and_true] at hm ⊢
  simp only [false_and, and_false, false_or, or_false] at hm
  -- `hm`: the payload ciphertext of message 3 can only be the dialer's (the listener's own two have other keys). By
  -- injectivity of the term constructors the equation splits into: the three key components, the associated data,
  -- i.e. the hash chain back through message 1 (`hre`, `hrest`, `hre'`), the two ciphertexts of message 2 (`hrs`,
  -- `hpl`) and the static-key ciphertext of message 3 (`hrs'`), and the payload (`hpl'`).
  obtain ⟨⟨⟨hk1, hk2⟩, hk3⟩, ⟨⟨⟨⟨⟨hre, hrest⟩, hre'⟩, -, -, hrs⟩, -, -, hpl⟩, -, -, hrs'⟩, hpl'⟩ := hm
  subst hre hre' hrs hpl hrs' hpl'
  rw [hrest] at *
  simp only [hk1, hk2, hk3, and_self]

/-- A listener that has seen no message 3 from the dialer cannot be made to accept its own ciphertexts. -/
theorem no_reflection_L (E : Env) (L : Party) (x3 : List T) (ssL : SS) (reL : T) (out : SS × T × T)
    (h3 : lRead3 E L (lWrite2 E L ssL reL (L.payload E)).2 x3 = some out)
    (hNC : ∀ k n ad p, T.aead k n ad p ∈ x3 → T.aead k n ad p ∈ (lWrite2 E L ssL reL (L.payload E)).1) : False := by
  obtain ⟨ss', rs', pl'⟩ := out
  obtain ⟨c1', c2', rfl, hc1', hc2'⟩ := lRead3_inv (k := _) rfl h3
  have hm := hNC _ _ _ _ (by rw [hc2']; exact List.mem_cons_of_mem _ (List.mem_singleton.2 rfl))
  subst hc2' hc1'
  simp only [lWrite2, SS.encryptAndHash, SS.mixKey, SS.mixHash, List.mem_cons,
    reduceCtorEq, T.aead.injEq, List.mem_nil_iff, T.h.injEq, T.k2.injEq, T.k1.injEq,
    false_and, and_false, or_self] at hm

/-- A side that ends in `ok` passed `parse_and_verify_peer_id` on the payload and static key it decrypted. -/
theorem finish_ok_inv {E : Env} {pl : Bytes} {p : NoisePayload} {rsT : T} {P : PeerId} {rs : Bytes}
    (hp : NoisePayload.decode pl = some p) (h : finish E p rsT = .ok P rs) :
    rs = termBytes rsT ∧ parseAndVerify E.c pl rs = .ok P := by
  unfold finish at h
  split at h
  · rename_i peer hc
    simp only [Res.ok.injEq] at h
    obtain ⟨rfl, rfl⟩ := h
    exact ⟨rfl, by simp [parseAndVerify, hp, hc]⟩
  · simp at h

theorem ok_of_ite {c : Prop} [Decidable c] {y x : Res} {P : PeerId} {rs : Bytes}
    (h : (if c then y else x) = Res.ok P rs) (hy : y.isOk = false) : x = .ok P rs := by
  split at h
  · rw [h] at hy; cases hy
  · exact h

theorem isOk_ite_err {c : Prop} [Decidable c] {a b : NegErr} : (if c then Res.err a else .err b).isOk = false := by
  split <;> rfl

theorem resolve_ok_of {eof : Bool} {r : Res × Res} {P : PeerId} {rs : Bytes} :
    (r.1 = .ok P rs → (resolve eof r).1 = .ok P rs) ∧ (r.2 = .ok P rs → (resolve eof r).2 = .ok P rs) :=
  ⟨fun h => by simp [resolve, h], fun h => by simp [resolve, h]⟩

/-- Every rule of `resolve` replaces a result by an error or leaves it alone. -/
theorem resolve_ok_inv {eof : Bool} {r : Res × Res} {P : PeerId} {rs : Bytes} :
    ((resolve eof r).1 = .ok P rs → r.1 = .ok P rs) ∧ ((resolve eof r).2 = .ok P rs → r.2 = .ok P rs) :=
  ⟨fun h => ok_of_ite (ok_of_ite (ok_of_ite h rfl) rfl) rfl,
   fun h => ok_of_ite (ok_of_ite (ok_of_ite h isOk_ite_err) rfl) rfl⟩

theorem stageL1_cases (E : Env) (L : Party) (x : Dlv) :
    (∃ r, stageL1 E L x = .stuck r ∧ r.isOk = false) ∨
    ∃ x1 ssL reL, lRead1 SS.init x1 = some (ssL, reL) ∧
      stageL1 E L x = .sent (lWrite2 E L ssL reL (L.payload E)).1 (lWrite2 E L ssL reL (L.payload E)).2 := by
  unfold stageL1
  split
  · exact .inl ⟨_, rfl, rfl⟩
  · exact .inl ⟨_, rfl, rfl⟩
  · rename_i x1
    split
    · exact .inl ⟨_, rfl, rfl⟩
    · rename_i ssL reL hr
      exact .inr ⟨x1, ssL, reL, hr, rfl⟩

theorem stageD2_cases (E : Env) (D : Party) (x : Dlv) :
    (∃ r, stageD2 E D x = .stuck r ∧ r.isOk = false) ∨
    ∃ x2 ss re rsT plT p, x = .msg x2 ∧ dRead2 E D (dWrite1 E D).2 x2 = some (ss, re, rsT, plT) ∧
      NoisePayload.decode (termBytes plT) = some p ∧
      stageD2 E D x = .sent (dWrite3 E D ss re (D.payload E)).1 (finish E p rsT) := by
  unfold stageD2
  split
  · exact .inl ⟨_, rfl, rfl⟩
  · exact .inl ⟨_, rfl, rfl⟩
  · rename_i x2
    split
    · exact .inl ⟨_, rfl, rfl⟩
    · rename_i ss re rsT plT hr
      split
      · exact .inl ⟨_, rfl, rfl⟩
      · rename_i p hp
        exact .inr ⟨x2, ss, re, rsT, plT, p, rfl, hr, hp, rfl⟩

theorem stageD2_ok_inv {E : Env} {D : Party} {x : Dlv} {P : PeerId} {rs : Bytes}
    (h : (stageD2 E D x).res = .ok P rs) :
    ∃ x2 ss re rsT plT, x = .msg x2 ∧ dRead2 E D (dWrite1 E D).2 x2 = some (ss, re, rsT, plT) ∧
      rs = termBytes rsT ∧ parseAndVerify E.c (termBytes plT) rs = .ok P := by
  rcases stageD2_cases E D x with ⟨r, hs, hr⟩ | ⟨x2, ss, re, rsT, plT, p, hx, hr, hp, hs⟩ <;> rw [hs] at h
  · obtain rfl : r = .ok P rs := h
    cases hr
  · obtain ⟨rfl, hv⟩ := finish_ok_inv hp h
    exact ⟨x2, ss, re, rsT, plT, hx, hr, rfl, hv⟩

theorem stageL3_ok_inv {E : Env} {L : Party} {xa x : Dlv} {P : PeerId} {rs : Bytes}
    (h : stageL3 E L (stageL1 E L xa) x = .ok P rs) :
    ∃ x1 ssL reL x3 ss' rsT plT, lRead1 SS.init x1 = some (ssL, reL) ∧
      stageL1 E L xa = .sent (lWrite2 E L ssL reL (L.payload E)).1 (lWrite2 E L ssL reL (L.payload E)).2 ∧
      x = .msg x3 ∧ lRead3 E L (lWrite2 E L ssL reL (L.payload E)).2 x3 = some (ss', rsT, plT) ∧
      rs = termBytes rsT ∧ parseAndVerify E.c (termBytes plT) rs = .ok P := by
  rcases stageL1_cases E L xa with ⟨r, hs, hr⟩ | ⟨x1, ssL, reL, hr1, hs⟩ <;> rw [hs] at h ⊢ <;> unfold stageL3 at h
  · obtain rfl : r = .ok P rs := h
    cases hr
  · simp only at h
    split at h
    · simp at h
    · simp at h
    · rename_i x3
      split at h
      · simp at h
      · rename_i ss' rsT plT hr
        split at h
        · simp at h
        · rename_i p hp
          obtain ⟨rfl, hv⟩ := finish_ok_inv hp h
          exact ⟨x1, ssL, reL, x3, ss', rsT, plT, hr1, rfl, rfl, hr, rfl, hv⟩

/-- An attacker that encrypts nothing itself: every ciphertext it delivers was sent by an honest party of the session
(it may drop, delay, truncate, garble, reorder, reflect, and add arbitrary plaintext/garbage fields). -/
structure Passive (A : Attacker) : Prop where
  p2 : ∀ m1 m2 x, A.a2 m1 m2 = .msg x → ∀ k n ad p, T.aead k n ad p ∈ x → ∃ m, m2 = some m ∧ T.aead k n ad p ∈ m
  p3 : ∀ m1 m2 m3 x, A.a3 m1 m2 m3 = .msg x → ∀ k n ad p, T.aead k n ad p ∈ x →
    (∃ m, m3 = some m ∧ T.aead k n ad p ∈ m) ∨ (∃ m, m2 = some m ∧ T.aead k n ad p ∈ m)

/-- The honest transcript `hm1`, `hm2`, `hm3`; `hssL` is the listener's symmetric state after it has read `hm1`; `hm3` is `[]`
should `dRead2` not accept `hm2`. -/
def hm1 (E : Env) (D : Party) : List T := (dWrite1 E D).1
def hssL (E : Env) (D : Party) : SS := (SS.init.mixHash (.bytes (E.g.pubB D.e))).mixHash (.bytes [])
def hm2 (E : Env) (D L : Party) : List T := (lWrite2 E L (hssL E D) (.bytes (E.g.pubB D.e)) (L.payload E)).1
def hm3 (E : Env) (D L : Party) : List T :=
  match dRead2 E D (dWrite1 E D).2 (hm2 E D L) with
  | some (ss, re, _, _) => (dWrite3 E D ss re (D.payload E)).1
  | none => []

theorem agreement_run_D (E : Env) (D L : Party) (A : Attacker) (hP : Passive A) (P : PeerId) (rs : Bytes)
    (h : (run1 E D L A).1 = .ok P rs) :
    (stageL1 E L (A.a1 (hm1 E D))).msg? = some (hm2 E D L) ∧
      A.a2 (hm1 E D) (some (hm2 E D L)) = .msg (hm2 E D L) := by
  simp only [run1] at h
  obtain ⟨x2, ss, re, rsT, plT, hx, hr, -, -⟩ := stageD2_ok_inv h
  rcases stageL1_cases E L (A.a1 (dWrite1 E D).1) with ⟨r, hs, -⟩ | ⟨x1, ssL, reL, hr1, hs⟩ <;> rw [hs] at hx <;>
    simp only [L1.msg?] at hx
  · -- no message 2 was sent: the payload ciphertext the dialer accepted would come from nowhere
    obtain ⟨c1, c2, rfl, -, hc2, -⟩ := dRead2_inv hr
    obtain ⟨m, hm, -⟩ := hP.p2 _ _ _ hx _ _ _ _ (by rw [hc2]; exact List.mem_cons_of_mem _ (List.mem_cons_of_mem _ (List.mem_singleton.2 rfl)))
    cases hm
  · obtain ⟨hx2, rfl, rfl⟩ := agreement_D E D L x1 _ ssL reL _ hr1 hr (by
      intro k n ad p hmem
      obtain ⟨m', hm', hin⟩ := hP.p2 _ _ _ hx k n ad p hmem
      cases hm'
      exact hin)
    simp only [hm1, hm2, hssL, L1.msg?]
    rw [hs]
    refine ⟨rfl, ?_⟩
    rw [hx, hx2]

theorem agreement_run_L (E : Env) (D L : Party) (A : Attacker) (hP : Passive A) (P : PeerId) (rs : Bytes)
    (h : (run1 E D L A).2 = .ok P rs) :
    (stageL1 E L (A.a1 (hm1 E D))).msg? = some (hm2 E D L) ∧
      A.a2 (hm1 E D) (some (hm2 E D L)) = .msg (hm2 E D L) ∧
      (stageD2 E D (A.a2 (hm1 E D) (some (hm2 E D L)))).msg? = some (hm3 E D L) ∧
      A.a3 (hm1 E D) (some (hm2 E D L)) (some (hm3 E D L)) = .msg (hm3 E D L) := by
  simp only [run1] at h
  obtain ⟨x1, ssL, reL, x3, ss', rsT, plT, hr1, hs, hx3, hr3, -, -⟩ := stageL3_ok_inv h
  rw [hs] at hx3
  simp only [L1.msg?] at hx3
  rcases stageD2_cases E D (A.a2 (dWrite1 E D).1 (some (lWrite2 E L ssL reL (L.payload E)).1)) with
    ⟨r, hd, -⟩ | ⟨x2, ssD, reD, rsD, plD, p, hx2, hr2, -, hd⟩ <;> rw [hd] at hx3 <;> simp only [D2.msg?] at hx3
  · exfalso
    refine no_reflection_L E L _ ssL reL _ hr3 ?_
    intro k n ad p hmem
    rcases hP.p3 _ _ _ _ hx3 k n ad p hmem with ⟨m, hm, _⟩ | ⟨m, hm, hin⟩
    · cases hm
    · cases hm
      exact hin
  · obtain ⟨h3, h2, rfl, rfl⟩ := agreement_L E D L x1 x2 _ ssL ssD reL reD rsD plD _ hr1 hr2 hr3 (by
      intro k n ad p hmem
      rcases hP.p3 _ _ _ _ hx3 k n ad p hmem with ⟨m, hm, hin⟩ | ⟨m, hm, hin⟩
      · cases hm
        exact .inl hin
      · cases hm
        exact .inr hin)
    have e3 : hm3 E D L = (dWrite3 E D ssD reD (D.payload E)).1 := by
      simp only [hm3, hm2, hssL, ← h2, hr2]
    simp only [hm1, hm2, hssL, e3]
    rw [hs]
    refine ⟨rfl, ?_, ?_, ?_⟩
    · rw [hx2, h2]
    · rw [hd]; rfl
    · rw [hx3, h3]

theorem mem_garble {x : T} (hx : ∀ i k, x ≠ .junk i k) (id : Nat) :
    ∀ (o : Nat) (m : List T), x ∈ garble id o m → x ∈ m
  | _, [], h => by simp [garble] at h
  | o, f :: rest, h => by
    unfold garble at h
    split at h
    · rcases List.mem_cons.1 h with rfl | h
      · exact absurd rfl (hx _ _)
      · exact List.mem_cons_of_mem _ h
    · rcases List.mem_cons.1 h with rfl | h
      · exact List.mem_cons_self ..
      · exact List.mem_cons_of_mem _ (mem_garble hx id _ rest h)

theorem mem_truncBody {x : T} (hx : ∀ i k, x ≠ .junk i k) : ∀ (n : Nat) (m : List T), x ∈ truncBody n m → x ∈ m
  | _, [], h => by simp [truncBody] at h
  | n, f :: rest, h => by
    unfold truncBody at h
    split at h
    · simp at h
    · split at h
      · rcases List.mem_cons.1 h with rfl | h
        · exact List.mem_cons_self ..
        · exact List.mem_cons_of_mem _ (mem_truncBody hx _ rest h)
      · exact absurd (List.mem_singleton.1 h) (hx _ _)

theorem applyAct_aead {eof : Bool} {k : Nat} {a : Act} {own : Option (List T)} {x : List T}
    (h : applyAct eof k a own none = .msg x) {kk : T} {n : Nat} {ad p : T} (hm : T.aead kk n ad p ∈ x) :
    ∃ m, own = some m ∧ T.aead kk n ad p ∈ m := by
  unfold applyAct at h
  split at h
  · simp at h
  · rename_i m
    refine ⟨m, rfl, ?_⟩
    split at h
    · simp only [Dlv.msg.injEq] at h; subst h; exact hm
    · rename_i off mask
      unfold flipMsg at h
      split at h
      · have key : ∀ L', (if bodySize m < L' then Dlv.hang else Dlv.msg (truncBody L' m)) = .msg x →
            T.aead kk n ad p ∈ m := by
          intro L' h'
          split at h'
          · simp at h'
          · simp only [Dlv.msg.injEq] at h'; subst h'
            exact mem_truncBody (by simp) _ _ hm
        exact key _ h
      · simp only [Dlv.msg.injEq] at h; subst h
        exact mem_garble (by simp) _ _ _ hm
    · simp only [Dlv.msg.injEq] at h; subst h
      exact mem_truncBody (by simp) _ _ hm
    · simp only [Dlv.msg.injEq] at h; subst h
      simp only [List.mem_append, List.mem_singleton, reduceCtorEq, or_false] at hm
      exact hm
    · split at h <;> simp at h
    · split at h <;> simp at h
    · simp at h
    · simp at h

theorem scripted_passive (eof : Bool) (a1 a2 a3 : Act) : Passive (scripted eof a1 a2 a3) where
  p2 := by
    intro m1 m2 x h k n ad p hm
    exact applyAct_aead (by simpa [scripted] using h) hm
  p3 := by
    intro m1 m2 m3 x h k n ad p hm
    exact Or.inl (applyAct_aead (by simpa [scripted] using h) hm)

end Litep2pVerif.Noise.XX
