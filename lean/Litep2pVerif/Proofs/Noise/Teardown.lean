import Litep2pVerif.Proofs.Noise.Transport
/-!
# Teardown of the Noise writer: the complete `poll_flush` and `poll_close`

`pollFlushE` = drain the encrypt buffer, then the inner `poll_flush`; `pollCloseE` = `ready!(poll_flush)?`, then the
inner `poll_close`. For every reachable writer state (`WSInv`) and every schedule of carrier answers (the three scripts
of `WEnv`): `Ready(Ok)` of either call means the carrier holds the complete wire image of everything `poll_write`
accepted; a `Pending` of either call, and of `poll_write`, stems from a `Pending` of the carrier (which registered the
waker) and consumes a script entry.
-/
namespace Litep2pVerif.Noise.Transport

variable {C : Type}

/-- Inner `poll_flush` / `poll_close` that never fail. -/
def GoodF (script : List FHint) : Prop := ∀ h ∈ script, h = FHint.pend

/-- A carrier that never fails: partial writes and `Pending`s only. -/
structure GoodWEnv (e : WEnv C) : Prop where
  w : NoFault e.wc.script
  f : GoodF e.fscript
  c : GoodF e.cscript

/-- Number of scripted carrier answers still to come. -/
def WEnv.todo (e : WEnv C) : Nat := e.wc.script.length + e.fscript.length + e.cscript.length

theorem GoodF_tail {h : FHint} {r : List FHint} (g : GoodF (h :: r)) : GoodF r :=
  fun x hx => g x (List.mem_cons_of_mem _ hx)

structure FlushPost (P : Params) (w : WireOps C) (s : WriteSock C) (e : WEnv C) (frames : List Chunk) (wpos : Nat)
    (r : WriteSock C × WEnv C × WOut) : Prop where
  nopanic : ∀ m, r.2.2 ≠ .panic m
  keep : (∀ x, r.2.2 ≠ .err x) → WSInv P w r.1 r.2.1.wc frames wpos
  closed : r.2.1.closed = e.closed
  cscript : r.2.1.cscript = e.cscript
  ok : ∀ k, r.2.2 = .ok k →
    r.2.1.wc.out.toList = wireOf w P.T 0 frames ∧ r.1.st = .idle ∧ r.2.1.flushed = r.2.1.wc.out.size
  pend : r.2.2 = .pending →
    ((drain (drainFuel s) s e.wc).2.2 = .blocked ∨ e.fscript.head? = some .pend) ∧ r.2.1.todo < e.todo
  le : r.2.1.todo ≤ e.todo
  good : GoodWEnv e → GoodWEnv r.2.1 ∧ ∀ x, r.2.2 ≠ .err x

theorem pollFlushE_spec (P : Params) (w : WireOps C) (s : WriteSock C) (e : WEnv C)
    (frames : List Chunk) (wpos : Nat) (h : WSInv P w s e.wc frames wpos) :
    FlushPost P w s e frames wpos (pollFlushE s e) := by
  obtain ⟨f1, f2, f3, f4, fle, fs⟩ := pollFlush_spec P w s e.wc frames wpos h
  unfold pollFlushE
  rcases hp : pollFlush s e.wc with ⟨s', c', o⟩
  rw [hp] at f1 f2 f3 f4 fle fs
  simp only [] at f1 f2 f3 f4 fle fs
  cases o with
  | ok k =>
    have hk : WSInv P w s' c' frames wpos := f3 (by simp)
    simp only []
    cases hfs : e.fscript with
    | nil =>
      refine ⟨by simp, fun _ => hk, rfl, rfl, fun _ _ => ⟨(f4 k rfl).1, (f4 k rfl).2, rfl⟩, by simp, ?_, fun g => ?_⟩
      · simp only [WEnv.todo, hfs]; omega
      · exact ⟨⟨(f2 g.w).1, by simp [GoodF], g.c⟩, by simp⟩
    | cons hd tl =>
      cases hd with
      | pend =>
        refine ⟨by simp, fun _ => hk, rfl, rfl, by simp, fun _ => ⟨Or.inr (by rw [hfs]; rfl), ?_⟩, ?_, fun g => ?_⟩
        · simp only [WEnv.todo, hfs, List.length_cons]; omega
        · simp only [WEnv.todo, hfs, List.length_cons]; omega
        · exact ⟨⟨(f2 g.w).1, GoodF_tail (by have := g.f; rwa [hfs] at this), g.c⟩, by simp⟩
      | err =>
        refine ⟨by simp, fun hh => absurd rfl (hh _), rfl, rfl, by simp, by simp, ?_, fun g => ?_⟩
        · simp only [WEnv.todo, hfs, List.length_cons]; omega
        · have := g.f .err (by rw [hfs]; exact List.mem_cons_self ..)
          cases this
  | pending =>
    refine ⟨by simp, fun _ => f3 (by simp), rfl, rfl, by simp, fun _ => ⟨Or.inl (fs rfl).1, ?_⟩, ?_, fun g => ?_⟩
    · simp only [WEnv.todo]; have := (fs rfl).2; omega
    · simp only [WEnv.todo]; omega
    · exact ⟨⟨(f2 g.w).1, g.f, g.c⟩, by simp⟩
  | err x =>
    refine ⟨by simp, fun hh => absurd rfl (hh x), rfl, rfl, by simp, by simp, ?_, fun g => ?_⟩
    · simp only [WEnv.todo]; omega
    · exact absurd rfl ((f2 g.w).2 x)
  | panic m => exact absurd rfl (f1 m)

structure ClosePost (P : Params) (w : WireOps C) (s : WriteSock C) (e : WEnv C) (frames : List Chunk) (wpos : Nat)
    (r : WriteSock C × WEnv C × WOut) : Prop where
  nopanic : ∀ m, r.2.2 ≠ .panic m
  keep : (∀ x, r.2.2 ≠ .err x) → WSInv P w r.1 r.2.1.wc frames wpos
  /-- the write half of the carrier is closed by this call only if the call returns `Ready(Ok)` -/
  closed : e.closed = false → r.2.1.closed = true → ∃ k, r.2.2 = .ok k
  ok : ∀ k, r.2.2 = .ok k →
    r.2.1.wc.out.toList = wireOf w P.T 0 frames ∧ r.1.st = .idle ∧ r.2.1.flushed = r.2.1.wc.out.size ∧
    r.2.1.closed = true
  pend : r.2.2 = .pending →
    ((drain (drainFuel s) s e.wc).2.2 = .blocked ∨ e.fscript.head? = some .pend ∨ e.cscript.head? = some .pend) ∧
    r.2.1.todo < e.todo
  le : r.2.1.todo ≤ e.todo
  good : GoodWEnv e → GoodWEnv r.2.1 ∧ ∀ x, r.2.2 ≠ .err x

theorem pollCloseE_spec (P : Params) (w : WireOps C) (s : WriteSock C) (e : WEnv C)
    (frames : List Chunk) (wpos : Nat) (h : WSInv P w s e.wc frames wpos) :
    ClosePost P w s e frames wpos (pollCloseE s e) := by
  have fp := pollFlushE_spec P w s e frames wpos h
  unfold pollCloseE
  rcases hp : pollFlushE s e with ⟨s', e', o⟩
  rw [hp] at fp
  obtain ⟨p1, p2, p3, p4, p5, p6, ple, p7⟩ := fp
  simp only [] at p1 p2 p3 p4 p5 p6 ple p7
  have hstay : e.closed = false → e'.closed = true → False := by
    intro h0 h1; rw [p3, h0] at h1; cases h1
  cases o with
  | ok k =>
    have hk : WSInv P w s' e'.wc frames wpos := p2 (by simp)
    obtain ⟨o1, o2, o3⟩ := p5 k rfl
    simp only []
    cases hcs : e'.cscript with
    | nil =>
      refine ⟨by simp, fun _ => hk, fun _ _ => ⟨0, rfl⟩, fun _ _ => ⟨o1, o2, rfl, rfl⟩, by simp, ?_, fun g => ?_⟩
      · simp only [WEnv.todo, hcs] at ple ⊢; omega
      · have g' := p7 g
        exact ⟨⟨g'.1.w, g'.1.f, by simp [GoodF]⟩, by simp⟩
    | cons hd tl =>
      have hce : e.cscript = hd :: tl := by rw [← p4, hcs]
      cases hd with
      | pend =>
        refine ⟨by simp, fun _ => hk, fun h0 h1 => (hstay h0 h1).elim, by simp,
          fun _ => ⟨Or.inr (Or.inr (by rw [hce]; rfl)), ?_⟩, ?_, fun g => ?_⟩
        · simp only [WEnv.todo, hcs, List.length_cons] at ple ⊢; omega
        · simp only [WEnv.todo, hcs, List.length_cons] at ple ⊢; omega
        · have g' := p7 g
          exact ⟨⟨g'.1.w, g'.1.f, GoodF_tail (by have := g'.1.c; rwa [hcs] at this)⟩, by simp⟩
      | err =>
        refine ⟨by simp, fun hh => absurd rfl (hh _), fun h0 h1 => (hstay h0 h1).elim, by simp, by simp, ?_,
          fun g => ?_⟩
        · simp only [WEnv.todo, hcs, List.length_cons] at ple ⊢; omega
        · have := (p7 g).1.c .err (by rw [hcs]; exact List.mem_cons_self ..)
          cases this
  | pending =>
    refine ⟨by simp, fun _ => p2 (by simp), fun h0 h1 => (hstay h0 h1).elim, by simp, fun _ => ⟨?_, (p6 rfl).2⟩,
      ple, fun g => p7 g⟩
    rcases (p6 rfl).1 with a | a
    · exact Or.inl a
    · exact Or.inr (Or.inl a)
  | err x =>
    exact ⟨by simp, fun hh => absurd rfl (hh x), fun h0 h1 => (hstay h0 h1).elim, by simp, by simp, ple,
      fun g => p7 g⟩
  | panic m => exact absurd rfl (p1 m)

/-- `flush().await`: whatever the number of polls, `Ok` means everything is with the carrier; with a carrier that
never fails, one poll per scripted answer plus one suffices. -/
theorem flushRun_spec (P : Params) (w : WireOps C) (frames : List Chunk) (wpos : Nat) (n : Nat)
    (s : WriteSock C) (e : WEnv C) (h : WSInv P w s e.wc frames wpos) :
    (∀ k, (flushRun n s e).2.2 = .ok k →
      (flushRun n s e).2.1.wc.out.toList = wireOf w P.T 0 frames ∧ (flushRun n s e).1.st = .idle ∧
      (flushRun n s e).2.1.flushed = (flushRun n s e).2.1.wc.out.size) ∧
    (GoodWEnv e → e.todo < n → ∃ k, (flushRun n s e).2.2 = .ok k) := by
  induction n generalizing s e with
  | zero => exact ⟨by simp [flushRun], fun _ hn => absurd hn (Nat.not_lt_zero _)⟩
  | succ n ih =>
    have fp := pollFlushE_spec P w s e frames wpos h
    unfold flushRun
    rcases hp : pollFlushE s e with ⟨s', e', o⟩
    rw [hp] at fp
    cases o with
    | pending =>
      have hk := fp.keep (by simp)
      have := ih s' e' hk
      refine ⟨this.1, fun g hn => this.2 (fp.good g).1 ?_⟩
      have := (fp.pend rfl).2
      simp only [] at this; omega
    | ok k => exact ⟨fp.ok, fun _ _ => ⟨k, rfl⟩⟩
    | err x => exact ⟨fp.ok, fun g _ => absurd rfl ((fp.good g).2 x)⟩
    | panic m => exact absurd rfl (fp.nopanic m)

/-- `close().await`. -/
theorem closeRun_spec (P : Params) (w : WireOps C) (frames : List Chunk) (wpos : Nat) (n : Nat)
    (s : WriteSock C) (e : WEnv C) (h : WSInv P w s e.wc frames wpos) (hopen : e.closed = false) :
    ((closeRun n s e).2.1.closed = true → ∃ k, (closeRun n s e).2.2 = .ok k) ∧
    (∀ k, (closeRun n s e).2.2 = .ok k →
      (closeRun n s e).2.1.wc.out.toList = wireOf w P.T 0 frames ∧ (closeRun n s e).1.st = .idle ∧
      (closeRun n s e).2.1.closed = true) ∧
    (GoodWEnv e → e.todo < n → ∃ k, (closeRun n s e).2.2 = .ok k) := by
  induction n generalizing s e with
  | zero =>
    refine ⟨?_, by simp [closeRun], fun _ hn => absurd hn (Nat.not_lt_zero _)⟩
    intro hc; simp only [closeRun] at hc; rw [hopen] at hc; cases hc
  | succ n ih =>
    have cp := pollCloseE_spec P w s e frames wpos h
    unfold closeRun
    rcases hp : pollCloseE s e with ⟨s', e', o⟩
    rw [hp] at cp
    have hcl : (∀ k, o ≠ .ok k) → e'.closed = false := by
      intro hno
      cases hc : e'.closed with
      | false => rfl
      | true =>
        obtain ⟨k, hk⟩ := cp.closed hopen hc
        exact absurd hk (hno k)
    cases o with
    | pending =>
      have hk := cp.keep (by simp)
      have := ih s' e' hk (hcl (by simp))
      refine ⟨this.1, this.2.1, fun g hn => this.2.2 (cp.good g).1 ?_⟩
      have := (cp.pend rfl).2
      simp only [] at this; omega
    | ok k =>
      exact ⟨fun _ => ⟨k, rfl⟩, fun k hk => ⟨(cp.ok k hk).1, (cp.ok k hk).2.1, (cp.ok k hk).2.2.2⟩,
        fun _ _ => ⟨k, rfl⟩⟩
    | err x =>
      refine ⟨?_, by simp, fun g _ => absurd rfl ((cp.good g).2 x)⟩
      intro hc
      have := hcl (by simp)
      simp only [] at hc; rw [this] at hc; cases hc
    | panic m => exact absurd rfl (cp.nopanic m)

/-- `Pending` out of the chunk loop: nothing was buffered, because the first chunk does not fit. -/
theorem encLoop_pending (P : Params) (w : WireOps C) (hm : 1 ≤ P.MAXF) (fuel : Nat) (s : WriteSock C)
    (pos rem bo total : Nat) (hfuel : rem ≤ fuel) (h : (encLoop P w fuel s pos rem bo total).2 = .pending) :
    total = 0 ∧ (rem = 0 ∨ bo + min rem P.MAXF + (2 + P.TAG) > s.ebuf.size) := by
  have stop : ∀ {s : WriteSock C} {bo total : Nat}, (finishWrite s bo total).2 = .pending → total = 0 := by
    intro s bo total hp
    have := (finishWrite_spec s bo total).2.2
    split at this
    · assumption
    · rw [this.1] at hp; cases hp
  induction fuel generalizing s pos rem bo total with
  | zero => exact ⟨stop h, Or.inl (Nat.le_zero.1 hfuel)⟩
  | succ fuel ih =>
    unfold encLoop at h
    by_cases hrem : rem = 0
    · rw [if_pos hrem] at h; exact ⟨stop h, Or.inl hrem⟩
    · rw [if_neg hrem] at h
      by_cases hfit : bo + min rem P.MAXF + (2 + P.TAG) > s.ebuf.size
      · rw [if_pos hfit] at h; exact ⟨stop h, Or.inr hfit⟩
      · rw [if_neg hfit] at h
        split at h
        · cases h
        · have := (ih _ _ _ _ _ (by omega) h).1
          omega

/-- **A `Pending` of `poll_write` is a `Pending` of the carrier.** With room for at least one frame (`W ≥ 1`),
`poll_write` answers `Pending` only if the encrypt buffer could not be drained because the inner `poll_write`
answered `Pending` in this very call (which registered the waker). -/
theorem pollWrite_pending_blocked (P : Params) (w : WireOps C) (hc : WConsts P) (hW : 1 ≤ P.W)
    (s : WriteSock C) (c : WCarrier C) (pos n : Nat) (hinv : WInv P s)
    (h : (pollWrite P w s c pos n).2.2 = .pending) : (drain (drainFuel s) s c).2.2 = .blocked := by
  unfold pollWrite at h
  rcases hd : drain (drainFuel s) s c with ⟨s', c', o⟩
  obtain ⟨d1, _, _, _, d6, _⟩ := drain_spec P hinv (Nat.le_refl _) hd
  rw [hd] at h
  simp only [] at h
  cases o with
  | blocked => rfl
  | err e => simp at h
  | panic m => simp at h
  | idle =>
    exfalso
    simp only [] at h
    have hidle := d6 rfl
    unfold encryptStep at h
    by_cases hn : n = 0
    · simp [hn] at h
    · rw [if_neg hn, if_neg (by have := hc.maxf; omega)] at h
      have hb : bufferOffset s' = 0 := by simp [bufferOffset, hidle]
      rw [hb] at h
      rcases (encLoop_pending P w hc.maxf n s' pos n 0 0 (Nat.le_refl _) h).2 with h0 | h0
      · exact hn h0
      · have hsz : s'.ebuf.size = P.encSize := d1.1
        have hmf := hc.maxf
        have : P.M + 2 ≤ P.W * (P.M + 2) := Nat.le_mul_of_pos_left _ hW
        simp only [Params.encSize, Params.MAXF] at hsz hmf h0 ⊢
        have : min n (P.M - P.TAG) ≤ P.M - P.TAG := Nat.min_le_right _ _
        omega

end Litep2pVerif.Noise.Transport
