import Litep2pVerif.Model.Id.PeerId
import Litep2pVerif.Proofs.Id.Varint
import Litep2pVerif.Proofs.Id.Base58
/-!
Lemmas about the multihash and peer-id models: byte round trips, canonicity (for headers without
10-byte varints), the invariant `Valid` of every constructible `PeerId`, and that no input reaches the shift panic of
the varint reader (`read_no_panic`, `fromBytes_no_panic`).
-/
namespace Litep2pVerif.Id
open Multihash (Multihash)

namespace Multihash

theorem fromBytes_toBytes (mh : Multihash) (h : Wf mh) : fromBytes (toBytes mh) = .ok mh := by
  obtain ⟨hc, hd⟩ := h
  unfold S at hd
  unfold fromBytes read toBytes
  rw [List.append_assoc, Varint.readU64_encodeU64 _ _ hc]
  simp only
  rw [Varint.readU64_encodeU8 _ _ (by omega)]
  have h1 : ¬ (mh.digest.length > S ∨ mh.digest.length > 255) := by unfold S; omega
  simp only [h1, if_false, Nat.lt_irrefl, List.take_length, List.drop_length, List.length_nil,
    ne_eq, not_true_eq_false]

theorem read_ok (bs rest : List UInt8) (mh : Multihash) (h : read bs = .ok (mh, rest)) :
    ∃ r1 r2 size, Varint.readU64 bs = .ok (mh.code, r1) ∧ Varint.readU64 r1 = .ok (size, r2) ∧
      size ≤ 64 ∧ size ≤ r2.length ∧ mh.digest = r2.take size ∧ rest = r2.drop size := by
  unfold read at h
  split at h
  · cases h
  · rename_i code r1 h1
    split at h
    · cases h
    · rename_i size r2 h2
      split at h
      · cases h
      · rename_i hs
        split at h
        · cases h
        · rename_i hl
          simp only [Except.ok.injEq, Prod.mk.injEq] at h
          obtain ⟨rfl, hr⟩ := h
          unfold S at hs
          exact ⟨r1, r2, size, h1, h2, by omega, by omega, rfl, hr.symm⟩

theorem fromBytes_ok (bs : List UInt8) (mh : Multihash) (h : fromBytes bs = .ok mh) :
    ∃ r1 r2, Varint.readU64 bs = .ok (mh.code, r1) ∧
      Varint.readU64 r1 = .ok (mh.digest.length, r2) ∧ mh.digest.length ≤ 64 ∧ mh.digest = r2 := by
  unfold fromBytes at h
  split at h
  · cases h
  · rename_i mh' rest hr
    split at h
    · cases h
    · rename_i hrest
      simp only [Except.ok.injEq] at h
      subst h
      obtain ⟨r1, r2, size, h1, h2, hs, hl, hd, hrest'⟩ := read_ok bs rest mh' hr
      have hlen : r2.length = size := by
        have : (r2.drop size).length = 0 := by rw [← hrest']; simpa using hrest
        rw [List.length_drop] at this; omega
      have hd' : mh'.digest = r2 := by rw [hd, ← hlen, List.take_length]
      refine ⟨r1, r2, h1, ?_, ?_, hd'⟩
      · rw [hd', hlen]; exact h2
      · rw [hd', hlen]; exact hs

theorem fromBytes_wf (bs : List UInt8) (mh : Multihash) (h : fromBytes bs = .ok mh) : Wf mh := by
  obtain ⟨r1, r2, h1, _, hs, _⟩ := fromBytes_ok bs mh h
  exact ⟨Varint.readU64_lt _ _ _ h1, hs⟩

/-- Canonicity: if neither header varint is 10 bytes long, the accepted bytes are `to_bytes`. -/
theorem toBytes_fromBytes (bs : List UInt8) (mh : Multihash) (h : fromBytes bs = .ok mh)
    (hc : Varint.headLen bs ≤ 9) (hs : Varint.headLen (bs.drop (Varint.headLen bs)) ≤ 9) :
    toBytes mh = bs := by
  obtain ⟨r1, r2, h1, h2, hlen, hd⟩ := fromBytes_ok bs mh h
  obtain ⟨hr1, _, henc1⟩ := Varint.readU64_canon bs _ _ h1 hc
  rw [← hr1] at hs
  obtain ⟨_, hone, henc2⟩ := Varint.readU64_canon r1 _ _ h2 hs
  have hl1 : Varint.headLen r1 = 1 := hone (by omega)
  unfold toBytes Varint.encodeU64 Varint.encodeU8
  conv => rhs; rw [henc1 10 (by omega), henc2 2 (by omega), ← hd]
  rw [List.append_assoc]

theorem read_no_panic (bs : List UInt8) : read bs ≠ .error (.varint .shiftPanic) := by
  unfold read
  split
  · rename_i e he
    intro hc
    cases hc
    exact Varint.readU64_no_panic _ he
  · split
    · rename_i e he
      intro hc
      cases hc
      exact Varint.readU64_no_panic _ he
    · split
      · simp
      · split <;> simp

theorem fromBytes_no_panic (bs : List UInt8) : fromBytes bs ≠ .error (.varint .shiftPanic) := by
  unfold fromBytes
  split
  · rename_i e he
    intro hc
    cases hc
    exact read_no_panic _ he
  · split <;> simp

end Multihash

namespace PeerId

theorem fromMultihash_ok (M : Nat) (mh : Multihash) (p : PeerId) (h : fromMultihash M mh = .ok p) :
    p.multihash = mh ∧ (Multihash.Wf mh → Valid M p) := by
  unfold fromMultihash at h
  split at h
  · cases h; exact ⟨rfl, fun hw => ⟨hw, Or.inl ‹_›⟩⟩
  · split at h
    · cases h; exact ⟨rfl, fun hw => ⟨hw, Or.inr ‹_›⟩⟩
    · cases h

theorem fromMultihash_of (M : Nat) (mh : Multihash)
    (h : mh.code = SHA2_256_CODE ∨ (mh.code = IDENTITY_CODE ∧ mh.digest.length ≤ M)) :
    fromMultihash M mh = .ok ⟨mh⟩ := by
  unfold fromMultihash
  rcases h with h | h
  · simp [h]
  · by_cases h2 : mh.code = SHA2_256_CODE
    · simp [h2]
    · simp [h]

theorem fromBytes_ok (M : Nat) (bs : List UInt8) (p : PeerId) (h : fromBytes M bs = .ok p) :
    Multihash.fromBytes bs = .ok p.multihash ∧ Valid M p := by
  unfold fromBytes at h
  split at h
  · cases h
  · rename_i mh hmh
    split at h
    · cases h
    · rename_i p' hp
      simp only [Except.ok.injEq] at h
      subst h
      obtain ⟨he, hv⟩ := fromMultihash_ok M mh p' hp
      exact ⟨he ▸ hmh, hv (Multihash.fromBytes_wf bs mh hmh)⟩

theorem fromBytes_toBytes (M : Nat) (p : PeerId) (h : Valid M p) :
    fromBytes M (toBytes p) = .ok p := by
  unfold fromBytes toBytes
  rw [Multihash.fromBytes_toBytes _ h.1]
  simp only [fromMultihash_of M p.multihash h.2]

theorem fromStr_ok (M : Nat) (s : List UInt8) (p : PeerId) (h : fromStr M s = .ok p) :
    ∃ bs, Base58.decode s = .ok bs ∧ fromBytes M bs = .ok p := by
  unfold fromStr at h
  split at h
  · cases h
  · rename_i bs hbs; exact ⟨bs, hbs, h⟩

theorem wrap_ok (code : Nat) (d : List UInt8) (h : d.length ≤ 64) :
    Multihash.wrap code d = .ok ⟨code, d⟩ := by
  unfold Multihash.wrap Multihash.S
  simp [Nat.not_lt.mpr h]

theorem valid_wrap {M code : Nat} {d : List UInt8} (hd : d.length ≤ 64)
    (hc : code = SHA2_256_CODE ∨ (code = IDENTITY_CODE ∧ d.length ≤ M)) : Valid M ⟨⟨code, d⟩⟩ :=
  ⟨⟨by show code < 2 ^ 64; rcases hc with rfl | ⟨rfl, _⟩ <;> decide, hd⟩, hc⟩

theorem fromPublicKeyProtobuf_inline {M : Nat} (hM : M ≤ 64) (hash : List UInt8 → List UInt8) (k : List UInt8)
    (h : k.length ≤ M) : fromPublicKeyProtobuf M hash k = .ok ⟨⟨IDENTITY_CODE, k⟩⟩ := by
  rw [fromPublicKeyProtobuf, if_pos h, wrap_ok _ _ (by omega)]

theorem fromPublicKeyProtobuf_hashed {M : Nat} (hash : List UInt8 → List UInt8) (k : List UInt8)
    (hk : (hash k).length ≤ 64) (h : M < k.length) :
    fromPublicKeyProtobuf M hash k = .ok ⟨⟨SHA2_256_CODE, hash k⟩⟩ := by
  rw [fromPublicKeyProtobuf, if_neg (by omega), wrap_ok _ _ hk]

theorem constructible_valid (M : Nat) (hM32 : 32 ≤ M) (hM : M ≤ 64) (hash : List UInt8 → List UInt8)
    (hlen : ∀ x, (hash x).length = 32) (p : PeerId) (h : Constructible M hash p) : Valid M p := by
  cases h with
  | ofKey k p hk =>
    have hh : (hash k).length ≤ 64 := by rw [hlen]; omega
    by_cases hle : k.length ≤ M
    · cases (fromPublicKeyProtobuf_inline hM hash k hle).symm.trans hk
      exact valid_wrap (by omega) (Or.inr ⟨rfl, hle⟩)
    · cases (fromPublicKeyProtobuf_hashed hash k hh (by omega)).symm.trans hk
      exact valid_wrap hh (Or.inl rfl)
  | ofMultihash mh p hwf hmh =>
    exact (fromMultihash_ok M mh p hmh).2 hwf
  | ofBytes bs p hb => exact (fromBytes_ok M bs p hb).2
  | ofStr s p hs =>
    obtain ⟨bs, _, hb⟩ := fromStr_ok M s p hs
    exact (fromBytes_ok M bs p hb).2
  | ofRandom r p hr hp =>
    unfold random at hp
    rw [wrap_ok _ _ (by omega)] at hp
    cases hp
    exact valid_wrap (by omega) (Or.inr ⟨rfl, by omega⟩)
  | ofMultiaddr a p hwf ha =>
    unfold tryFromMultiaddr at ha
    split at ha
    · rename_i peer hlast
      split at ha
      · rename_i p' hp'
        simp only [Option.some.injEq] at ha; subst ha
        exact (fromMultihash_ok M _ _ hp').2 (hwf peer (List.mem_of_getLast? hlast))
      · cases ha
    · cases ha
  | ofDeserialize hr v p hd =>
    unfold deserialize at hd
    split at hd
    · obtain ⟨bs, _, hb⟩ := fromStr_ok M v p hd
      exact (fromBytes_ok M bs p hb).2
    · exact (fromBytes_ok M v p hd).2

end PeerId
end Litep2pVerif.Id
