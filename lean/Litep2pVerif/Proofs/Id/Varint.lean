import Litep2pVerif.Model.Id.Varint
import Litep2pVerif.Proofs.Id.Groups
import Mathlib.Tactic.Ring
import Mathlib.Tactic.Linarith
/-!
Lemmas about the unsigned-varint model: `io::read_u64` is the `decode!` loop on the reader,
decoding an encoding gives the value back, and — as long as no 10-byte varint is involved — the
only byte string that decodes to a value is its encoding (minimality is enforced by `NotMinimal`); the debug-build
shift panic `shiftPanic` is unreachable.
-/
namespace Litep2pVerif.Id.Varint

theorem isLast_iff (b : UInt8) : isLast b = true ↔ b.toNat < 128 := by
  have hb := b.toNat_lt
  -- `b & 0x80` is bit 7 of `b` in place: its quotient and remainder by `2 ^ 7`
  have hd : (b.toNat &&& 0x80) / 2 ^ 7 = b.toNat / 2 ^ 7 % 2 := by
    rw [Nat.and_div_two_pow]; exact Nat.and_one_is_mod _
  have hm : (b.toNat &&& 0x80) % 2 ^ 7 = 0 := by
    rw [Nat.and_mod_two_pow]; exact Nat.and_zero _
  rw [isLast, beq_iff_eq]
  omega

theorem isLast_false_iff (b : UInt8) : isLast b = false ↔ 128 ≤ b.toNat := by
  rw [← Bool.not_eq_true, isLast_iff]; omega

theorem pow7 (i : Nat) : 2 ^ ((i + 1) * 7) = 128 * 2 ^ (i * 7) := by
  rw [Nat.mul_comm (i + 1) 7, Groups.pow_succ, Nat.mul_comm 7 i]

theorem accum_eq' (n i : Nat) (b : UInt8) (hn : n < 2 ^ (i * 7))
    (hlt : (b.toNat % 128) * 2 ^ (i * 7) < 2 ^ 64) :
    accum 64 n i b = n + (b.toNat % 128) * 2 ^ (i * 7) := by
  rw [accum, show (0x7F : Nat) = 2 ^ 7 - 1 from rfl, Nat.and_two_pow_sub_one_eq_mod, Nat.shiftLeft_eq,
    Nat.mod_eq_of_lt hlt, ← Nat.shiftLeft_eq, Nat.or_comm, ← Nat.shiftLeft_add_eq_or_of_lt hn,
    Nat.shiftLeft_eq, Nat.add_comm]

theorem accum_eq (n i : Nat) (b : UInt8) (hn : n < 2 ^ (i * 7)) (hi : i ≤ 8) :
    accum 64 n i b = n + (b.toNat % 128) * 2 ^ (i * 7) := by
  apply accum_eq' n i b hn
  have hp : 2 ^ ((i + 1) * 7) ≤ 2 ^ 64 := Nat.pow_le_pow_right (by decide) (by omega)
  have : (b.toNat % 128) * 2 ^ (i * 7) < 128 * 2 ^ (i * 7) :=
    Nat.mul_lt_mul_of_pos_right (Nat.mod_lt _ (by decide)) (Nat.two_pow_pos _)
  rw [pow7] at hp
  omega

theorem accum_lt_next (n i : Nat) (b : UInt8) (hn : n < 2 ^ (i * 7)) (hi : i ≤ 8) :
    accum 64 n i b < 2 ^ ((i + 1) * 7) := by
  have : b.toNat % 128 * 2 ^ (i * 7) ≤ 127 * 2 ^ (i * 7) := Nat.mul_le_mul_right _ (by omega)
  rw [accum_eq n i b hn hi, pow7]
  omega

theorem accum_lt (n i : Nat) (b : UInt8) (hn : n < 2 ^ 64) : accum 64 n i b < 2 ^ 64 :=
  Nat.or_lt_two_pow hn (Nat.mod_lt _ (Nat.two_pow_pos _))

/-- `decode!` entered within ten bytes and 64 bits stays there: the shift never reaches 64, and what is returned is a
`u64`. -/
theorem decodeLoop_inv (bs : List UInt8) : ∀ n i, i ≤ 9 → n < 2 ^ 64 →
    decodeLoop 9 64 n i bs ≠ .error .shiftPanic ∧
      ∀ v rest, decodeLoop 9 64 n i bs = .ok (v, rest) → v < 2 ^ 64 := by
  induction bs with
  | nil => intro n i _ _; exact ⟨nofun, nofun⟩
  | cons b t ih =>
    intro n i hi hn
    have ha := accum_lt n i b hn
    rw [decodeLoop, if_neg (by omega)]
    split
    · split
      · exact ⟨nofun, nofun⟩
      · exact ⟨nofun, fun v rest h => by cases h; exact ha⟩
    · split
      · exact ⟨nofun, nofun⟩
      · exact ih _ _ (by omega) ha

/-- `readLoop` keeps the bytes read so far in `buf`; all it needs of them is the state `n`, `i` in which `decode!`
leaves them (`hbuf`). The tenth continuation byte is refused by both: `readLoop` has no buffer slot left (`f = 0`),
`decode!` is at `i = 9`. -/
theorem readLoop_eq (bs : List UInt8) : ∀ f buf n i, f + i = 9 →
    (∀ t, decodeLoop 9 64 0 0 (buf ++ t) = decodeLoop 9 64 n i t) →
    readLoop (f + 1) buf bs = decodeLoop 9 64 n i bs := by
  induction bs with
  | nil => intro f buf n i _ _; rfl
  | cons b rest ih =>
    intro f buf n i hf hbuf
    have hi : ¬ 64 ≤ i * 7 := by omega
    rw [readLoop, decodeLoop, if_neg hi]
    by_cases hl : isLast b = true
    · rw [if_pos hl, if_pos hl, decodeU64, hbuf, decodeLoop, if_neg hi, if_pos hl]
      by_cases hz : b.toNat = 0 ∧ 0 < i
      · rw [if_pos hz, if_pos hz]
      · rw [if_neg hz, if_neg hz]
    · rw [if_neg hl, if_neg hl]
      cases f with
      | zero => rw [if_pos (by omega)]; rfl
      | succ f =>
        rw [if_neg (by omega)]
        refine ih f _ _ _ (by omega) fun t => ?_
        rw [List.append_assoc, hbuf, List.singleton_append, decodeLoop, if_neg hi, if_neg hl, if_neg (by omega)]

theorem readU64_eq (bs : List UInt8) : readU64 bs = decodeLoop 9 64 0 0 bs :=
  readLoop_eq bs 9 [] 0 0 rfl fun _ => rfl

theorem encodeLoop_eq (f n : Nat) (h : (Groups.enc n).length ≤ f) : encodeLoop f n = (Groups.enc n).map UInt8.ofNat :=
  Groups.enc_loop (fun _ _ => rfl) f n h

theorem decodeLoop_enc {n : Nat} (hn : n < 2 ^ 64) (rest : List UInt8) :
    decodeLoop 9 64 0 0 ((Groups.enc n).map UInt8.ofNat ++ rest) = .ok (n, rest) :=
  Groups.decode_enc (D := fun i acc bs => decodeLoop 9 64 acc i bs) (ret := fun v r => .ok (v, r))
    (bits := 64) (maxBytes := 9) (by decide)
    (fun i acc b rest hi ha hb hz hfit => by
      have hn : (UInt8.ofNat b).toNat = b := UInt8.toNat_ofNat_of_lt' (show b < 256 by omega)
      rw [Nat.mul_comm 7 i] at ha hfit ⊢
      rw [decodeLoop, if_neg (by omega), if_pos ((isLast_iff _).2 (by omega)), if_neg (by rw [hn]; exact fun h => hz h.2 h.1),
        accum_eq' acc i _ ha (by rw [hn, Nat.mod_eq_of_lt hb]; omega), hn, Nat.mod_eq_of_lt hb])
    (fun i acc g rest hi ha hg hfit => by
      have hn : (UInt8.ofNat (g + 128)).toNat = g + 128 := UInt8.toNat_ofNat_of_lt' (show g + 128 < 256 by omega)
      rw [Nat.mul_comm 7 i] at ha hfit ⊢
      rw [decodeLoop, if_neg (by omega), (isLast_false_iff _).2 (by omega), if_neg Bool.false_ne_true, if_neg (by omega),
        accum_eq' acc i _ ha (by rw [hn, Nat.add_mod_right, Nat.mod_eq_of_lt hg]; omega), hn, Nat.add_mod_right,
        Nat.mod_eq_of_lt hg])
    hn rest

theorem readU64_encode (f m : Nat) (rest : List UInt8) (hm : m < 2 ^ 64) (hf : m < 128 ^ f) (h0 : 0 < f) :
    readU64 (encodeLoop f m ++ rest) = .ok (m, rest) := by
  rw [readU64_eq, encodeLoop_eq f m (Groups.enc_length_le hf h0), decodeLoop_enc hm]

theorem readU64_encodeU64 (m : Nat) (rest : List UInt8) (hm : m < 2 ^ 64) :
    readU64 (encodeU64 m ++ rest) = .ok (m, rest) :=
  readU64_encode 10 m rest hm (Nat.lt_of_lt_of_le hm (by decide)) (by decide)

theorem readU64_encodeU8 (m : Nat) (rest : List UInt8) (hm : m < 256) :
    readU64 (encodeU8 m ++ rest) = .ok (m, rest) :=
  readU64_encode 2 m rest (by omega) (Nat.lt_of_lt_of_le hm (by decide)) (by decide)

theorem headLen_pos (b : UInt8) (t : List UInt8) : 1 ≤ headLen (b :: t) := by
  unfold headLen; split <;> omega

/-- If `decode!` accepts a varint of fewer than 10 bytes, the bytes consumed are exactly the encoding of the value. -/
theorem decodeLoop_canon (bs : List UInt8) : ∀ n i v rest,
    decodeLoop 9 64 n i bs = .ok (v, rest) → n < 2 ^ (i * 7) → i + headLen bs ≤ 9 →
    ∃ m, v = n + m * 2 ^ (i * 7) ∧ (i = 0 ∨ m ≠ 0) ∧ headLen bs = (Groups.enc m).length ∧
      bs = (Groups.enc m).map UInt8.ofNat ++ rest := by
  induction bs with
  | nil => intro n i v rest h; cases h
  | cons b t ih =>
    intro n i v rest h hn hi
    have hpos := headLen_pos b t
    have hacc := accum_eq n i b hn (by omega)
    rw [decodeLoop, if_neg (by omega)] at h
    by_cases hl : isLast b = true
    · have hb : b.toNat < 128 := (isLast_iff b).1 hl
      rw [if_pos hl] at h
      split at h
      · cases h
      · rename_i hnm
        cases h
        exact ⟨b.toNat, by rw [hacc, Nat.mod_eq_of_lt hb], by omega, by rw [headLen, if_pos hl, Groups.enc_lt hb]; rfl,
          by rw [Groups.enc_lt hb, List.map_singleton, UInt8.ofNat_toNat]; rfl⟩
    · have hnl : isLast b = false := by simpa using hl
      have hb : 128 ≤ b.toNat := (isLast_false_iff b).1 hnl
      have hb7 : b.toNat % 128 + 128 = b.toNat := by have := b.toNat_lt; omega
      have hlen : headLen (b :: t) = headLen t + 1 := by rw [headLen, hnl, if_neg Bool.false_ne_true, Nat.add_comm]
      rw [hnl, if_neg Bool.false_ne_true, if_neg (by omega)] at h
      obtain ⟨m', hv, hz, hl', henc⟩ := ih _ (i + 1) v rest h (accum_lt_next n i b hn (by omega)) (by omega)
      have hm' : m' ≠ 0 := hz.resolve_left (Nat.succ_ne_zero i)
      have he : Groups.enc (b.toNat % 128 + 128 * m') = b.toNat :: Groups.enc m' := by
        rw [Groups.enc_cons (Nat.mod_lt _ (by decide)) hm', hb7]
      rw [hacc, pow7, Nat.mul_left_comm, ← Nat.mul_assoc, Nat.add_assoc, ← Nat.add_mul] at hv
      exact ⟨b.toNat % 128 + 128 * m', hv, Or.inr (fun h0 => hm' (by clear hv; omega)), by rw [hlen, hl', he]; rfl,
        by rw [he, List.map_cons, UInt8.ofNat_toNat, List.cons_append, ← henc]⟩

theorem readU64_canon (bs : List UInt8) (v : Nat) (rest : List UInt8)
    (h : readU64 bs = .ok (v, rest)) (hs : headLen bs ≤ 9) :
    rest = bs.drop (headLen bs) ∧ (v < 128 → headLen bs = 1) ∧
    ∀ f, headLen bs ≤ f → bs = encodeLoop f v ++ rest := by
  rw [readU64_eq] at h
  obtain ⟨m, hv, _, hl, henc⟩ := decodeLoop_canon bs 0 0 v rest h Nat.one_pos (by omega)
  obtain rfl : v = m := by simpa using hv
  refine ⟨?_, fun h1 => by rw [hl, Groups.enc_lt h1]; rfl, fun f hf => by rw [encodeLoop_eq f v (hl ▸ hf)]; exact henc⟩
  rw [hl, ← List.length_map (f := UInt8.ofNat)]
  conv => rhs; arg 2; rw [henc]
  rw [List.drop_left]

theorem readU64_lt (bs : List UInt8) (v : Nat) (rest : List UInt8)
    (h : readU64 bs = .ok (v, rest)) : v < 2 ^ 64 := by
  rw [readU64_eq] at h
  exact (decodeLoop_inv bs 0 0 (Nat.zero_le 9) (Nat.two_pow_pos 64)).2 v rest h

theorem readU64_no_panic (bs : List UInt8) : readU64 bs ≠ .error .shiftPanic := by
  rw [readU64_eq]; exact (decodeLoop_inv bs 0 0 (Nat.zero_le 9) (Nat.two_pow_pos 64)).1

end Litep2pVerif.Id.Varint
