import Litep2pVerif.Model.Id.Base58
import Mathlib.Data.Nat.Digits.Defs
import Mathlib.Data.Nat.Digits.Lemmas

/-!
`conv bi bo` is a faithful base conversion (digits stay below the output base, converting back
gives the original digit list), hence `decode ∘ encode = ok` and `decode s = ok bs → encode bs = s`.
-/
namespace Litep2pVerif.Id.Base58

theorem pushCarry_eq_digits (bo : Nat) (hbo : 2 ≤ bo) (f c : Nat) (h : c ≤ f) :
    pushCarry bo f c = Nat.digits bo c := by
  induction f generalizing c with
  | zero =>
    obtain rfl : c = 0 := by omega
    simp [pushCarry]
  | succ f ih =>
    unfold pushCarry
    split
    · next h0 => subst h0; simp
    · next h0 =>
      have hpos : 0 < c := Nat.pos_of_ne_zero h0
      rw [Nat.digits_def' (by omega) hpos]
      congr 1
      apply ih
      have : c / bo < c := Nat.div_lt_self hpos (by omega)
      omega

theorem stepDigit_digits (bi bo : Nat) (hbi : 1 ≤ bi) (hbo : 2 ≤ bo) (n v : Nat) :
    stepDigit bi bo (Nat.digits bo n) v = Nat.digits bo (n * bi + v) := by
  induction n using Nat.strong_induction_on generalizing v with
  | _ n ih =>
    rcases Nat.eq_zero_or_pos n with rfl | hpos
    · simp only [Nat.digits_zero, stepDigit, carryLoop, List.nil_append, Nat.zero_mul,
        Nat.zero_add]
      exact pushCarry_eq_digits bo hbo v v (Nat.le_refl _)
    · have hlt : n / bo < n := Nat.div_lt_self hpos (by omega)
      have ih' := ih (n / bo) hlt ((v + n % bo * bi) / bo)
      have hpos' : 0 < n * bi + v := by
        have : 0 < n * bi := Nat.mul_pos hpos hbi
        omega
      rw [Nat.digits_def' (by omega) hpos, Nat.digits_def' (by omega) hpos']
      unfold stepDigit at ih' ⊢
      simp only [carryLoop, List.cons_append]
      have hdecomp : n * bi + v = (v + n % bo * bi) + bo * (n / bo * bi) := by
        have h := Nat.div_add_mod n bo
        calc n * bi + v = (bo * (n / bo) + n % bo) * bi + v := by rw [h]
          _ = (v + n % bo * bi) + bo * (n / bo * bi) := by ring
      have hmod : (n * bi + v) % bo = (v + n % bo * bi) % bo := by
        rw [hdecomp, Nat.add_mul_mod_self_left]
      have hdiv : (n * bi + v) / bo = n / bo * bi + (v + n % bo * bi) / bo := by
        rw [hdecomp, Nat.add_mul_div_left _ _ (by omega : 0 < bo)]
        omega
      rw [hmod, hdiv, ih']

/-- Big-endian value of a digit list. -/
def val (b : Nat) (ds : List Nat) (n : Nat) : Nat := ds.foldl (fun n v => n * b + v) n

theorem foldl_stepDigit_digits (bi bo : Nat) (hbi : 1 ≤ bi) (hbo : 2 ≤ bo) (ds : List Nat)
    (n : Nat) :
    ds.foldl (stepDigit bi bo) (Nat.digits bo n) = Nat.digits bo (val bi ds n) := by
  induction ds generalizing n with
  | nil => simp [val]
  | cons x xs ih =>
    simp only [List.foldl_cons, val]
    rw [stepDigit_digits bi bo hbi hbo, ih]
    rfl

theorem val_eq_ofDigits (b : Nat) (ds : List Nat) : val b ds 0 = Nat.ofDigits b ds.reverse := by
  rw [Nat.ofDigits_eq_foldr, List.foldr_reverse]
  unfold val
  congr 1
  funext n v
  simp [Nat.mul_comm, Nat.add_comm]

theorem convLE_eq (bi bo : Nat) (hbi : 1 ≤ bi) (hbo : 2 ≤ bo) (ds : List Nat) :
    convLE bi bo ds = Nat.digits bo (Nat.ofDigits bi ds.reverse) := by
  unfold convLE
  have := foldl_stepDigit_digits bi bo hbi hbo ds 0
  rw [Nat.digits_zero] at this
  rw [this, val_eq_ofDigits]

theorem conv_eq (bi bo : Nat) (hbi : 1 ≤ bi) (hbo : 2 ≤ bo) (ds : List Nat) :
    conv bi bo ds = List.replicate (leadingZeros ds) 0
      ++ (Nat.digits bo (Nat.ofDigits bi ds.reverse)).reverse := by
  unfold conv
  rw [convLE_eq bi bo hbi hbo, List.reverse_append, List.reverse_replicate]

theorem conv_lt (bi bo : Nat) (hbi : 1 ≤ bi) (hbo : 2 ≤ bo) (ds : List Nat) : ∀ d ∈ conv bi bo ds, d < bo := by
  intro d hd
  rw [conv_eq bi bo hbi hbo, List.mem_append, List.mem_replicate, List.mem_reverse] at hd
  rcases hd with ⟨_, rfl⟩ | hd
  · omega
  · exact Nat.digits_lt_base hbo hd

theorem leadingZeros_replicate_append (z : Nat) (R : List Nat) (hR : ∀ x ∈ R.head?, x ≠ 0) :
    leadingZeros (List.replicate z 0 ++ R) = z := by
  unfold leadingZeros
  rw [List.takeWhile_append_of_pos (by simp)]
  cases R with
  | nil => simp
  | cons x xs =>
    have hx : x ≠ 0 := hR x (by simp)
    rw [List.takeWhile_cons_of_neg (by simpa using hx)]
    simp

theorem split_leadingZeros (ds : List Nat) :
    ∃ rest, ds = List.replicate (leadingZeros ds) 0 ++ rest ∧ ∀ x ∈ rest.head?, x ≠ 0 := by
  induction ds with
  | nil => exact ⟨[], by simp [leadingZeros]⟩
  | cons x xs ih =>
    by_cases hx : x = 0
    · subst hx
      obtain ⟨rest, h1, h2⟩ := ih
      refine ⟨rest, ?_, h2⟩
      have : leadingZeros (0 :: xs) = leadingZeros xs + 1 := by simp [leadingZeros]
      rw [this, List.replicate_succ, List.cons_append, ← h1]
    · refine ⟨x :: xs, ?_, by simpa using hx⟩
      have : leadingZeros (x :: xs) = 0 := by simp [leadingZeros, hx]
      rw [this]; rfl

theorem conv_conv (bi bo : Nat) (hbi : 2 ≤ bi) (hbo : 2 ≤ bo) (ds : List Nat)
    (h : ∀ d ∈ ds, d < bi) : conv bo bi (conv bi bo ds) = ds := by
  rw [conv_eq bi bo (by omega) hbo, conv_eq bo bi (by omega) hbi]
  have hlz : leadingZeros (List.replicate (leadingZeros ds) 0
      ++ (Nat.digits bo (Nat.ofDigits bi ds.reverse)).reverse) = leadingZeros ds := by
    apply leadingZeros_replicate_append
    intro x hx
    rw [List.head?_reverse, Option.mem_def] at hx
    have hne : Nat.digits bo (Nat.ofDigits bi ds.reverse) ≠ [] := by
      intro h0; rw [h0] at hx; simp at hx
    rw [List.getLast?_eq_some_getLast hne] at hx
    obtain rfl := Option.some.inj hx
    exact Nat.getLast_digit_ne_zero bo (Nat.digits_ne_nil_iff_ne_zero.mp hne)
  rw [hlz, List.reverse_append, List.reverse_reverse, List.reverse_replicate,
    Nat.ofDigits_append_replicate_zero, Nat.ofDigits_digits]
  obtain ⟨rest, h1, h2⟩ := split_leadingZeros ds
  have hrev : Nat.ofDigits bi ds.reverse = Nat.ofDigits bi rest.reverse := by
    conv_lhs => rw [h1]
    rw [List.reverse_append, List.reverse_replicate, Nat.ofDigits_append_replicate_zero]
  rw [hrev, Nat.digits_ofDigits bi (by omega) rest.reverse, List.reverse_reverse, ← h1]
  · intro l hl
    apply h
    rw [h1]
    exact List.mem_append_right _ (List.mem_reverse.1 hl)
  · intro hne
    rw [List.getLast_reverse]
    apply h2
    rw [Option.mem_def, List.head?_eq_some_head]

theorem alphabet_enc : ∀ d, d < 58 →
    decodeChar (encodeDigit d) = some d ∧ encodeDigit d ≤ 127 := by decide +kernel

/-- `decodeChar` looks `c` up in the very table `encodeDigit` indexes. -/
theorem alphabet_dec (c d : Nat) (h : decodeChar c = some d) : d < 58 ∧ encodeDigit d = c := by
  unfold decodeChar at h
  split at h
  · next hlt =>
    cases h
    have hl : alphabet.idxOf c < alphabet.length := hlt
    rw [encodeDigit, List.getD_eq_getElem?_getD, List.getElem?_eq_getElem hl, List.getElem_idxOf]
    exact ⟨hlt, rfl⟩
  · cases h

theorem digitsOf_map_encodeDigit (i : Nat) (ds : List Nat) (h : ∀ d ∈ ds, d < 58) :
    digitsOf i (ds.map encodeDigit) = .ok ds := by
  induction ds generalizing i with
  | nil => rfl
  | cons x xs ih =>
    have hx := alphabet_enc x (h x (by simp))
    have hxs := ih (i + 1) (fun d hd => h d (by simp [hd]))
    simp only [List.map_cons, digitsOf]
    rw [if_neg (by omega), hx.1]
    simp only [hxs]

theorem digitsOf_ok (i : Nat) (cs ds : List Nat) (h : digitsOf i cs = .ok ds) :
    ds.map encodeDigit = cs ∧ ∀ d ∈ ds, d < 58 := by
  induction cs generalizing i ds with
  | nil =>
    cases h
    simp
  | cons c cs ih =>
    simp only [digitsOf] at h
    split at h
    · cases h
    · next hc =>
      split at h
      · cases h
      · next d hd =>
        split at h
        · cases h
        · next ds' hds' =>
          cases h
          obtain ⟨h1, h2⟩ := ih (i + 1) ds' hds'
          obtain ⟨hd58, henc⟩ := alphabet_dec c d hd
          refine ⟨by simp [henc, h1], ?_⟩
          intro x hx
          rcases List.mem_cons.1 hx with rfl | hx
          · exact hd58
          · exact h2 x hx

theorem map_toNat_map_ofNat (ns : List Nat) (h : ∀ n ∈ ns, n < 256) :
    (ns.map UInt8.ofNat).map (·.toNat) = ns := by
  rw [List.map_map]
  exact (List.map_congr_left fun n hn => UInt8.toNat_ofNat_of_lt' (h n hn)).trans (List.map_id ns)

theorem map_ofNat_map_toNat (bs : List UInt8) :
    (bs.map (·.toNat)).map UInt8.ofNat = bs := by
  rw [List.map_map]
  exact (List.map_congr_left fun _ _ => UInt8.ofNat_toNat).trans (List.map_id bs)

theorem map_ofNat_encodeDigit (l : List Nat) :
    l.map (fun d => UInt8.ofNat (encodeDigit d)) = (l.map encodeDigit).map UInt8.ofNat := by
  rw [List.map_map]; rfl

theorem decode_encode (bs : List UInt8) : decode (encode bs) = .ok bs := by
  have hlt := conv_lt 256 58 (by omega) (by omega) (bs.map (·.toNat))
  have hs : (encode bs).map (·.toNat) = (conv 256 58 (bs.map (·.toNat))).map encodeDigit := by
    unfold encode
    rw [map_ofNat_encodeDigit]
    apply map_toNat_map_ofNat
    intro n hn
    obtain ⟨d, hd, rfl⟩ := List.mem_map.1 hn
    have := (alphabet_enc d (hlt d hd)).2
    omega
  unfold decode
  rw [hs, digitsOf_map_encodeDigit 0 _ hlt]
  simp only
  rw [conv_conv 256 58 (by omega) (by omega), map_ofNat_map_toNat]
  intro d hd
  obtain ⟨b, _, rfl⟩ := List.mem_map.1 hd
  exact b.toNat_lt

theorem encode_decode (s bs : List UInt8) (h : decode s = .ok bs) : encode bs = s := by
  unfold decode at h
  split at h
  · cases h
  · next ds hds =>
    cases h
    obtain ⟨h1, h2⟩ := digitsOf_ok 0 _ ds hds
    unfold encode
    rw [map_toNat_map_ofNat _ (conv_lt 58 256 (by omega) (by omega) ds),
      conv_conv 58 256 (by omega) (by omega) ds h2,
      map_ofNat_encodeDigit, h1, map_ofNat_map_toNat]

end Litep2pVerif.Id.Base58

#print axioms Litep2pVerif.Id.Base58.conv_lt
#print axioms Litep2pVerif.Id.Base58.conv_conv
#print axioms Litep2pVerif.Id.Base58.decode_encode
#print axioms Litep2pVerif.Id.Base58.encode_decode
