/-! Unsigned varints, once for every model of them: the arithmetic of 7-bit groups, the encoding `enc`, and the round trip
`decode_enc` through any `decode!`-style loop. The models (`Id.Varint`, `Substream.encodeLoop`/`uviRead`, `Mss.uviEncode`,
`Bitswap.uvarEnc`, `Wire.writeVarint`) show that their encoder writes `enc n` and give `decode_enc` the two steps of their
decoder. -/
namespace Litep2pVerif.Groups

theorem pow_succ (i : Nat) : 2 ^ (7 * (i + 1)) = 128 * 2 ^ (7 * i) := by
  rw [Nat.mul_succ, Nat.pow_add, Nat.mul_comm]

theorem split (n P : Nat) : n % 128 * P + n / 128 * (128 * P) = n * P := by
  rw [← Nat.mul_assoc, ← Nat.add_mul, Nat.mul_comm (n / 128) 128, Nat.mod_add_div]

theorem index_lt {n i bits : Nat} (hn : 128 ≤ n) (h : n * 2 ^ (7 * i) < 2 ^ bits) : 7 * i + 7 < bits := by
  have h1 : 2 ^ (7 * i + 7) ≤ n * 2 ^ (7 * i) := by
    rw [Nat.pow_add, Nat.mul_comm]
    exact Nat.mul_le_mul_right _ hn
  exact (Nat.pow_lt_pow_iff_right (by decide)).1 (Nat.lt_of_le_of_lt h1 h)

/-- The unsigned-varint encoding: 7-bit groups, low group first, bit 7 set on all but the last. -/
def enc (n : Nat) : List Nat :=
  if n < 128 then [n] else (n % 128 + 128) :: enc (n / 128)
decreasing_by omega

theorem enc_lt {n : Nat} (h : n < 128) : enc n = [n] := by rw [enc, if_pos h]

theorem enc_ge {n : Nat} (h : 128 ≤ n) : enc n = (n % 128 + 128) :: enc (n / 128) := by
  rw [enc, if_neg (Nat.not_lt.2 h)]

theorem enc_cons {g m : Nat} (hg : g < 128) (hm : m ≠ 0) : enc (g + 128 * m) = (g + 128) :: enc m := by
  obtain ⟨hd, hmod⟩ : (g + 128 * m) / 128 = m ∧ (g + 128 * m) % 128 = g := by omega
  rw [enc_ge (by omega), hd, hmod]

theorem enc_ne_nil (n : Nat) : enc n ≠ [] := by
  rw [enc]; split <;> exact List.cons_ne_nil _ _

theorem enc_length_le : ∀ {k n : Nat}, n < 128 ^ k → 0 < k → (enc n).length ≤ k := by
  intro k
  induction k with
  | zero => intro n _ h; cases h
  | succ k ih =>
    intro n hn _
    by_cases h : n < 128
    · rw [enc_lt h]; exact Nat.succ_pos k
    · have hk : 0 < k := Nat.pos_of_ne_zero fun h0 => h (by rwa [h0] at hn)
      rw [enc_ge (Nat.le_of_not_lt h)]
      exact Nat.succ_le_succ (ih (Nat.div_lt_of_lt_mul (by rw [← Nat.pow_succ']; exact hn)) hk)

/-- A fuelled `encode!` loop over a buffer that holds the encoding writes `enc n`. -/
theorem enc_loop {β : Type} {byte : Nat → β} {L : Nat → Nat → List β}
    (step : ∀ f n, L (f + 1) n = if n / 128 = 0 then [byte (n % 128)] else byte (n % 128 + 128) :: L f (n / 128)) :
    ∀ f n, (enc n).length ≤ f → L f n = (enc n).map byte
  | 0, n, h => absurd (List.eq_nil_of_length_eq_zero (Nat.le_zero.1 h)) (enc_ne_nil n)
  | f + 1, n, h => by
    rw [step]
    split
    · rw [enc_lt (by omega), Nat.mod_eq_of_lt (by omega)]; rfl
    · rw [enc_ge (by omega)] at h ⊢
      rw [enc_loop step f (n / 128) (Nat.le_of_succ_le_succ h)]; rfl

theorem enc_shape (n : Nat) :
    ∃ pre last, enc n = pre ++ [last] ∧ (∀ b ∈ pre, 128 ≤ b ∧ b < 256) ∧ last < 128 := by
  induction n using enc.induct with
  | case1 n h => exact ⟨[], n, enc_lt h, nofun, h⟩
  | case2 n h ih =>
    obtain ⟨pre, last, he, hpre, hlast⟩ := ih
    refine ⟨(n % 128 + 128) :: pre, last, by rw [enc_ge (Nat.le_of_not_lt h), he]; rfl, ?_, hlast⟩
    intro b hb
    rcases List.mem_cons.1 hb with rfl | hb
    · omega
    · exact hpre b hb

/-- `D i acc bs` reads byte `i` of a varint with the lower groups summed up in `acc`; `byte` is how the model writes a
byte, `ret` how it returns. `D` need only do the right thing where nothing is lost: on a final byte (`last`) and on a
continuation byte (`cont`) whose group still fits `bits` bits. `hb`: `maxBytes + 1` bytes hold `bits` bits, so the byte
budget is never what stops the loop. A final byte after the first is not zero (`enc` never ends a longer encoding in a
zero group): what a model's minimality test asks. -/
theorem decode_enc {β ρ : Type} {byte : Nat → β} {D : Nat → Nat → List β → ρ} {ret : Nat → List β → ρ}
    {bits maxBytes : Nat} (hb : bits ≤ 7 * maxBytes + 7)
    (last : ∀ i acc b rest, i ≤ maxBytes → acc < 2 ^ (7 * i) → b < 128 → (0 < i → b ≠ 0) →
      acc + b * 2 ^ (7 * i) < 2 ^ bits → D i acc (byte b :: rest) = ret (acc + b * 2 ^ (7 * i)) rest)
    (cont : ∀ i acc g rest, i < maxBytes → acc < 2 ^ (7 * i) → g < 128 → acc + g * 2 ^ (7 * i) < 2 ^ bits →
      D i acc (byte (g + 128) :: rest) = D (i + 1) (acc + g * 2 ^ (7 * i)) rest)
    {n : Nat} (hn : n < 2 ^ bits) (rest : List β) : D 0 0 ((enc n).map byte ++ rest) = ret n rest := by
  have go : ∀ n i acc, i ≤ maxBytes → acc < 2 ^ (7 * i) → (0 < i → n ≠ 0) → acc + n * 2 ^ (7 * i) < 2 ^ bits →
      D i acc ((enc n).map byte ++ rest) = ret (acc + n * 2 ^ (7 * i)) rest := by
    intro n
    induction n using enc.induct with
    | case1 n h =>
      intro i acc hi ha hz hfit
      rw [enc_lt h]
      exact last i acc n rest hi ha h hz hfit
    | case2 n h ih =>
      intro i acc hi ha _ hfit
      have hn := Nat.le_of_not_lt h
      have hi' : i < maxBytes := by
        have := index_lt hn (Nat.lt_of_le_of_lt (Nat.le_add_left _ acc) hfit)
        omega
      have hs := split n (2 ^ (7 * i))
      rw [← pow_succ] at hs
      have hg : n % 128 * 2 ^ (7 * i) ≤ 127 * 2 ^ (7 * i) := Nat.mul_le_mul_right _ (by omega)
      rw [enc_ge hn, List.map_cons, List.cons_append, cont i acc _ _ hi' ha (Nat.mod_lt n (by decide)) (by omega),
        ih (i + 1) _ hi' (by rw [pow_succ]; omega) (fun _ => by omega) (by omega), Nat.add_assoc, hs]
  simpa using go n 0 0 (Nat.zero_le _) Nat.one_pos nofun (by simpa using hn)

end Litep2pVerif.Groups
