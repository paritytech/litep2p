import Litep2pVerif.Model.Mss.Negotiate
/-! Generic facts about the composition of two processes over two FIFO channels: the diamond
property, and from it: if one execution reaches a final state in `n` steps, every execution has at
most `n` steps and every maximal execution ends in that same state after exactly `n` steps. -/
namespace Litep2pVerif.Mss

variable {σ τ : Type}

/-- A process that drops its I/O object has returned. -/
structure Proc.CloseHalts (P : Proc σ) : Prop where
  internal : ∀ x, (P.internal x).2.2 = true → P.mode (P.internal x).1 = .halted
  onRecv : ∀ x r, (P.onRecv x r).2.2 = true → P.mode (P.onRecv x r).1 = .halted

/-- A closed channel belongs to a halted process. -/
def Good (P : Proc σ) (Q : Proc τ) (s : Sys σ τ) : Prop :=
  (s.ab.closed = true → P.mode s.a = .halted) ∧ (s.ba.closed = true → Q.mode s.b = .halted)

theorem Chan.push_closed {c : Chan} {items : List Item} {cl : Bool} (h : (c.push items cl).closed = true) :
    c.closed = true ∨ cl = true := by
  simpa only [Chan.push, Bool.or_eq_true] using h

/-- What a move is: it reads `k ≤ 1` items off the input and pushes onto the output; and the same move is enabled
whatever the output holds and whatever the peer appends behind the input it read (the input still open, or nothing
appended: an end of file that was read stays the end). -/
theorem procStep_shape (P : Proc σ) (x : σ) (inp out : Chan) (r : σ × Chan × Chan)
    (h : procStep P x inp out = some r) :
    P.mode x ≠ .halted ∧
    ∃ (k : Nat) (items : List Item) (cl : Bool), k ≤ inp.q.length ∧
      r.2.1 = { q := inp.q.drop k, closed := inp.closed } ∧ r.2.2 = out.push items cl ∧
      (P.CloseHalts → cl = true → P.mode r.1 = .halted) ∧
      ∀ (its : List Item) (c : Bool) (out' : Chan), inp.closed = false ∨ its = [] →
        procStep P x (inp.push its c) out' =
          some (r.1, { q := (inp.q ++ its).drop k, closed := inp.closed || c }, out'.push items cl) := by
  unfold procStep at h
  split at h
  · cases h
  · rename_i hm
    injection h with h; subst h
    exact ⟨by rw [hm]; simp, 0, _, _, by simp, by simp, rfl, fun hP => hP.internal x,
      fun its c out' _ => by simp [procStep, hm, Chan.push]⟩
  · rename_i hm
    refine ⟨by rw [hm]; simp, ?_⟩
    split at h
    · rename_i i rest hq
      injection h with h; subst h
      exact ⟨1, _, _, by simp [hq], by simp [hq], rfl, fun hP => hP.onRecv x _,
        fun its c out' _ => by simp [procStep, hm, Chan.push, hq]⟩
    · rename_i hq
      split at h
      · rename_i hc
        injection h with h; subst h
        refine ⟨0, _, _, by simp, by simp, rfl, fun hP => hP.onRecv x _, fun its c out' ho => ?_⟩
        rcases ho with ho | rfl
        · rw [ho] at hc; cases hc
        · simp [procStep, hm, Chan.push, hq, hc]
      · cases h

theorem procStep_closed {P : Proc σ} (hP : P.CloseHalts) (x : σ) (inp out : Chan)
    (hg : out.closed = true → P.mode x = .halted) (r : σ × Chan × Chan) (h : procStep P x inp out = some r) :
    (r.2.2.closed = true → P.mode r.1 = .halted) ∧ r.2.1.closed = inp.closed := by
  obtain ⟨hm, k, items, cl, _, h1, h2, hcl, _⟩ := procStep_shape P x inp out r h
  refine ⟨fun hc => ?_, by rw [h1]⟩
  -- a process that moves is not halted, so `out` was open: only this step can have closed it
  rw [h2] at hc
  exact (Chan.push_closed hc).elim (fun hc => absurd (hg hc) hm) (hcl hP)

theorem good_step {P : Proc σ} {Q : Proc τ} (hP : P.CloseHalts) (hQ : Q.CloseHalts) {s t : Sys σ τ}
    (hg : Good P Q s) (h : Step P Q s t) : Good P Q t := by
  rcases h with h | h
  · obtain ⟨r, hps, rfl⟩ := Option.map_eq_some_iff.1 h
    have := procStep_closed hP s.a s.ba s.ab hg.1 r hps
    exact ⟨this.1, by simp only; rw [this.2]; exact hg.2⟩
  · obtain ⟨r, hps, rfl⟩ := Option.map_eq_some_iff.1 h
    have := procStep_closed hQ s.b s.ab s.ba hg.2 r hps
    exact ⟨by simp only; rw [this.2]; exact hg.1, this.1⟩

theorem diamond {P : Proc σ} {Q : Proc τ} {s t1 t2 : Sys σ τ} (hg : Good P Q s)
    (hA : stepA P s = some t1) (hB : stepB Q s = some t2) :
    ∃ u, stepB Q t1 = some u ∧ stepA P t2 = some u := by
  obtain ⟨rA, hpa, rfl⟩ := Option.map_eq_some_iff.1 hA
  obtain ⟨rB, hpb, rfl⟩ := Option.map_eq_some_iff.1 hB
  obtain ⟨hmA, kA, itA, clA, hkA, hA1, hA2, _, hA'⟩ := procStep_shape P _ _ _ _ hpa
  obtain ⟨hmB, kB, itB, clB, hkB, hB1, hB2, _, hB'⟩ := procStep_shape Q _ _ _ _ hpb
  have hopenA : s.ab.closed = false := eq_false_of_ne_true fun hc => hmA (hg.1 hc)
  have hopenB : s.ba.closed = false := eq_false_of_ne_true fun hc => hmB (hg.2 hc)
  refine ⟨{ a := rA.1, b := rB.1, ab := { q := (s.ab.q ++ itA).drop kB, closed := s.ab.closed || clA },
            ba := { q := (s.ba.q ++ itB).drop kA, closed := s.ba.closed || clB } }, ?_, ?_⟩
  · unfold stepB
    simp only
    rw [hA2, hB' itA clA rA.2.1 (Or.inl hopenA)]
    simp only [Option.map_some, hA1, Chan.push, List.drop_append_of_le_length hkA]
  · unfold stepA
    simp only
    rw [hB2, hA' itB clB rB.2.1 (Or.inl hopenB)]
    simp only [Option.map_some, hB1, Chan.push, List.drop_append_of_le_length hkB]

theorem final_no_step {P : Proc σ} {Q : Proc τ} {s t : Sys σ τ} (hf : Final P Q s) (h : Step P Q s t) : False := by
  rcases h with h | h
  · rw [hf.1] at h; cases h
  · rw [hf.2] at h; cases h

theorem step_diamond {P : Proc σ} {Q : Proc τ} {s t1 t2 : Sys σ τ} (hg : Good P Q s)
    (h1 : Step P Q s t1) (h2 : Step P Q s t2) : t1 = t2 ∨ ∃ u, Step P Q t1 u ∧ Step P Q t2 u := by
  rcases h1 with h1 | h1 <;> rcases h2 with h2 | h2
  · exact Or.inl (Option.some.inj (h1.symm.trans h2))
  · obtain ⟨u, hu1, hu2⟩ := diamond hg h1 h2
    exact Or.inr ⟨u, Or.inr hu1, Or.inl hu2⟩
  · obtain ⟨u, hu1, hu2⟩ := diamond hg h2 h1
    exact Or.inr ⟨u, Or.inl hu2, Or.inr hu1⟩
  · exact Or.inl (Option.some.inj (h1.symm.trans h2))

/-- Every execution can be continued to the final state `t`, to `n` steps in all: by `step_diamond` the execution to `t`
may as well start with the other one's first step. -/
theorem exec_extends {P : Proc σ} {Q : Proc τ} (hP : P.CloseHalts) (hQ : Q.CloseHalts) {t : Sys σ τ}
    (hfin : Final P Q t) :
    ∀ (n : Nat) (s : Sys σ τ), Good P Q s → Exec P Q s n t →
      ∀ (k : Nat) (u : Sys σ τ), Exec P Q s k u → ∃ m, n = k + m ∧ Exec P Q u m t := by
  intro n
  induction n with
  | zero =>
    intro s _ hex k u hk
    cases hex
    cases hk with
    | refl => exact ⟨0, rfl, Exec.refl _⟩
    | step hst _ => exact (final_no_step hfin hst).elim
  | succ n ih =>
    intro s hg hex k u hk
    cases hk with
    | refl => exact ⟨n + 1, by omega, hex⟩
    | step hst' hrest =>
      rename_i s1 _
      cases hex with
      | step hst hex' =>
        have hex1 : Exec P Q s1 n t := by
          rcases step_diamond hg hst hst' with rfl | ⟨w, hw1, hw2⟩
          · exact hex'
          · obtain ⟨m, rfl, hexw⟩ := ih _ (good_step hP hQ hg hst) hex' 1 w (Exec.step hw1 (Exec.refl w))
            rw [Nat.add_comm]
            exact Exec.step hw2 hexw
        obtain ⟨m, hm, hexu⟩ := ih _ (good_step hP hQ hg hst') hex1 _ u hrest
        exact ⟨m, by omega, hexu⟩

theorem confluent {P : Proc σ} {Q : Proc τ} (hP : P.CloseHalts) (hQ : Q.CloseHalts) :
    ∀ (k n : Nat) (s t u : Sys σ τ), Good P Q s → Exec P Q s n t → Final P Q t → Exec P Q s k u →
      k ≤ n ∧ (Final P Q u → u = t ∧ k = n) := by
  intro k n s t u hg hex hfin hk
  obtain ⟨m, rfl, hm⟩ := exec_extends hP hQ hfin n s hg hex k u hk
  refine ⟨by omega, fun hfu => ?_⟩
  cases hm with
  | refl => exact ⟨rfl, rfl⟩
  | step hst _ => exact (final_no_step hfu hst).elim

theorem runSys_exec (P : Proc σ) (Q : Proc τ) :
    ∀ (fuel : Nat) (s : Sys σ τ), ∃ n, n ≤ fuel ∧ Exec P Q s n (runSys P Q fuel s) := by
  intro fuel
  induction fuel with
  | zero => intro s; exact ⟨0, Nat.le_refl _, Exec.refl s⟩
  | succ f ih =>
    intro s
    rw [runSys]
    cases hA : stepA P s with
    | some t =>
      obtain ⟨n, hn, hex⟩ := ih t
      exact ⟨n + 1, by omega, Exec.step (Or.inl hA) hex⟩
    | none =>
      cases hB : stepB Q s with
      | some t =>
        obtain ⟨n, hn, hex⟩ := ih t
        exact ⟨n + 1, by omega, Exec.step (Or.inr hB) hex⟩
      | none => exact ⟨0, by omega, Exec.refl s⟩

theorem runSys_add (P : Proc σ) (Q : Proc τ) :
    ∀ (a b : Nat) (s : Sys σ τ), runSys P Q (a + b) s = runSys P Q b (runSys P Q a s) := by
  intro a
  induction a with
  | zero => intro b s; simp [runSys]
  | succ a ih =>
    intro b s
    rw [show a + 1 + b = (a + b) + 1 by omega, runSys, runSys]
    cases hA : stepA P s with
    | some t => simp only; exact ih b t
    | none =>
      cases hB : stepB Q s with
      | some t => simp only; exact ih b t
      | none =>
        simp only
        induction b with
        | zero => rfl
        | succ b _ => rw [runSys, hA, hB]

end Litep2pVerif.Mss
