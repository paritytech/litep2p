import Litep2pVerif.Model.Mss.Message
import Litep2pVerif.Proofs.Id.Groups
/-! Helper lemmas for the message codec: varint round trip, `decodeLs` on an encoded list. -/
namespace Litep2pVerif.Mss
open Litep2pVerif

theorem uviEncodeAux_eq : ∀ (fuel n : Nat), n ≤ fuel → uviEncodeAux fuel n = Groups.enc n
  | 0, n, h => by rw [Nat.le_zero.1 h, Groups.enc_lt (by decide)]; rfl
  | fuel + 1, n, h => by
    rw [uviEncodeAux, Groups.enc]
    split
    · rfl
    · rw [uviEncodeAux_eq fuel (n / 128) (by omega)]

theorem uviEncode_eq (n : Nat) : uviEncode n = Groups.enc n := uviEncodeAux_eq n n (Nat.le_refl n)

theorem uviEncode_lt (n : Nat) (h : n < 128) : uviEncode n = [n] := by rw [uviEncode_eq, Groups.enc_lt h]

theorem uviEncode_ne_nil (n : Nat) : uviEncode n ≠ [] := uviEncode_eq n ▸ Groups.enc_ne_nil n

theorem uviEncode_bytes (n : Nat) : ∀ b ∈ uviEncode n, b < 256 := by
  obtain ⟨pre, last, he, hpre, hlast⟩ := Groups.enc_shape n
  intro b hb
  rw [uviEncode_eq, he] at hb
  rcases List.mem_append.1 hb with hb | hb
  · exact (hpre b hb).2
  · cases List.mem_singleton.1 hb; omega

/-- `hb`: `maxBytes` is large enough for the integer type. -/
theorem uviDecodeAux_encode (bits maxBytes : Nat) (hb : bits ≤ 7 * maxBytes + 7) (n : Nat) (rest : Bytes)
    (hfit : n < 2 ^ bits) : uviDecodeAux bits maxBytes 0 0 (uviEncode n ++ rest) = .ok (n, rest) := by
  simpa [uviEncode_eq] using Groups.decode_enc (byte := fun b => b) (D := uviDecodeAux bits maxBytes)
    (ret := fun v r => .ok (v, r)) hb
    (fun i acc b rest _ _ hb hz hfit => by
      rw [uviDecodeAux, if_pos hb, if_neg (fun h => hz h.2 h.1), Nat.mod_eq_of_lt hb, Nat.mod_eq_of_lt (by omega)])
    (fun i acc g rest hi _ hg hfit => by
      rw [uviDecodeAux, if_neg (by simp), if_neg (by omega), Nat.add_mod_right, Nat.mod_eq_of_lt hg,
        Nat.mod_eq_of_lt (by omega)])
    hfit rest

theorem uviDecodeUsize_encode (n : Nat) (rest : Bytes) (h : n < 2 ^ 64) :
    uviDecodeUsize (uviEncode n ++ rest) = .ok (n, rest) :=
  uviDecodeAux_encode 64 9 (by decide) n rest h

theorem uviDecodeU16_encode (n : Nat) (rest : Bytes) (h : n < 2 ^ 16) :
    uviDecodeU16 (uviEncode n ++ rest) = .ok (n, rest) :=
  uviDecodeAux_encode 16 2 (by decide) n rest h

/-- A protocol name that can be proposed: starts with `/`, contains no line feed, and is not the
multistream header itself. -/
def ValidName (p : Bytes) : Prop :=
  p.head? = some 47 ∧ 10 ∉ p ∧ p ≠ protoMultistream

instance (p : Bytes) : Decidable (ValidName p) := by unfold ValidName; infer_instance

/-- A name that may appear in an `ls` response: starts with `/` and its length fits `usize`. -/
def ListableName (p : Bytes) : Prop := p.head? = some 47 ∧ p.length + 1 < 2 ^ 64

instance (p : Bytes) : Decidable (ListableName p) := by unfold ListableName; infer_instance

/-- Messages for which `decode (encode m) = m` is claimed. -/
def Msg.WellFormed : Msg → Prop
  | .protocol p => ValidName p
  | .protocols ps => ps.length ≤ Consts.MSS_MAX_PROTOCOLS ∧ ∀ p ∈ ps, ListableName p
  | _ => True

instance (m : Msg) : Decidable m.WellFormed := by
  cases m <;> unfold Msg.WellFormed <;> infer_instance

theorem encodeNames_length (ps : List Bytes) : ps.length ≤ (encodeNames ps).length := by
  induction ps with
  | nil => simp [encodeNames]
  | cons p ps ih => simp only [encodeNames, List.length_append, List.length_cons]; omega

theorem encodeNames_ends (ps : List Bytes) (h : ps ≠ []) : ∃ pre, encodeNames ps = pre ++ [10] := by
  induction ps with
  | nil => exact absurd rfl h
  | cons p ps ih =>
    by_cases hps : ps = []
    · subst hps; exact ⟨uviEncode (p.length + 1) ++ p, by simp [encodeNames]⟩
    · obtain ⟨pre, hpre⟩ := ih hps
      exact ⟨uviEncode (p.length + 1) ++ p ++ [10] ++ pre, by simp [encodeNames, hpre]⟩

theorem decodeLs_encodeNames (ps : List Bytes) :
    ∀ (fuel : Nat) (acc : List Bytes), ps.length < fuel →
      acc.length + ps.length ≤ Consts.MSS_MAX_PROTOCOLS → (∀ p ∈ ps, ListableName p) →
      decodeLs fuel acc (encodeNames ps ++ [10]) = .ok (.protocols (acc.reverse ++ ps)) := by
  induction ps with
  | nil =>
    intro fuel acc hf _ _
    obtain ⟨f, rfl⟩ : ∃ f, fuel = f + 1 := ⟨fuel - 1, by simp at hf; omega⟩
    simp [decodeLs, encodeNames]
  | cons p ps ih =>
    intro fuel acc hf hmax hwf
    obtain ⟨f, rfl⟩ : ∃ f, fuel = f + 1 := ⟨fuel - 1, by simp at hf; omega⟩
    have hp : ListableName p := hwf p (by simp)
    have hne : encodeNames (p :: ps) ++ [10] ≠ [10] := by
      intro h
      have := congrArg List.length h
      simp [encodeNames] at this
      omega
    have hacc : acc.length ≠ Consts.MSS_MAX_PROTOCOLS := by simp at hmax; omega
    have hdec : uviDecodeUsize (encodeNames (p :: ps) ++ [10]) =
        .ok (p.length + 1, p ++ [10] ++ (encodeNames ps ++ [10])) := by
      have := uviDecodeUsize_encode (p.length + 1) (p ++ [10] ++ (encodeNames ps ++ [10])) hp.2
      simpa [encodeNames, List.append_assoc] using this
    have htake : (p ++ [10] ++ (encodeNames ps ++ [10])).take p.length = p := by
      simp [List.append_assoc]
    have hdrop : (p ++ [10] ++ (encodeNames ps ++ [10])).drop (p.length + 1) = encodeNames ps ++ [10] := by
      have : p.length + 1 = (p ++ [10]).length := by simp
      rw [this, List.drop_left]
    have hcond : ¬ (p.length + 1 = 0 ∨ p.length + 1 > (p ++ [10] ++ (encodeNames ps ++ [10])).length ∨
        (p ++ [10] ++ (encodeNames ps ++ [10]))[p.length + 1 - 1]? ≠ some 10) := by
      simp [List.length_append]
    have hih := ih f (p :: acc) (by simp at hf ⊢; omega) (by simp at hmax ⊢; omega)
      (fun q hq => hwf q (by simp [hq]))
    rw [decodeLs]
    simp only [hne, hacc, if_false, hdec]
    rw [if_neg hcond]
    simp only [Nat.add_sub_cancel, htake, protocolTryFrom, hp.1, if_true, hdrop, hih]
    simp

/-! What the proofs need of the byte strings extracted from `protocol.rs` (re-checked against the
regenerated values on every run). -/

theorem msgMultistream_eq : msgMultistream = protoMultistream ++ [10] := by decide
/-- `na\n` and `ls\n` cannot be mistaken for a protocol line. -/
theorem msgNa_head : msgNa.head? ≠ some 47 := by decide
theorem msgLs_head : msgLs.head? ≠ some 47 := by decide
theorem fixed_lines : msgMultistream ≠ msgNa ∧ msgMultistream ≠ msgLs ∧ msgNa ≠ msgLs ∧
    msgMultistream.getLast? = some 10 ∧ msgNa.getLast? = some 10 ∧ msgLs.getLast? = some 10 := by decide

theorem decode_encode_protocol (p : Bytes) (h : ValidName p) :
    Msg.decode (Msg.protocol p).encode = .ok (.protocol p) := by
  obtain ⟨hhead, hnl, hne⟩ := h
  obtain ⟨c, t, rfl⟩ : ∃ c t, p = c :: t := by
    cases p with
    | nil => simp at hhead
    | cons c t => exact ⟨c, t, rfl⟩
  have hc : c = 47 := by simpa using hhead
  subst hc
  have h1 : (47 :: t) ++ [10] ≠ msgMultistream := by
    intro heq
    rw [msgMultistream_eq] at heq
    exact hne (List.append_cancel_right heq)
  have h2 : (47 :: t) ++ [10] ≠ msgNa := by
    intro heq; exact msgNa_head (by rw [← heq]; rfl)
  have h3 : (47 :: t) ++ [10] ≠ msgLs := by
    intro heq; exact msgLs_head (by rw [← heq]; rfl)
  have hcond : ((47 :: t) ++ [10]).head? = some 47 ∧ ((47 :: t) ++ [10]).getLast? = some 10 ∧
      ¬ (10 ∈ ((47 :: t) ++ [10]).dropLast) := by
    refine ⟨by simp, List.getLast?_concat, ?_⟩
    rw [List.dropLast_concat]; exact hnl
  show Msg.decode ((47 :: t) ++ [10]) = _
  unfold Msg.decode
  rw [if_neg h1, if_neg h2, if_neg h3, if_pos hcond, List.dropLast_concat]
  simp [protocolTryFrom]

theorem decode_encode_protocols (ps : List Bytes) (hlen : ps.length ≤ Consts.MSS_MAX_PROTOCOLS)
    (hwf : ∀ p ∈ ps, ListableName p) :
    Msg.decode (Msg.protocols ps).encode = .ok (.protocols ps) := by
  have hfuel : ps.length < (encodeNames ps ++ [10]).length + 1 := by
    have := encodeNames_length ps
    simp; omega
  have hls := decodeLs_encodeNames ps ((encodeNames ps ++ [10]).length + 1) [] hfuel (by simpa using hlen) hwf
  by_cases hps : ps = []
  · subst hps
    decide
  · obtain ⟨pre, hpre⟩ := encodeNames_ends ps hps
    have hdl : (encodeNames ps ++ [10]).dropLast = pre ++ [10] := by rw [List.dropLast_concat, hpre]
    have hsl : (encodeNames ps ++ [10]).dropLast.getLast? = some 10 := by rw [hdl]; simp
    have h1 : encodeNames ps ++ [10] ≠ msgMultistream := by
      intro heq; rw [heq] at hsl; revert hsl; decide
    have h2 : encodeNames ps ++ [10] ≠ msgNa := by
      intro heq; rw [heq] at hsl; revert hsl; decide
    have h3 : encodeNames ps ++ [10] ≠ msgLs := by
      intro heq; rw [heq] at hsl; revert hsl; decide
    have hcond : ¬ ((encodeNames ps ++ [10]).head? = some 47 ∧ (encodeNames ps ++ [10]).getLast? = some 10 ∧
        ¬ (10 ∈ (encodeNames ps ++ [10]).dropLast)) := by
      rw [hdl]; simp
    show Msg.decode (encodeNames ps ++ [10]) = _
    unfold Msg.decode
    rw [if_neg h1, if_neg h2, if_neg h3, if_neg hcond, hls]
    simp

theorem decode_encode (m : Msg) (h : m.WellFormed) : Msg.decode m.encode = .ok m := by
  cases m with
  | header => decide
  | listProtocols => decide
  | notAvailable => decide
  | protocol p => exact decode_encode_protocol p h
  | protocols ps => exact decode_encode_protocols ps h.1 h.2

end Litep2pVerif.Mss
