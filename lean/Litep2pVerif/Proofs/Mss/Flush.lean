import Litep2pVerif.Proofs.Mss.Framing
/-! The write half of `LengthDelimited` over a carrier that may stage written bytes until its flush completes:
nothing is lost or reordered; `Ready` from `Sink::poll_flush` means the inner flush completed and everything
written before is visible to the peer, for every schedule of inner `Pending`/`Ready` answers and every number
of polls; a flush that is polled again completes once the carrier completes one. -/
namespace Litep2pVerif.Mss
open Litep2pVerif

/-- Every byte the writer has been given, in the order given: those on the wire, then those staged in the carrier,
then those still in the write buffer. -/
def SinkIo.pipeline (s : SinkIo) : Bytes := s.c.visible ++ s.c.staged ++ s.w.writeBuffer

theorem accept_pipeline (c : WCarrier) (bs : Bytes) :
    (c.accept bs).visible ++ (c.accept bs).staged = c.visible ++ c.staged ++ bs := by
  unfold WCarrier.accept
  split <;> simp

theorem accept_wb (c : WCarrier) (bs : Bytes) : (c.accept bs).wb = c.wb := by
  unfold WCarrier.accept
  split <;> simp

theorem accept_visible_wb (c : WCarrier) (bs : Bytes) (h : c.wb = true) : (c.accept bs).visible = c.visible := by
  simp [WCarrier.accept, h]

theorem accept_visible_mono (c : WCarrier) (bs : Bytes) : ∃ t, (c.accept bs).visible = c.visible ++ t := by
  unfold WCarrier.accept
  split
  · exact ⟨[], by simp⟩
  · exact ⟨c.staged ++ bs, by simp⟩

/-- As `pollWriteBuffer_exact`, over the carrier; on a write-behind carrier it makes nothing visible; what is
visible is never retracted. **Budget:** no choices are created, and if the schedule holds as many non-`Pending`
choices as the write buffer has bytes, this also holds afterwards and a `Pending` result has used up at least
one choice. -/
theorem pollWriteBufferC_exact :
    ∀ (ws : List Nat) (w : Writer) (c : WCarrier),
      (pollWriteBufferC w c ws).2.1.visible ++ (pollWriteBufferC w c ws).2.1.staged ++
          (pollWriteBufferC w c ws).1.writeBuffer = c.visible ++ c.staged ++ w.writeBuffer ∧
      ((pollWriteBufferC w c ws).2.2.2 = .ready → (pollWriteBufferC w c ws).1.writeBuffer = []) ∧
      (c.wb = true → (pollWriteBufferC w c ws).2.1.visible = c.visible) ∧
      (∃ t, (pollWriteBufferC w c ws).2.1.visible = c.visible ++ t) ∧
      (pollWriteBufferC w c ws).2.1.wb = c.wb ∧
      (pollWriteBufferC w c ws).2.2.1.length ≤ ws.length ∧
      (w.writeBuffer.length ≤ nz ws →
        (pollWriteBufferC w c ws).1.writeBuffer.length ≤ nz (pollWriteBufferC w c ws).2.2.1 ∧
        ((pollWriteBufferC w c ws).2.2.2 = .pending → (pollWriteBufferC w c ws).2.2.1.length < ws.length)) := by
  intro ws
  induction ws with
  | nil =>
    intro w c
    by_cases h : w.writeBuffer = [] <;> simp [pollWriteBufferC, h, nz]
  | cons ch s ih =>
    intro w c
    by_cases h : w.writeBuffer = []
    · simp [pollWriteBufferC, h]
    · by_cases hch : ch = 0
      · subst hch
        simp only [nz_cons_zero]
        simp [pollWriteBufferC, h]
      · rw [pollWriteBufferC]
        simp only [h, hch, if_false]
        obtain ⟨h1, h2, h3, ⟨t, h4⟩, h5, h6, h7⟩ := ih ⟨w.writeBuffer.drop (min ch w.writeBuffer.length)⟩
          (c.accept (w.writeBuffer.take (min ch w.writeBuffer.length)))
        refine ⟨?_, h2, ?_, ?_, ?_, by simp only [List.length_cons]; omega, fun hb => ?_⟩
        · rw [h1, accept_pipeline, List.append_assoc, List.take_append_drop]
        · intro hwb
          rw [h3 (by rw [accept_wb]; exact hwb), accept_visible_wb _ _ hwb]
        · obtain ⟨t', ht'⟩ := accept_visible_mono c (w.writeBuffer.take (min ch w.writeBuffer.length))
          exact ⟨t' ++ t, by rw [h4, ht', List.append_assoc]⟩
        · rw [h5, accept_wb]
        · rw [nz_cons_pos ch s hch] at hb
          obtain ⟨b1, b3⟩ := h7 (by simp only [List.length_drop]; omega)
          exact ⟨b1, fun hp => by simp only [List.length_cons]; have := b3 hp; omega⟩

/-- One `Sink::poll_flush` in terms of its `poll_write_buffer`: `Ready` exactly when the write buffer
went out and the inner flush answered `Ready`; otherwise `Pending`, and either `poll_write_buffer` was
`Pending` (or no answer was left) or a `Pending` answer of the inner flush was used up. -/
theorem sinkPollFlush_cases (s : SinkIo) {p : Writer × WCarrier × List Nat × WriteRes}
    (hp : pollWriteBufferC s.w s.c s.ws = p) :
    (∃ fs', s.fs = true :: fs' ∧ p.2.2.2 = .ready ∧
      sinkPollFlush s = (⟨p.1, p.2.1.flushed, p.2.2.1, fs'⟩, .ready)) ∨
    (∃ fs', sinkPollFlush s = (⟨p.1, p.2.1, p.2.2.1, fs'⟩, .pending) ∧
      ((fs' = s.fs ∧ (p.2.2.2 = .pending ∨ s.fs = [])) ∨ s.fs = false :: fs')) := by
  obtain ⟨w, c, ws, fs⟩ := s
  obtain ⟨w', c', ws', res⟩ := p
  simp only at hp
  simp only [sinkPollFlush, hp]
  cases res with
  | pending => exact Or.inr ⟨fs, rfl, Or.inl ⟨rfl, Or.inl rfl⟩⟩
  | ready =>
    match fs with
    | [] => exact Or.inr ⟨[], rfl, Or.inl ⟨rfl, Or.inr rfl⟩⟩
    | true :: fs' => exact Or.inl ⟨fs', rfl, rfl, rfl⟩
    | false :: fs' => exact Or.inr ⟨fs', rfl, Or.inr rfl⟩

/-- **One poll.** When `Sink::poll_flush` returns `Ready(Ok)`, the write buffer is empty, nothing is
staged in the carrier any more, and the peer sees the whole pipeline. -/
theorem sinkPollFlush_ready (s : SinkIo) (h : (sinkPollFlush s).2 = .ready) :
    (sinkPollFlush s).1.w.writeBuffer = [] ∧ (sinkPollFlush s).1.c.staged = [] ∧
    (sinkPollFlush s).1.c.visible = s.pipeline := by
  obtain ⟨h1, h2, _⟩ := pollWriteBufferC_exact s.ws s.w s.c
  rcases sinkPollFlush_cases s rfl with ⟨fs', _, hr, heq⟩ | ⟨fs', heq, _⟩
  · have hw := h2 hr
    rw [hw, List.append_nil] at h1
    rw [heq]
    exact ⟨hw, rfl, h1⟩
  · rw [heq] at h
    cases h

theorem sinkPollFlush_pipeline (s : SinkIo) : (sinkPollFlush s).1.pipeline = s.pipeline := by
  obtain ⟨h1, _⟩ := pollWriteBufferC_exact s.ws s.w s.c
  rcases sinkPollFlush_cases s rfl with ⟨fs', _, _, heq⟩ | ⟨fs', heq, _⟩
  · rw [heq]
    simp only [SinkIo.pipeline, WCarrier.flushed, List.append_nil]
    exact h1
  · rw [heq]
    exact h1

/-- **Any number of polls.** When a flush that was polled again after every `Pending` finally
returns `Ready(Ok)`, the peer sees everything that was written, staged or buffered at its start. -/
theorem flushRun_ready : ∀ (fuel : Nat) (s : SinkIo), (flushRun fuel s).2 = .ready →
    (flushRun fuel s).1.w.writeBuffer = [] ∧ (flushRun fuel s).1.c.staged = [] ∧
    (flushRun fuel s).1.c.visible = s.pipeline := by
  intro fuel
  induction fuel with
  | zero => intro s h; simp [flushRun] at h
  | succ n ih =>
    intro s h
    have h1 := sinkPollFlush_ready s
    have h2 := sinkPollFlush_pipeline s
    rw [flushRun] at h ⊢
    generalize sinkPollFlush s = p at h h1 h2 ⊢
    obtain ⟨s', res⟩ := p
    cases res with
    | ready => exact h1 rfl
    | pending =>
      rw [← h2]
      exact ih s' h

/-- While the flush has not returned `Ready`, a write-behind carrier shows the peer nothing new. -/
theorem flushRun_pending_wb : ∀ (fuel : Nat) (s : SinkIo), s.c.wb = true → (flushRun fuel s).2 = .pending →
    (flushRun fuel s).1.c.visible = s.c.visible := by
  intro fuel
  induction fuel with
  | zero => intro s _ _; rfl
  | succ n ih =>
    intro s hwb h
    obtain ⟨_, _, h3, _, h5, _⟩ := pollWriteBufferC_exact s.ws s.w s.c
    rw [flushRun] at h ⊢
    rcases sinkPollFlush_cases s rfl with ⟨fs', _, _, heq⟩ | ⟨fs', heq, _⟩
    · rw [heq] at h
      cases h
    · rw [heq] at h ⊢
      rw [← h3 hwb]
      exact ih _ (h5.trans hwb) h

/-- **The flush completes.** The carrier takes every byte eventually (the write schedule holds as
many non-`Pending` choices as the write buffer has bytes) and completes a flush eventually (some
answer of the flush schedule is `Ready`), and the caller polls again after every `Pending` (`fuel`
exceeds the length of the two schedules). Then the flush returns `Ready(Ok)`.
Measure: `|ws| + |fs|` — every `Pending` poll uses up a choice or an answer. -/
theorem flushRun_completes : ∀ (fuel : Nat) (s : SinkIo), s.w.writeBuffer.length ≤ nz s.ws → true ∈ s.fs →
    s.ws.length + s.fs.length < fuel → (flushRun fuel s).2 = .ready := by
  intro fuel
  induction fuel with
  | zero => intro s _ _ h; omega
  | succ n ih =>
    intro s hb hf hfuel
    obtain ⟨_, _, _, _, _, b2, hbud⟩ := pollWriteBufferC_exact s.ws s.w s.c
    obtain ⟨b1, b3⟩ := hbud hb
    rw [flushRun]
    rcases sinkPollFlush_cases s rfl with ⟨fs', _, _, heq⟩ | ⟨fs', heq, hfs⟩
    · rw [heq]
    · rw [heq]
      rcases hfs with ⟨rfl, hp | h0⟩ | hfs
      · exact ih _ b1 hf (by have := b3 hp; simp only; omega)
      · rw [h0] at hf
        cases hf
      · rw [hfs] at hf hfuel
        exact ih _ b1 (by simpa using hf) (by simp only [List.length_cons] at hfuel ⊢; omega)

/-- `start_send` of a list of frames. -/
def sendAll : Writer → List Bytes → Except FrameErr Writer
  | w, [] => .ok w
  | w, f :: fs =>
    match startSend w f with
    | .ok w' => sendAll w' fs
    | .error e => .error e

theorem sendAll_wire : ∀ (fs : List Bytes) (w : Writer), (∀ f ∈ fs, f.length ≤ maxFrameSize) →
    sendAll w fs = .ok ⟨w.writeBuffer ++ wire fs⟩ := by
  intro fs
  induction fs with
  | nil => intro w _; simp [sendAll, wire]
  | cons f fs ih =>
    intro w h
    have hf := h f (by simp)
    have hlt : f.length < 2 ^ 16 := by rw [maxFrameSize_eq] at hf; omega
    simp only [sendAll, startSend, hlt, hf, and_self, if_true]
    rw [ih _ (fun g hg => h g (by simp [hg])), wire_cons, List.append_assoc]

end Litep2pVerif.Mss
