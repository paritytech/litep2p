import Litep2pVerif.Model.Mss.WebRtc
import Litep2pVerif.Proofs.Mss.Negotiate
import Litep2pVerif.Proofs.Mss.Framing
/-! The message-based negotiation: safety lemmas, the payload format (`wFrame`) with its
encode/decode lemmas, the rounds over the fallback list behind `webrtc_agree` (`wPairLoop_rounds`, `wPair_agree`), and
`lookup_build`: the fallback table maps a name to the first installed protocol that lists it (for
`fallback_reported_as_main`). -/
namespace Litep2pVerif.Mss

theorem wListenFinish_accepted (sup : List Bytes) (q : Bytes) (hdr : Bool) (rest : Bytes) (p m : Bytes)
    (h : wListenFinish sup q hdr rest = .ok (.accepted p m)) : p ∈ sup ∧ p = q := by
  unfold wListenFinish at h
  repeat' split at h
  all_goals first | (cases h) | skip
  all_goals simp_all

theorem wListen_accepted (sup : List Bytes) (payload : Bytes) (hr : Bool) (p m : Bytes)
    (h : wListen sup payload hr = .ok (.accepted p m)) : p ∈ sup := by
  unfold wListen at h
  repeat' split at h
  all_goals first | (cases h) | skip
  all_goals first | exact (wListenFinish_accepted _ _ _ _ _ _ h).1 | simp_all

theorem wRegisterLoop_succeeded :
    ∀ (fuel : Nat) (d : WDialer) (payload : Bytes) (q : Bytes),
      (wRegisterLoop fuel d payload).2 = .ok (.succeeded q) → q = d.protocol := by
  intro fuel
  induction fuel with
  | zero => intro d payload q h; simp [wRegisterLoop] at h
  | succ f ih =>
    intro d payload q h
    rw [wRegisterLoop] at h
    repeat' split at h
    all_goals first | exact (ih _ _ _ h :) | (cases h; rfl) | cases h

/-- One message the way `webrtc_encode_multistream_message` puts it into a payload. -/
def wFrame (m : Msg) : Bytes := uviEncode m.encodedLen ++ m.encode

/-- The header frame, `uvi(19) ++ "/multistream/1.0.0\n"`. -/
abbrev wHdr : Bytes := wFrame .header

theorem wHdr_length : wHdr.length = headerFrameLen := by decide

theorem wHdr_ne_nil : wHdr ≠ [] := by decide

theorem encodedLen_protocol (p : Bytes) : (Msg.protocol p).encodedLen = (Msg.protocol p).encode.length := by
  simp [Msg.encodedLen, Msg.encode]

theorem uviEncode_length_le_two (n : Nat) (h : n < 16384) : (uviEncode n).length ≤ 2 := by
  rw [uviEncode_eq]
  exact Groups.enc_length_le (k := 2) h (by decide)

theorem uviEncode_length_two (n : Nat) (h1 : 128 ≤ n) (h : n < 16384) : (uviEncode n).length = 2 := by
  rw [uviEncode_two n h1 h]; simp

theorem wFrame_ne_nil (m : Msg) : wFrame m ≠ [] := by
  have := uviEncode_ne_nil m.encodedLen
  simp [wFrame, this]

/-- 3: 2 bytes of length prefix at most, 1 line feed. -/
theorem webrtcEncode_proto_false (p : Bytes) (h : p.length + 3 ≤ maxFrameSize) :
    webrtcEncode (.protocol p) false = some (wFrame (.protocol p)) := by
  rw [maxFrameSize_eq] at h
  have h2 := uviEncode_length_le_two (p.length + 1) (by omega)
  have : ¬ ((uviEncode (p.length + 1)).length + (p.length + 1) > maxFrameSize) := by
    rw [maxFrameSize_eq]; omega
  simp [webrtcEncode, wFrame, Msg.encodedLen, this]

theorem hdrFrame_length : (uviEncode msgMultistream.length).length + msgMultistream.length = 20 := by decide

/-- 23: 20 bytes of header frame, 2 of length prefix, 1 line feed. -/
theorem webrtcEncode_proto_true (p : Bytes) (h : p.length + 23 ≤ maxFrameSize) :
    webrtcEncode (.protocol p) true = some (wHdr ++ wFrame (.protocol p)) := by
  rw [maxFrameSize_eq] at h
  have h2 := uviEncode_length_le_two (p.length + 1) (by omega)
  have : ¬ ((uviEncode msgMultistream.length).length + msgMultistream.length +
      (uviEncode (p.length + 1)).length + (p.length + 1) > maxFrameSize) := by
    rw [maxFrameSize_eq, hdrFrame_length]; omega
  simp [webrtcEncode, wFrame, Msg.encodedLen, this, Msg.encode]

theorem uviEncode_length_ge_two (n : Nat) (h : 128 ≤ n) : 2 ≤ (uviEncode n).length := by
  rw [uviEncode_eq, Groups.enc_ge h]
  exact Nat.succ_le_succ (List.length_pos_iff.mpr (Groups.enc_ne_nil _))

/-- The bound of `webrtcEncode_proto_true` is exact: a longer name makes `propose` fail. -/
theorem webrtcEncode_proto_true_too_long (p : Bytes) (h : maxFrameSize < p.length + 23) :
    webrtcEncode (.protocol p) true = none := by
  rw [maxFrameSize_eq] at h
  have h2 := uviEncode_length_ge_two (p.length + 1) (by omega)
  have : (uviEncode msgMultistream.length).length + msgMultistream.length +
      (uviEncode (p.length + 1)).length + (p.length + 1) > maxFrameSize := by
    rw [maxFrameSize_eq, hdrFrame_length]; omega
  simp [webrtcEncode, Msg.encodedLen, this]

theorem webrtcEncode_na (hdr : Bool) :
    webrtcEncode .notAvailable hdr = some ((if hdr then wHdr else []) ++ wFrame .notAvailable) := by
  cases hdr <;> decide

/-- What a message must satisfy for `decode_multistream_message` to read its frame `wFrame m` back (`lt`: the length fits
`usize`). -/
structure Framable (m : Msg) : Prop where
  wf : m.WellFormed
  len : m.encodedLen = m.encode.length
  lt : m.encode.length < 2 ^ 64

theorem framable_header : Framable .header := ⟨trivial, by decide, by decide⟩

theorem framable_na : Framable .notAvailable := ⟨trivial, by decide, by decide⟩

theorem uviDecodeUsize_wFrame {m : Msg} (h : Framable m) (rest : Bytes) :
    uviDecodeUsize (wFrame m ++ rest) = .ok (m.encode.length, m.encode ++ rest) := by
  rw [wFrame, h.len, List.append_assoc]
  exact uviDecodeUsize_encode _ _ h.lt

theorem decodeMultistreamMessage_frame {m : Msg} (h : Framable m) (rest : Bytes) :
    decodeMultistreamMessage (wFrame m ++ rest) = .ok (m, rest) := by
  unfold decodeMultistreamMessage
  rw [uviDecodeUsize_wFrame h]
  simp [decode_encode m h.wf]

theorem decodeMsg_na (rest : Bytes) :
    decodeMultistreamMessage (wFrame .notAvailable ++ rest) = .ok (.notAvailable, rest) :=
  decodeMultistreamMessage_frame framable_na rest

theorem wRegisterLoop_frame (fuel : Nat) (d : WDialer) {m : Msg} (h : Framable m) (rest : Bytes) :
    wRegisterLoop (fuel + 1) d (wFrame m ++ rest) =
      match d.state, m with
      | .waitingResponse, .header => wRegisterLoop fuel { d with state := .waitingProtocol } rest
      | .waitingResponse, _ => (d, .error .failed)
      | .waitingProtocol, .notAvailable => (d, .ok .rejected)
      | .waitingProtocol, .protocol p =>
        if p = protoMultistream then (d, .error .stateMismatch)
        else if d.protocol = p then (d, .ok (.succeeded d.protocol))
        else (d, .error .failed)
      | .waitingProtocol, .listProtocols => (d, .error .invalidMessage)
      | _, _ => (d, .error .stateMismatch) := by
  have hne : wFrame m ++ rest ≠ [] := by simp [wFrame_ne_nil]
  rw [wRegisterLoop, if_neg hne, uviDecodeUsize_wFrame h]
  simp only [List.length_append, List.take_left', List.drop_left', decode_encode m h.wf]
  rw [if_neg (by omega)]
  cases hs : d.state <;> cases m <;> simp

/-- A name the message-based dialer can propose as a fallback (no header in front). -/
def WProposable (p : Bytes) : Prop := ValidName p ∧ p.length + 3 ≤ maxFrameSize

instance (p : Bytes) : Decidable (WProposable p) := by unfold WProposable; infer_instance

theorem WProposable.framable {p : Bytes} (h : WProposable p) : Framable (.protocol p) :=
  ⟨h.1, encodedLen_protocol p, by have := h.2; rw [maxFrameSize_eq] at this; simp [Msg.encode]; omega⟩

theorem wRegister_nil_wp (d : WDialer) (h : d.state = .waitingProtocol) (fuel : Nat) :
    wRegisterLoop (fuel + 1) d [] = (d, .ok .notReady) := by
  simp [wRegisterLoop, h]

theorem wRegister_confirm (d : WDialer) (hs : d.state = .waitingProtocol) (hp : WProposable d.protocol) :
    wRegister d (wFrame (.protocol d.protocol)) = (d, .ok (.succeeded d.protocol)) := by
  have := wRegisterLoop_frame (wFrame (.protocol d.protocol)).length d hp.framable []
  rw [List.append_nil] at this
  rw [wRegister, this, hs]
  simp [hp.1.2.2]

theorem wRegister_na (d : WDialer) (hs : d.state = .waitingProtocol) :
    wRegister d (wFrame .notAvailable) = (d, .ok .rejected) := by
  have := wRegisterLoop_frame (wFrame .notAvailable).length d framable_na []
  rw [List.append_nil] at this
  rw [wRegister, this, hs]

theorem wRegister_header (d : WDialer) (hs : d.state = .waitingResponse) :
    wRegister d wHdr = ({ d with state := .waitingProtocol }, .ok .notReady) := by
  have := wRegisterLoop_frame wHdr.length d framable_header []
  rw [List.append_nil] at this
  rw [wRegister, this, hs]
  have hl : wHdr.length = 19 + 1 := by decide
  simp only [hl]
  exact wRegister_nil_wp _ rfl _

theorem wRegister_header_then (d : WDialer) (hs : d.state = .waitingResponse) {m : Msg} (hm : Framable m)
    (hh : m ≠ .header) :
    wRegister d (wHdr ++ wFrame m) = wRegister { d with state := .waitingProtocol } (wFrame m) := by
  have h1 := wRegisterLoop_frame (wHdr ++ wFrame m).length d framable_header (wFrame m)
  rw [wRegister, h1, hs]
  obtain ⟨f1, hf1⟩ : ∃ f, (wHdr ++ wFrame m).length = f + 1 :=
    ⟨19 + (wFrame m).length, by rw [List.length_append, show wHdr.length = 20 by decide]; omega⟩
  -- what the loop does with the frame of `m` alone does not depend on the fuel left
  have a := fun f => wRegisterLoop_frame f { d with state := .waitingProtocol } hm []
  simp only [List.append_nil] at a
  rw [wRegister, hf1, a, a]
  cases m <;> simp at hh ⊢

theorem wListen_header_only (sup : List Bytes) : wListen sup wHdr false = .ok (.pendingProtocol wHdr) := by
  have := decodeMultistreamMessage_frame framable_header []
  rw [List.append_nil] at this
  simp [wListen, this]

theorem wListenFinish_nil (sup : List Bytes) (p : Bytes) (hdr : Bool)
    (henc : webrtcEncode (.protocol p) hdr = some ((if hdr then wHdr else []) ++ wFrame (.protocol p))) :
    wListenFinish sup p hdr [] =
      if p ∈ sup then .ok (.accepted p ((if hdr then wHdr else []) ++ wFrame (.protocol p)))
      else .ok (.rejected ((if hdr then wHdr else []) ++ wFrame .notAvailable)) := by
  simp only [wListenFinish, ne_eq, not_true_eq_false, if_false, henc, webrtcEncode_na]

/-- A proposal: behind the header in the same payload (`first`), or alone after the header was
exchanged. The listener answers in kind. -/
theorem wListen_proto (sup : List Bytes) (p : Bytes) (first : Bool) (hp : WProposable p)
    (hmain : first = true → p.length + 23 ≤ maxFrameSize) :
    wListen sup ((if first then wHdr else []) ++ wFrame (.protocol p)) (!first) =
      if p ∈ sup then .ok (.accepted p ((if first then wHdr else []) ++ wFrame (.protocol p)))
      else .ok (.rejected ((if first then wHdr else []) ++ wFrame .notAvailable)) := by
  have h2 := decodeMultistreamMessage_frame hp.framable []
  rw [List.append_nil] at h2
  cases first with
  | false =>
    show wListen sup (wFrame (.protocol p)) true =
      if p ∈ sup then .ok (.accepted p (wFrame (.protocol p))) else .ok (.rejected (wFrame .notAvailable))
    have := wListenFinish_nil sup p false (by simpa using webrtcEncode_proto_false p hp.2)
    simp only [wListen, h2, this]
    simp
  | true =>
    show wListen sup (wHdr ++ wFrame (.protocol p)) false =
      if p ∈ sup then .ok (.accepted p (wHdr ++ wFrame (.protocol p)))
      else .ok (.rejected (wHdr ++ wFrame .notAvailable))
    have h1 := decodeMultistreamMessage_frame framable_header (wFrame (.protocol p))
    have := wListenFinish_nil sup p true (by simpa using webrtcEncode_proto_true p (hmain rfl))
    simp only [wListen, h1, h2, wFrame_ne_nil, if_false, this]
    simp

theorem wProposeNext_nil (d : WDialer) (h : d.fallbackNames = []) : wProposeNext d = (d, .ok none) := by
  simp [wProposeNext, h]

/-- The fallbacks are tried in the order given to `propose` (the list is stored reversed and popped
from the end). -/
theorem wProposeNext_cons (d : WDialer) (r : Bytes) (rest : List Bytes) (h : d.fallbackNames = (r :: rest).reverse)
    (hr : WProposable r) :
    wProposeNext d = ({ d with fallbackNames := rest.reverse, protocol := r }, .ok (some (wFrame (.protocol r)))) := by
  have h1 : d.fallbackNames.getLast? = some r := by rw [h]; simp
  have h2 : d.fallbackNames.dropLast = rest.reverse := by rw [h]; simp
  have h3 : protocolTryFrom r = .ok r := by simp [protocolTryFrom, hr.1.1]
  simp only [wProposeNext, h1, h2, h3, webrtcEncode_proto_false r hr.2]

theorem wFeed_confirm (lres : Option (Except WErr Bytes)) (d : WDialer) (q : List Bytes)
    (hs : d.state = .waitingProtocol) (hp : WProposable d.protocol) :
    wFeed lres [wFrame (.protocol d.protocol)] d q = .inl ⟨.succeeded d.protocol, lres⟩ := by
  simp only [wFeed, wRegister_confirm d hs hp]

theorem wFeed_na_last (lres : Option (Except WErr Bytes)) (d : WDialer) (q : List Bytes)
    (hs : d.state = .waitingProtocol) (hf : d.fallbackNames = []) :
    wFeed lres [wFrame .notAvailable] d q = .inl ⟨.failed, lres⟩ := by
  simp only [wFeed, wRegister_na d hs, wProposeNext_nil d hf]

theorem wFeed_na_next (lres : Option (Except WErr Bytes)) (d : WDialer) (q : List Bytes) (r : Bytes) (rest : List Bytes)
    (hs : d.state = .waitingProtocol) (hf : d.fallbackNames = (r :: rest).reverse) (hr : WProposable r) :
    wFeed lres [wFrame .notAvailable] d q =
      .inr ({ d with fallbackNames := rest.reverse, protocol := r }, q ++ [wFrame (.protocol r)]) := by
  simp only [wFeed, wRegister_na d hs, wProposeNext_cons d r rest hf hr]

theorem take_hdr (x : Bytes) : (wHdr ++ x).take headerFrameLen = wHdr := List.take_left' wHdr_length

theorem drop_hdr (x : Bytes) : (wHdr ++ x).drop headerFrameLen = x := List.drop_left' wHdr_length

/-- The listener's answer `m` reaches the dialer: alone, or (first round) behind the header, as one
payload or cut after the header (`c`). -/
theorem wFeed_answer (lres : Option (Except WErr Bytes)) (d : WDialer) (q : List Bytes) (m : Msg) (first : Bool)
    (hs : d.state = if first then .waitingResponse else .waitingProtocol)
    (hm : Framable m) (hh : m ≠ .header) (c : Prop) [Decidable c] (hc : c → first = true) :
    wFeed lres
        (if c then [((if first then wHdr else []) ++ wFrame m).take headerFrameLen,
            ((if first then wHdr else []) ++ wFrame m).drop headerFrameLen]
          else [(if first then wHdr else []) ++ wFrame m]) d q =
      wFeed lres [wFrame m] { d with state := .waitingProtocol } q := by
  cases first with
  | false =>
    rw [if_neg (fun h => Bool.false_ne_true (hc h))]
    obtain ⟨protocol, fallbackNames, state⟩ := d
    cases hs
    rfl
  | true =>
    by_cases h : c
    · simp only [if_pos h, if_true, take_hdr, drop_hdr, wFeed, wRegister_header d hs]
    · simp only [if_neg h, if_true, wFeed, wRegister_header_then d hs hm hh]

/-- What the pair must end with: agreement on `p`, or failure on the dialer side with the listener
never having accepted. -/
def wAgreed : Option Bytes → WPairResult
  | some p => ⟨.succeeded p, some (.ok p)⟩
  | none => ⟨.failed, none⟩

/-- One round per proposal (`fuel` exceeds the number of fallbacks left): the dialer waits for the answer to its proposal
`p`, in flight as the only payload, and still has `rest` to try; `first` as in `wListen_proto`. -/
theorem wPairLoop_rounds (sup : List Bytes) (split : Nat) :
    ∀ (rest : List Bytes) (p : Bytes) (fuel round : Nat) (d : WDialer) (first : Bool),
      rest.length < fuel → d.state = (if first then .waitingResponse else .waitingProtocol) → d.protocol = p →
      d.fallbackNames = rest.reverse → (∀ x ∈ p :: rest, WProposable x) →
      (first = true → p.length + 23 ≤ maxFrameSize) →
      wPairLoop sup split fuel round d [(if first then wHdr else []) ++ wFrame (.protocol p)] (!first) =
        wAgreed (firstCommon (p :: rest) sup) := by
  intro rest p fuel
  induction fuel generalizing rest p with
  | zero => intro _ _ _ hfuel; omega
  | succ f ih =>
    intro round d first hfuel hs hp hf hall hmain
    subst hp
    have hpp : WProposable d.protocol := hall _ (by simp)
    rw [wPairLoop, wListen_proto sup _ first hpp hmain, firstCommon_cons]
    by_cases hmem : d.protocol ∈ sup
    · simp only [hmem, if_true]
      rw [wFeed_answer _ d [] (.protocol d.protocol) first hs hpp.framable nofun _ (fun h => by simpa using h.1),
        wFeed_confirm _ { d with state := .waitingProtocol } [] rfl hpp]
      rfl
    · simp only [hmem, if_false]
      rw [wFeed_answer _ d [] .notAvailable first hs framable_na nofun _ (fun h => by simpa using h.1)]
      cases rest with
      | nil =>
        rw [wFeed_na_last _ { d with state := .waitingProtocol } [] rfl (by simpa using hf)]
        rfl
      | cons r rest =>
        rw [wFeed_na_next _ { d with state := .waitingProtocol } [] r rest rfl hf (hall r (by simp))]
        simp only [Option.isSome_none, Bool.false_eq_true, if_false]
        exact ih rest r (round + 1) _ false (by simp at hfuel; omega) rfl rfl rfl
          (fun x hx => hall x (List.mem_cons_of_mem _ hx)) nofun

/-- A name the message-based dialer can propose first (with the header in front). -/
def WProposableMain (p : Bytes) : Prop := ValidName p ∧ p.length + 23 ≤ maxFrameSize

instance (p : Bytes) : Decidable (WProposableMain p) := by unfold WProposableMain; infer_instance

theorem WProposableMain.toFallback {p : Bytes} (h : WProposableMain p) : WProposable p := ⟨h.1, by have := h.2; omega⟩

theorem wPropose_ok (main : Bytes) (fallbacks : List Bytes) (h : WProposableMain main) :
    wPropose main fallbacks =
      .ok ({ protocol := main, fallbackNames := fallbacks.reverse, state := .waitingResponse },
        wHdr ++ wFrame (.protocol main)) := by
  have h3 : protocolTryFrom main = .ok main := by simp [protocolTryFrom, h.1.1]
  simp only [wPropose, h3, webrtcEncode_proto_true main h.2]

theorem wPair_agree (main : Bytes) (fallbacks sup : List Bytes) (split : Nat)
    (hmain : WProposableMain main) (hfb : ∀ f ∈ fallbacks, WProposable f) :
    wPair main fallbacks sup split = wAgreed (firstCommon (main :: fallbacks) sup) := by
  have hall : ∀ x ∈ main :: fallbacks, WProposable x := by
    intro x hx
    rcases List.mem_cons.mp hx with rfl | hx
    · exact hmain.toFallback
    · exact hfb x hx
  let d0 : WDialer := ⟨main, fallbacks.reverse, .waitingResponse⟩
  let d1 : WDialer := ⟨main, fallbacks.reverse, .waitingProtocol⟩
  have hd1 : { d0 with state := .waitingProtocol } = d1 := rfl
  rw [wPair, wPropose_ok main fallbacks hmain]
  simp only [take_hdr, drop_hdr]
  change (wPairLoop sup split (2 * fallbacks.length + 6) 0 d0 _ false) = _
  by_cases hsplit : split % 2 = 1
  · -- header and proposal travel separately
    rw [if_pos hsplit, show 2 * fallbacks.length + 6 = (2 * fallbacks.length + 5) + 1 by omega, wPairLoop,
      wListen_header_only]
    have hfeed : wFeed none [wHdr] d0 [wFrame (.protocol main)] = .inr (d1, [wFrame (.protocol main)]) := by
      simp only [wFeed, wRegister_header d0 rfl, hd1]
    simp only [Bool.false_eq_true, false_and, if_false, hfeed, Option.isSome_none]
    exact wPairLoop_rounds sup split fallbacks main _ _ d1 false (by omega) rfl rfl rfl hall nofun
  · rw [if_neg hsplit]
    exact wPairLoop_rounds sup split fallbacks main _ 0 d0 true (by omega) rfl rfl rfl hall (fun _ => hmain.2)

theorem lookup_map_const (n m : Bytes) (fbs : List Bytes) :
    (fbs.map fun f => (f, m)).lookup n = if n ∈ fbs then some m else none := by
  induction fbs with
  | nil => simp
  | cons f fbs ih =>
    simp only [List.map_cons, List.lookup_cons, ih]
    by_cases h : n = f
    · subst h; simp
    · have : (n == f) = false := by simpa using h
      simp [this, h]

theorem lookup_build (installed : List (Bytes × List Bytes)) (n : Bytes) :
    (buildFallbackNames installed).lookup n = (installed.find? (fun e => n ∈ e.2)).map (·.1) := by
  induction installed with
  | nil => simp [buildFallbackNames]
  | cons e rest ih =>
    have : buildFallbackNames (e :: rest) = (e.2.map fun f => (f, e.1)) ++ buildFallbackNames rest := by
      simp [buildFallbackNames]
    rw [this, List.lookup_append, lookup_map_const, ih]
    by_cases h : n ∈ e.2 <;> simp [h]

end Litep2pVerif.Mss
