import Litep2pVerif.Proofs.Mss.Lts
/-! The canonical execution of the dialer/listener composition, for all name lists: for proposals that are `Sendable` the
dialer-first scheduler `runSys` ends in an `Agreed` state within `6·|ps| + 7` transitions (`canonical`), and by
`confluent` every execution is at most that long and every maximal one ends in that state (`exec_agreed`). -/
namespace Litep2pVerif.Mss
open Litep2pVerif

/-- Only `fail` sets `close`, and it leaves a halted state behind. -/
theorem dialerProc_closeHalts (junk : Option PErr) : (dialerProc junk).CloseHalts := by
  constructor
  · intro d
    show d.internal.close = true → d.internal.st.mode = .halted
    unfold Dialer.internal Dialer.fail
    repeat' split
    all_goals simp [Dialer.mode]
  · intro d r
    show (d.onRecv r).close = true → (d.onRecv r).st.mode = .halted
    unfold Dialer.onRecv Dialer.fail
    repeat' split
    all_goals simp [Dialer.mode]

theorem listenerProc_closeHalts : listenerProc.CloseHalts := by
  constructor
  · intro l
    show l.internal.close = true → l.internal.st.mode = .halted
    unfold Listener.internal Listener.fail
    repeat' split
    all_goals simp [Listener.mode]
  · intro l r
    show (l.onRecv r).close = true → (l.onRecv r).st.mode = .halted
    unfold Listener.onRecv Listener.fail
    repeat' split
    all_goals simp [Listener.mode]

/-- Hypotheses on a proposed name at message level. -/
def Sendable (p : Bytes) : Prop := protocolTryFrom p = .ok p ∧ fitsFrame (.protocol p) = true

/-- Start state with the listener's (already filtered) list `lp`. -/
def initSt (v : Version) (ps lp : List Bytes) : Sys Dialer Listener :=
  { a := Dialer.init v ps, b := ⟨lp, .recvHeader, false, []⟩ }

theorem negInit_eq (v : Version) (ps ls : List Bytes) :
    negInit v ps ls = initSt v ps (ls.filter (fun n => n.head? = some 47)) := rfl

/-- Round state (from the second proposal on): header exchanged, last answer was `na`. -/
def roundSt (v : Version) (lp : List Bytes) (q : Bytes) (qs : List Bytes) : Sys Dialer Listener :=
  { a := ⟨v, qs, .sendProtocol q true, []⟩, b := ⟨lp, .recvMessage, true, []⟩ }

def junkItems : Option PErr → List Item
  | some e => [.bad e]
  | none => []

theorem fits_na : fitsFrame .notAvailable = true := by decide
theorem fits_header : fitsFrame .header = true := by decide

/-! The two processes, applied to a state. (Unfolding `dialerProc` itself would have `simp` normalise
the step functions under their binders, for an arbitrary state, at every call.) -/

theorem dialerProc_mode (junk : Option PErr) : (dialerProc junk).mode = Dialer.mode := rfl

theorem dialerProc_internal (junk : Option PErr) (d : Dialer) :
    (dialerProc junk).internal d = (d.internal.st,
      d.internal.send.map .msg ++ (match d.state with | .expecting _ _ => junkItems junk | _ => []),
      d.internal.close) := by
  rcases d with ⟨_, _, s, _⟩
  cases s <;> cases junk <;> rfl

theorem dialerProc_onRecv (junk : Option PErr) (d : Dialer) (r : Recv) :
    (dialerProc junk).onRecv d r = ((d.onRecv r).st, (d.onRecv r).send.map .msg, (d.onRecv r).close) := rfl

theorem listenerProc_mode : listenerProc.mode = Listener.mode := rfl

theorem listenerProc_internal (l : Listener) :
    listenerProc.internal l = (l.internal.st, l.internal.send.map .msg, l.internal.close) := rfl

theorem listenerProc_onRecv (l : Listener) (r : Recv) :
    listenerProc.onRecv l r = ((l.onRecv r).st, (l.onRecv r).send.map .msg, (l.onRecv r).close) := rfl

/-- The proposal `q` has reached the listener's channel and the dialer waits for the answer. The
lazy dialer making its last proposal has returned instead (`Negotiated::expecting`, `h`: it still
accepts a header), and whatever its application wrote travels behind the proposal. `na`: the
listener's previous answer was `na`. -/
def flightSt (junk : Option PErr) (lp : List Bytes) (q : Bytes) (h na : Bool) :
    Version → List Bytes → Sys Dialer Listener
  | .v1Lazy, [] =>
    { a := ⟨.v1Lazy, [], .expecting q h, []⟩, b := ⟨lp, .recvMessage, na, []⟩,
      ab := ⟨.msg (.protocol q) :: junkItems junk, false⟩ }
  | v, qs =>
    { a := ⟨v, qs, .awaitProtocol q true, []⟩, b := ⟨lp, .recvMessage, na, []⟩,
      ab := ⟨[.msg (.protocol q)], false⟩ }

theorem firstCommon_cons (p : Bytes) (ps lp : List Bytes) :
    firstCommon (p :: ps) lp = if p ∈ lp then some p else firstCommon ps lp := by
  by_cases h : p ∈ lp <;> simp [firstCommon, List.find?, h]

theorem firstCommon_filter (ps ls : List Bytes) (h : ∀ p ∈ ps, p.head? = some 47) :
    firstCommon ps (ls.filter (fun n => n.head? = some 47)) = firstCommon ps ls := by
  induction ps with
  | nil => rfl
  | cons p ps ih =>
    rw [firstCommon_cons, firstCommon_cons, ih (fun x hx => h x (by simp [hx]))]
    have := h p (by simp)
    simp [List.mem_filter, this]

/-- Both sides have returned and agree; `e ≠ .panic`: never a failed assertion. -/
def Agreed (ps lp : List Bytes) (t : Sys Dialer Listener) : Prop :=
  t.a.mode = .halted ∧ t.b.mode = .halted ∧
  match firstCommon ps lp with
  | some p => t.a.state = .completed p ∧ t.b.state = .done p
  | none => (∃ e, t.a.state = .failed e ∧ e ≠ .panic) ∧ (∃ e, t.b.state = .failed e ∧ e ≠ .panic)

theorem agreed_final (junk : Option PErr) {ps lp : List Bytes} {t : Sys Dialer Listener} (h : Agreed ps lp t) :
    Final (dialerProc junk) listenerProc t := by
  constructor
  · simp [stepA, procStep, dialerProc_mode, h.1]
  · simp [stepB, procStep, listenerProc_mode, h.2.1]

/-! Each lemma of this section is one `simp` that runs `runSys` symbolically between two of the named states; its fuel is
the number of transitions the dialer-first scheduler takes from the one to the other: 7 up to the first proposal in
flight, 4 from there to agreement or to the next round, 2 to put the next proposal in flight, 5 from a last proposal in flight to its refusal and the end (2 for an empty list). -/
section runs
attribute [local simp] runSys roundSt initSt flightSt stepA stepB procStep dialerProc_mode dialerProc_internal
  dialerProc_onRecv listenerProc_mode listenerProc_internal listenerProc_onRecv Dialer.mode Dialer.internal
  Dialer.onRecv Dialer.fail Dialer.init Listener.mode Listener.internal Listener.onRecv Listener.fail
  Chan.push Item.toRecv fits_na fits_header

variable (junk : Option PErr) (v : Version) (lp : List Bytes)

theorem init_empty :
    runSys (dialerProc junk) listenerProc 2 (initSt v [] lp) =
      { a := ⟨v, [], .failed .failed, [.header]⟩, b := ⟨lp, .failed .failed, false, []⟩,
        ab := ⟨[], true⟩, ba := ⟨[], true⟩ } := by
  simp

theorem first_send (p : Bytes) (ps : List Bytes) (hp : Sendable p) :
    runSys (dialerProc junk) listenerProc 7 (initSt v (p :: ps) lp) = flightSt junk lp p false false v ps := by
  cases v <;> cases ps <;> simp [hp.1, hp.2]

theorem round_send (q : Bytes) (qs : List Bytes) (hq : Sendable q) :
    runSys (dialerProc junk) listenerProc 2 (roundSt v lp q qs) = flightSt junk lp q true true v qs := by
  cases v <;> cases qs <;> simp [hq.1, hq.2]

theorem flight_ok (q : Bytes) (qs : List Bytes) (h na : Bool) (hq : Sendable q) (hmem : q ∈ lp) :
    Agreed (q :: qs) lp (runSys (dialerProc junk) listenerProc 4 (flightSt junk lp q h na v qs)) := by
  cases v <;> cases qs <;> simp [Agreed, firstCommon_cons, hq.2, hmem]

theorem flight_na_next (q q' : Bytes) (qs : List Bytes) (h na : Bool) (hmem : q ∉ lp) :
    runSys (dialerProc junk) listenerProc 4 (flightSt junk lp q h na v (q' :: qs)) = roundSt v lp q' qs := by
  cases v <;> simp [hmem]

theorem flight_na_last (q : Bytes) (h na : Bool) (hmem : q ∉ lp) :
    Agreed [q] lp (runSys (dialerProc junk) listenerProc 5 (flightSt junk lp q h na v [])) := by
  cases v
  · simp [Agreed, firstCommon, hmem]
  · cases junk with
    | none => simp [Agreed, firstCommon, hmem, junkItems]
    | some e => by_cases he : e = .invalidMessage ∨ e = .ioUnexpectedEof <;>
        simp [Agreed, firstCommon, hmem, junkItems, he]

end runs

/-- Six transitions per proposal. -/
theorem flight_agreed (junk : Option PErr) (v : Version) (lp : List Bytes) :
    ∀ (qs : List Bytes) (q : Bytes) (h na : Bool), (∀ x ∈ q :: qs, Sendable x) →
      ∃ fuel, fuel ≤ 6 * qs.length + 5 ∧
        Agreed (q :: qs) lp (runSys (dialerProc junk) listenerProc fuel (flightSt junk lp q h na v qs)) := by
  intro qs
  induction qs with
  | nil =>
    intro q h na hs
    by_cases hmem : q ∈ lp
    · exact ⟨4, by omega, flight_ok junk v lp q [] h na (hs q (by simp)) hmem⟩
    · exact ⟨5, by omega, flight_na_last junk v lp q h na hmem⟩
  | cons q' qs ih =>
    intro q h na hs
    by_cases hmem : q ∈ lp
    · exact ⟨4, by omega, flight_ok junk v lp q _ h na (hs q (by simp)) hmem⟩
    · obtain ⟨fuel, hf, hag⟩ := ih q' true true (fun x hx => hs x (List.mem_cons_of_mem _ hx))
      refine ⟨4 + (2 + fuel), by simp only [List.length_cons]; omega, ?_⟩
      rw [runSys_add, flight_na_next junk v lp q q' qs h na hmem, runSys_add,
        round_send junk v lp q' qs (hs q' (by simp)), Agreed, firstCommon_cons, if_neg hmem]
      exact hag

theorem rounds (junk : Option PErr) (v : Version) (lp : List Bytes) :
    ∀ (qs : List Bytes) (q : Bytes), (∀ x ∈ q :: qs, Sendable x) →
      ∃ fuel, fuel ≤ 6 * (qs.length + 1) + 1 ∧
        Agreed (q :: qs) lp (runSys (dialerProc junk) listenerProc fuel (roundSt v lp q qs)) := by
  intro qs q hs
  obtain ⟨fuel, hf, hag⟩ := flight_agreed junk v lp qs q true true hs
  refine ⟨2 + fuel, by omega, ?_⟩
  rw [runSys_add, round_send junk v lp q qs (hs q (by simp))]
  exact hag

theorem canonical (junk : Option PErr) (v : Version) (lp : List Bytes) (ps : List Bytes)
    (hs : ∀ x ∈ ps, Sendable x) :
    ∃ fuel, fuel ≤ 6 * ps.length + 7 ∧
      Agreed ps lp (runSys (dialerProc junk) listenerProc fuel (initSt v ps lp)) := by
  cases ps with
  | nil =>
    refine ⟨2, by omega, ?_⟩
    rw [init_empty]
    simp [Agreed, firstCommon, Dialer.mode, Listener.mode]
  | cons p ps =>
    obtain ⟨fuel, hf, hag⟩ := flight_agreed junk v lp ps p false false hs
    refine ⟨7 + fuel, by simp only [List.length_cons]; omega, ?_⟩
    rw [runSys_add, first_send junk v lp p ps (hs p (by simp))]
    exact hag

theorem good_init (junk : Option PErr) (v : Version) (ps lp : List Bytes) :
    Good (dialerProc junk) listenerProc (initSt v ps lp) := by
  simp [Good, initSt]

theorem exec_agreed (junk : Option PErr) (v : Version) (ps ls : List Bytes) (hs : ∀ x ∈ ps, Sendable x)
    {k : Nat} {u : Sys Dialer Listener} (h : Exec (dialerProc junk) listenerProc (negInit v ps ls) k u) :
    k ≤ 6 * ps.length + 7 ∧
      (Final (dialerProc junk) listenerProc u → Agreed ps (ls.filter (fun n => n.head? = some 47)) u) := by
  rw [negInit_eq] at h
  obtain ⟨fuel, hf, hag⟩ := canonical junk v (ls.filter (fun n => n.head? = some 47)) ps hs
  obtain ⟨n, hn, hex⟩ := runSys_exec (dialerProc junk) listenerProc fuel (initSt v ps _)
  have := confluent (dialerProc_closeHalts junk) listenerProc_closeHalts k n _ _ u
    (good_init junk v ps _) hex (agreed_final junk hag) h
  exact ⟨by omega, fun hfin => (this.2 hfin).1 ▸ hag⟩

end Litep2pVerif.Mss
