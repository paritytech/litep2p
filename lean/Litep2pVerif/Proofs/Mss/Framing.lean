import Litep2pVerif.Model.Mss.Framing
import Litep2pVerif.Proofs.Mss.Message
/-! Invariant-based proof that the frame reader returns exactly the frames on the wire and consumes
exactly their bytes, for every schedule (`Mid`, `Ahead`, `readN_ahead`); and, for the writer, that `poll_write_buffer`
puts out exactly the write buffer whatever the chunking (`pollWriteBuffer_exact`). -/
namespace Litep2pVerif.Mss
open Litep2pVerif

theorem maxLenBytes_eq : Consts.MSS_MAX_LEN_BYTES = 2 := by decide
theorem maxFrameSize_eq : maxFrameSize = 16383 := by decide

def Reader.fresh : Reader := {}

theorem fresh_state : Reader.fresh.state = .readLength [0, 0] 0 := by decide

/-- The reader is somewhere inside frame `f`, which is followed by `rest` on the wire. -/
def Mid (f rest : Bytes) (r : Reader) (c : RCarrier) : Prop :=
  match r.state with
  | .readLength buf pos =>
    r.readBuffer = [] ∧
    ((pos = 0 ∧ buf = [0, 0] ∧ c.data = uviEncode f.length ++ (f ++ rest)) ∨
     (pos = 1 ∧ 128 ≤ f.length ∧ buf = [f.length % 128 + 128, 0] ∧ c.data = (f.length / 128) :: (f ++ rest)))
  | .readData len pos =>
    len = f.length ∧ r.readBuffer.length = len ∧ pos < len ∧ r.readBuffer.take pos = f.take pos ∧
    c.data = f.drop pos ++ rest

theorem mid_fresh (f rest : Bytes) (eof : Bool) : Mid f rest Reader.fresh ⟨frameBytes f ++ rest, eof⟩ := by
  unfold Mid
  rw [fresh_state]
  exact ⟨rfl, Or.inl ⟨rfl, rfl, by simp [frameBytes]⟩⟩

theorem uviEncode_two (n : Nat) (h1 : 128 ≤ n) (h2 : n < 16384) :
    uviEncode n = [n % 128 + 128, n / 128] := by
  rw [uviEncode_eq, Groups.enc_ge h1, Groups.enc_lt (by omega)]

theorem u16_one (n : Nat) (h : n < 128) : uviDecodeU16 [n, 0] = .ok (n, [0]) := by
  have := uviDecodeU16_encode n [0] (by omega)
  rwa [uviEncode_lt n h] at this

theorem u16_two (n : Nat) (h1 : 128 ≤ n) (h2 : n < 16384) :
    uviDecodeU16 [n % 128 + 128, n / 128] = .ok (n, []) := by
  have := uviDecodeU16_encode n [] (by omega)
  rwa [uviEncode_two n h1 h2, List.append_nil] at this

theorem pollRead_zero (c : RCarrier) (cap : Nat) (hcap : cap ≠ 0) (hd : c.data ≠ []) :
    pollRead c cap 0 = (c, .pending) := by
  simp [pollRead, hcap, hd]

theorem pollNext_len_pending (buf : List Nat) (pos : Nat) (rb : Bytes) (c : RCarrier) (sched : List Nat)
    (hpos : pos < 2) (hd : c.data ≠ []) :
    pollNext ⟨.readLength buf pos, rb⟩ c (0 :: sched) = (⟨.readLength buf pos, rb⟩, c, sched, .pending) := by
  rw [pollNext]
  simp only [maxLenBytes_eq, show ¬ 2 ≤ pos by omega, if_false, pollRead_zero c 1 (by omega) hd]

theorem pollNext_data_pending (len pos : Nat) (rb : Bytes) (c : RCarrier) (sched : List Nat)
    (hcap : rb.length - pos ≠ 0) (hd : c.data ≠ []) :
    pollNext ⟨.readData len pos, rb⟩ c (0 :: sched) = (⟨.readData len pos, rb⟩, c, sched, .pending) := by
  rw [pollNext]
  simp only [pollRead_zero c _ hcap hd]

theorem pollRead_one (b : Nat) (t : Bytes) (eof : Bool) (ch : Nat) (hch : ch ≠ 0) :
    pollRead ⟨b :: t, eof⟩ 1 ch = (⟨t, eof⟩, .ready [b]) := by
  have : min ch 1 = 1 := by omega
  simp [pollRead, hch, this]

theorem pollRead_ready (c : RCarrier) (cap ch : Nat) (hcap : cap ≠ 0) (hd : c.data ≠ []) (hch : ch ≠ 0) :
    ∃ n, 1 ≤ n ∧ n ≤ cap ∧ n ≤ c.data.length ∧
      pollRead c cap ch = (⟨c.data.drop n, c.eof⟩, .ready (c.data.take n)) := by
  have := List.length_pos_iff.mpr hd
  refine ⟨min ch (min cap c.data.length), by omega, by omega, by omega, ?_⟩
  rw [pollRead, if_neg hcap, if_neg hd, if_neg hch]

theorem pollNext_data_step (len pos : Nat) (rb : Bytes) (b : Nat) (bs : Bytes) (c c' : RCarrier) (ch : Nat)
    (sched : List Nat) (h : pollRead c (rb.length - pos) ch = (c', .ready (b :: bs))) :
    pollNext ⟨.readData len pos, rb⟩ c (ch :: sched) =
      if pos + (b :: bs).length = len then (⟨ReadState.default, []⟩, c', sched, .frame (writeAt rb pos (b :: bs)))
      else pollNext ⟨.readData len (pos + (b :: bs).length), writeAt rb pos (b :: bs)⟩ c' sched := by
  rw [pollNext]
  simp only [h]

theorem writeAt_take (rb f : Bytes) (pos n : Nat) (hl : rb.length = f.length) (ht : rb.take pos = f.take pos)
    (hn : pos + n ≤ f.length) :
    (writeAt rb pos ((f.drop pos).take n)).take (pos + n) = f.take (pos + n) ∧
    (writeAt rb pos ((f.drop pos).take n)).length = f.length := by
  have h1 : (rb.take pos).length = pos := by rw [List.length_take]; omega
  have h2 : ((f.drop pos).take n).length = n := by rw [List.length_take, List.length_drop]; omega
  constructor
  · rw [writeAt, List.take_append_of_le_length (by rw [List.length_append]; omega),
      List.take_of_length_le (by rw [List.length_append]; omega), ht, List.take_add]
  · rw [writeAt, List.length_append, List.length_append, h1, h2, List.length_drop]
    omega

theorem pollNext_len_step (buf : List Nat) (pos : Nat) (rb : Bytes) (b : Nat) (t : Bytes) (eof : Bool)
    (ch : Nat) (sched : List Nat) (hpos : pos < 2) (hch : ch ≠ 0) :
    pollNext ⟨.readLength buf pos, rb⟩ ⟨b :: t, eof⟩ (ch :: sched) =
      if b < 128 then
        match uviDecodeU16 (buf.set pos b) with
        | .error _ => (⟨.readLength (buf.set pos b) (pos + 1), rb⟩, ⟨t, eof⟩, sched, .err .invalidData)
        | .ok (len, _) =>
          if 1 ≤ len then pollNext ⟨.readData len 0, List.replicate len 0⟩ ⟨t, eof⟩ sched
          else (⟨ReadState.default, rb⟩, ⟨t, eof⟩, sched, .frame [])
      else if pos + 1 = 2 then
        (⟨.readLength (buf.set pos b) (pos + 1), rb⟩, ⟨t, eof⟩, sched, .err .invalidData)
      else pollNext ⟨.readLength (buf.set pos b) (pos + 1), rb⟩ ⟨t, eof⟩ sched := by
  rw [pollNext]
  simp only [maxLenBytes_eq, show ¬ 2 ≤ pos by omega, if_false, pollRead_one _ _ _ _ hch]
  rfl

theorem wire_cons (f : Bytes) (fs : List Bytes) : wire (f :: fs) = frameBytes f ++ wire fs := by
  simp [wire]

/-- Inside a frame there is always at least one byte of it still in flight. -/
theorem mid_data_pos (f rest : Bytes) (r : Reader) (c : RCarrier) (h : Mid f rest r c) :
    rest.length < c.data.length := by
  obtain ⟨st, rb⟩ := r
  cases st with
  | readLength buf pos =>
    rcases h.2 with ⟨_, _, hdata⟩ | ⟨_, _, _, hdata⟩
    · have := List.length_pos_iff.mpr (uviEncode_ne_nil f.length)
      simp [hdata]; omega
    · simp [hdata]; omega
  | readData len pos =>
    obtain ⟨hlen, _, hpos, _, hdata⟩ := h
    simp [hdata]; omega

theorem pollNext_len_done (f rest : Bytes) (buf : List Nat) (pos b : Nat) (tl : Bytes) (eof : Bool) (ch : Nat)
    (hpos : pos < 2) (hch : ch ≠ 0) (hb : b < 128) (hdec : uviDecodeU16 (buf.set pos b) = .ok (f.length, tl)) :
    (∃ r' c', Mid f rest r' c' ∧ c'.eof = eof ∧ c'.data.length < (b :: (f ++ rest)).length ∧
        ∀ s, pollNext ⟨.readLength buf pos, []⟩ ⟨b :: (f ++ rest), eof⟩ (ch :: s) = pollNext r' c' s) ∨
    (rest.length < (b :: (f ++ rest)).length ∧
      ∀ s, pollNext ⟨.readLength buf pos, []⟩ ⟨b :: (f ++ rest), eof⟩ (ch :: s) =
        (Reader.fresh, ⟨rest, eof⟩, s, .frame f)) := by
  cases f with
  | nil =>
    refine Or.inr ⟨Nat.lt_succ_self _, fun s => ?_⟩
    rw [pollNext_len_step _ _ _ _ _ _ _ _ hpos hch, if_pos hb, hdec]
    rfl
  | cons x t =>
    refine Or.inl ⟨⟨.readData (x :: t).length 0, List.replicate (x :: t).length 0⟩, ⟨x :: t ++ rest, eof⟩,
      ⟨rfl, List.length_replicate, Nat.succ_pos _, rfl, rfl⟩, rfl, Nat.lt_succ_self _, fun s => ?_⟩
    rw [pollNext_len_step _ _ _ _ _ _ _ _ hpos hch, if_pos hb, hdec]
    exact if_pos (Nat.succ_pos _)

theorem pollNext_mid_zero (f rest : Bytes) (r : Reader) (c : RCarrier) (h : Mid f rest r c) (s : List Nat) :
    pollNext r c (0 :: s) = (r, c, s, .pending) := by
  have hpos := mid_data_pos f rest r c h
  have hne : c.data ≠ [] := by intro h0; rw [h0] at hpos; simp at hpos
  obtain ⟨st, rb⟩ := r
  cases st with
  | readLength buf pos =>
    have : pos < 2 := by rcases h.2 with ⟨hp, _⟩ | ⟨hp, _⟩ <;> omega
    exact pollNext_len_pending _ _ _ _ _ this hne
  | readData len pos =>
    simp only [Mid] at h
    obtain ⟨hlen, hrbl, hpos, _, _⟩ := h
    exact pollNext_data_pending _ _ _ _ _ (by omega) hne

/-- One non-`Pending` inner read from inside frame `f`: at least one byte of the frame leaves the
carrier, and either the reader is still inside `f` or it returns `f`. -/
theorem pollNext_mid_step (f rest : Bytes) (hf : f.length < 16384) (r : Reader) (c : RCarrier)
    (h : Mid f rest r c) (ch : Nat) (hch : ch ≠ 0) :
    (∃ r' c', Mid f rest r' c' ∧ c'.eof = c.eof ∧ c'.data.length < c.data.length ∧
        ∀ s, pollNext r c (ch :: s) = pollNext r' c' s) ∨
    (rest.length < c.data.length ∧ ∀ s, pollNext r c (ch :: s) = (Reader.fresh, ⟨rest, c.eof⟩, s, .frame f)) := by
  have hposd := mid_data_pos f rest r c h
  obtain ⟨st, rb⟩ := r
  obtain ⟨data, eof⟩ := c
  cases st with
  | readLength buf pos =>
    obtain ⟨rfl, ⟨rfl, rfl, hdata⟩ | ⟨rfl, hn, rfl, rfl⟩⟩ := h
    · by_cases hsmall : f.length < 128
      · rw [uviEncode_lt _ hsmall] at hdata
        subst hdata
        exact pollNext_len_done f rest _ 0 _ [0] eof ch (by omega) hch hsmall (u16_one _ hsmall)
      · left
        rw [uviEncode_two _ (by omega) hf] at hdata
        subst hdata
        refine ⟨⟨.readLength [f.length % 128 + 128, 0] 1, []⟩, ⟨(f.length / 128) :: (f ++ rest), eof⟩,
          ⟨rfl, Or.inr ⟨rfl, by omega, rfl, rfl⟩⟩, rfl, Nat.lt_succ_self _, fun s => ?_⟩
        rw [show [f.length % 128 + 128, f.length / 128] ++ (f ++ rest) =
            (f.length % 128 + 128) :: (f.length / 128) :: (f ++ rest) from rfl,
          pollNext_len_step _ _ _ _ _ _ _ _ (by omega) hch]
        simp only [show ¬ (f.length % 128 + 128 < 128) by omega, if_false, List.set_cons_zero,
          show ¬ (0 + 1 = 2) by omega]
    · exact pollNext_len_done f rest _ 1 _ [] eof ch (by omega) hch (by omega) (u16_two _ hn hf)
  | readData len pos =>
    simp only [Mid] at h
    obtain ⟨rfl, hrbl, hpos, htake, hdata⟩ := h
    have hfd : (f.drop pos).length = f.length - pos := List.length_drop
    obtain ⟨n, hn1, hncap, hnlen, hpr⟩ := pollRead_ready ⟨data, eof⟩ (rb.length - pos) ch (by omega)
      (by intro h0; rw [h0] at hposd; exact Nat.not_lt_zero _ hposd) hch
    dsimp only at hposd hnlen hpr
    have htk : data.take n = (f.drop pos).take n := by
      rw [hdata, List.take_append_of_le_length (by omega)]
    have hdr : data.drop n = f.drop (pos + n) ++ rest := by
      rw [hdata, List.drop_append_of_le_length (by omega), List.drop_drop]
    obtain ⟨hwa, hwl⟩ := writeAt_take rb f pos n hrbl htake (by omega)
    rw [← htk] at hwa hwl
    have hlt : (data.take n).length = n := by rw [List.length_take]; omega
    cases hx : data.take n with
    | nil => rw [hx, List.length_nil] at hlt; omega
    | cons b bs =>
      rw [hx] at hwa hwl hlt hpr
      have hstep := fun s => pollNext_data_step f.length pos rb b bs ⟨data, eof⟩ _ ch s hpr
      rw [hlt] at hstep
      by_cases hfin : pos + n = f.length
      · right
        refine ⟨hposd, fun s => ?_⟩
        rw [hfin, List.take_of_length_le (by omega), List.take_of_length_le (by omega)] at hwa
        rw [hstep s, if_pos hfin, hwa, hdr, hfin, List.drop_length]
        rfl
      · left
        refine ⟨⟨.readData f.length (pos + n), writeAt rb pos (b :: bs)⟩, ⟨data.drop n, eof⟩,
          ⟨rfl, hwl, by omega, hwa, hdr⟩, rfl, ?_, fun s => by rw [hstep s, if_neg hfin]⟩
        show (data.drop n).length < data.length
        rw [List.length_drop]
        omega

/-- Number of non-`Pending` choices in a schedule. -/
def nz (s : List Nat) : Nat := (s.filter (· ≠ 0)).length

theorem nz_cons_zero (s : List Nat) : nz (0 :: s) = nz s := by simp [nz]

theorem nz_cons_pos (ch : Nat) (s : List Nat) (h : ch ≠ 0) : nz (ch :: s) = nz s + 1 := by simp [nz, h]

/-- The measure: the non-`Pending` inner reads made are at most the bytes that left the carrier; the poll uses at least
one choice of a non-empty schedule and never creates choices. -/
theorem pollNext_mid (f rest : Bytes) (hf : f.length < 16384) :
    ∀ (sched : List Nat) (r : Reader) (c : RCarrier), Mid f rest r c →
      ∀ {r' c' s' res}, pollNext r c sched = (r', c', s', res) →
      (nz sched + c'.data.length ≤ nz s' + c.data.length ∧ s'.length ≤ sched.length ∧
        (sched ≠ [] → s'.length < sched.length)) ∧
      ((res = .pending ∧ Mid f rest r' c' ∧ c'.eof = c.eof) ∨
        (res = .frame f ∧ r' = Reader.fresh ∧ c' = ⟨rest, c.eof⟩)) := by
  intro sched
  induction sched with
  | nil =>
    intro r c h r' c' s' res he
    cases he
    exact ⟨⟨Nat.le_refl _, Nat.le_refl _, fun h0 => absurd rfl h0⟩, Or.inl ⟨rfl, h, rfl⟩⟩
  | cons ch s ih =>
    intro r c h r' c' s' res he
    by_cases hch : ch = 0
    · subst hch
      rw [pollNext_mid_zero f rest r c h s] at he
      cases he
      rw [nz_cons_zero]
      exact ⟨⟨Nat.le_refl _, Nat.le_succ _, fun _ => Nat.lt_succ_self _⟩, Or.inl ⟨rfl, h, rfl⟩⟩
    · rw [nz_cons_pos ch s hch, List.length_cons]
      rcases pollNext_mid_step f rest hf r c h ch hch with ⟨r1, c1, hm, he1, hlt, heq⟩ | ⟨hlt, heq⟩
      · rw [heq s] at he
        obtain ⟨⟨h1, h2, _⟩, hd⟩ := ih r1 c1 hm he
        rw [← he1]
        exact ⟨⟨by omega, by omega, fun _ => by omega⟩, hd⟩
      · rw [heq s] at he
        cases he
        exact ⟨⟨by show _ + rest.length ≤ _; omega, Nat.le_succ _, fun _ => Nat.lt_succ_self _⟩, Or.inr ⟨rfl, rfl, rfl⟩⟩

/-- The frames `fs`, then `rest`, are still to come: the reader is inside the first of them, or, with none left, fresh on
a carrier holding exactly `rest`. -/
def Ahead (rest : Bytes) : List Bytes → Reader → RCarrier → Prop
  | [], r, c => r = Reader.fresh ∧ c.data = rest
  | f :: fs, r, c => Mid f (wire fs ++ rest) r c

theorem ahead_fresh (rest : Bytes) (fs : List Bytes) (eof : Bool) :
    Ahead rest fs Reader.fresh ⟨wire fs ++ rest, eof⟩ := by
  cases fs with
  | nil => exact ⟨rfl, rfl⟩
  | cons f fs =>
    rw [Ahead, wire_cons, List.append_assoc]
    exact mid_fresh _ _ _

theorem readN_mid_step (rest : Bytes) (fuel : Nat) (f : Bytes) (fs : List Bytes) (hf : f.length < 16384)
    (r : Reader) (c : RCarrier) (hmid : Mid f (wire fs ++ rest) r c) (sched : List Nat) (hs : sched ≠ []) :
    ∃ r' c' s', nz sched + c'.data.length ≤ nz s' + c.data.length ∧ s'.length < sched.length ∧ c'.eof = c.eof ∧
      ((Mid f (wire fs ++ rest) r' c' ∧
          readN (fs.length + 1) (fuel + 1) r c sched = readN (fs.length + 1) fuel r' c' s') ∨
       (Ahead rest fs r' c' ∧
          readN (fs.length + 1) (fuel + 1) r c sched =
            (.frame f :: (readN fs.length fuel r' c' s').1, (readN fs.length fuel r' c' s').2))) := by
  rw [readN]
  simp only [hs, if_false]
  generalize hp : pollNext r c sched = p
  obtain ⟨r1, c1, s1, res⟩ := p
  obtain ⟨⟨hb1, _, hb3⟩, hstep⟩ := pollNext_mid f (wire fs ++ rest) hf sched r c hmid hp
  have hb3 := hb3 hs
  rcases hstep with ⟨rfl, hm, he⟩ | ⟨rfl, rfl, rfl⟩
  · exact ⟨r1, c1, s1, hb1, hb3, he, Or.inl ⟨hm, rfl⟩⟩
  · exact ⟨_, _, s1, hb1, hb3, rfl, Or.inr ⟨ahead_fresh rest fs c.eof, rfl⟩⟩

/-- Safety and progress in one induction (on `fs`, inside it on `fuel`): under every schedule `readN` returns a prefix of
`fs`, and all of `fs` once the fuel covers the schedule and the schedule holds a non-`Pending` choice for every byte of
them still in the carrier. -/
theorem readN_ahead (rest : Bytes) :
    ∀ (fs : List Bytes) (fuel : Nat) (r : Reader) (c : RCarrier) (sched : List Nat),
      (∀ g ∈ fs, g.length < 16384) → Ahead rest fs r c →
      ∃ k, k ≤ fs.length ∧
        (readN fs.length fuel r c sched).1 = (fs.take k).map PollNext.frame ∧
        (k = fs.length →
          (readN fs.length fuel r c sched).2.1 = Reader.fresh ∧
          (readN fs.length fuel r c sched).2.2.1 = ⟨rest, c.eof⟩) ∧
        (sched.length ≤ fuel → c.data.length ≤ nz sched + rest.length → k = fs.length) := by
  intro fs
  induction fs with
  | nil =>
    rintro fuel r ⟨data, eof⟩ sched _ ⟨rfl, rfl⟩
    exact ⟨0, Nat.le_refl _, by simp [readN], fun _ => by simp [readN], fun _ _ => rfl⟩
  | cons f fs ihfs =>
    -- inside `f` a byte of it is in flight, so a schedule that covers the bytes is not exhausted
    have hne : ∀ r c sched, Mid f (wire fs ++ rest) r c → c.data.length ≤ nz sched + rest.length → sched ≠ [] := by
      intro r c sched hmid hnz hs
      have := mid_data_pos _ _ _ _ hmid
      simp [hs, nz] at hnz this
      omega
    intro fuel
    induction fuel with
    | zero =>
      intro r c sched _ h
      exact ⟨0, by simp, by simp [readN], by simp, fun hfuel hnz =>
        absurd (List.eq_nil_of_length_eq_zero (by omega)) (hne r c sched h hnz)⟩
    | succ fuel ih =>
      intro r c sched hlen h
      by_cases hs : sched = []
      · exact ⟨0, by simp, by simp [readN, hs], by simp, fun _ hnz => absurd hs (hne r c sched h hnz)⟩
      · obtain ⟨r', c', s', hb1, hb3, he, ⟨hm, heq⟩ | ⟨ha, heq⟩⟩ :=
          readN_mid_step rest fuel f fs (hlen f (by simp)) r c h sched hs
        · rw [List.length_cons, heq, ← he]
          obtain ⟨k, hk, hout, hfin, hall⟩ := ih r' c' s' hlen hm
          exact ⟨k, hk, hout, hfin, fun _ _ => hall (by omega) (by omega)⟩
        · rw [List.length_cons, heq, ← he]
          obtain ⟨k, hk, hout, hfin, hall⟩ :=
            ihfs fuel r' c' s' (fun g hg => hlen g (List.mem_cons_of_mem _ hg)) ha
          exact ⟨k + 1, by omega, by simp [hout], fun hk' => hfin (by omega),
            fun _ _ => by have := hall (by omega) (by omega); omega⟩

/-- `poll_write_buffer` never loses, duplicates or reorders a byte, whatever the chunking; when it
reports `Ready` the write buffer is empty (so `into_inner`'s assertion holds after a flush). -/
theorem pollWriteBuffer_exact :
    ∀ (sched : List Nat) (w : Writer) (out : Bytes),
      (pollWriteBuffer w out sched).2.1 ++ (pollWriteBuffer w out sched).1.writeBuffer = out ++ w.writeBuffer ∧
      ((pollWriteBuffer w out sched).2.2.2 = .ready → (pollWriteBuffer w out sched).1.writeBuffer = []) := by
  intro sched
  induction sched with
  | nil =>
    intro w out
    by_cases h : w.writeBuffer = [] <;> simp [pollWriteBuffer, h]
  | cons ch s ih =>
    intro w out
    by_cases h : w.writeBuffer = []
    · simp [pollWriteBuffer, h]
    · by_cases hch : ch = 0
      · simp [pollWriteBuffer, h, hch]
      · rw [pollWriteBuffer]
        simp only [h, hch, if_false]
        have := ih ⟨w.writeBuffer.drop (min ch w.writeBuffer.length)⟩ (out ++ w.writeBuffer.take (min ch w.writeBuffer.length))
        refine ⟨?_, this.2⟩
        rw [this.1, List.append_assoc, List.take_append_drop]

end Litep2pVerif.Mss
