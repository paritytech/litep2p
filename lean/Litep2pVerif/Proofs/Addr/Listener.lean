import Litep2pVerif.Model.Addr.Listener
/-!
Helper lemmas about the listener model (`Model/Addr/Listener.lean`) for `Props/C10.lean`.
-/
namespace Litep2pVerif.Addr

theorem tcpParse_socketToMultiaddr (s : SockAddr) :
    tcpParse (socketToMultiaddr s) = .ok ⟨s.ip.host, s.port, none⟩ := by
  cases s with
  | mk ip port => cases ip <;> rfl

theorem bindTarget_socketToMultiaddr (s : SockAddr) : bindTarget (socketToMultiaddr s) = some s := by
  cases s with
  | mk ip port => cases ip <;> rfl

theorem parsePeer_ok {host : Host} {port : Nat} {rest : Multiaddr} {prs : Parsed}
    (h : parsePeer host port rest = .ok prs) : prs.host = host ∧ prs.port = port := by
  unfold parsePeer at h
  split at h <;> cases h <;> exact ⟨rfl, rfl⟩

theorem tcpParse_ok {a : Multiaddr} {prs : Parsed} (h : tcpParse a = .ok prs) :
    ∃ rest, a = prs.host.comp :: .tcp prs.port :: rest := by
  unfold tcpParse at h
  split at h
  case h_6 => cases h
  all_goals
    obtain ⟨h1, h2⟩ := parsePeer_ok h
    exact ⟨_, by rw [h1, h2]; rfl⟩

theorem bindTarget_shape {a : Multiaddr} {t : SockAddr} (h : bindTarget a = some t) :
    ∃ rest, a = t.ip.comp :: .tcp t.port :: rest := by
  unfold bindTarget at h
  split at h
  · rename_i hp
    cases h
    exact tcpParse_ok hp
  · rename_i hp
    cases h
    exact tcpParse_ok hp
  · cases h

/-- litep2p's "dns not supported as bind address". -/
theorem bindTarget_not_ip (c : Comp) (rest : Multiaddr) (h4 : ∀ i, c ≠ .ip4 i) (h6 : ∀ i, c ≠ .ip6 i) :
    bindTarget (c :: rest) = none := by
  cases hb : bindTarget (c :: rest) with
  | none => rfl
  | some t =>
    obtain ⟨_, he⟩ := bindTarget_shape hb
    obtain ⟨ip, _⟩ := t
    cases ip
    · exact absurd (List.cons.inj he).1 (h4 _)
    · exact absurd (List.cons.inj he).1 (h6 _)

theorem bindAll_skip {ifaces : Option (List IpAddr)} {os : List (Option Nat)} {a : Multiaddr}
    (h : bindTarget a = none) (more : List Multiaddr) : bindAll ifaces os (a :: more) = bindAll ifaces os more := by
  rw [bindAll, h]

def Bound.Wf (ifaces : Option (List IpAddr)) (b : Bound) : Prop :=
  ∀ s ∈ b.reported, s.port = b.sock.port ∧
    ((b.sock.ip.isUnspecified = false ∧ s.ip = b.sock.ip) ∨
      (b.sock.ip.isUnspecified = true ∧ s.ip.isV4 = b.sock.ip.isV4 ∧ ∃ l, ifaces = some l ∧ s.ip ∈ l))

theorem expandOne_spec {t4 : Bool} {p : Nat} {i : IpAddr} {s : SockAddr} (h : expandOne t4 p i = some s) :
    s.port = p ∧ s.ip = i ∧ i.isV4 = t4 := by
  cases i with
  | v4 a =>
    cases t4 <;> simp [expandOne] at h
    subst h; exact ⟨rfl, rfl, rfl⟩
  | v6 a =>
    cases t4 <;> simp [expandOne] at h
    obtain ⟨_, h⟩ := h
    subst h; exact ⟨rfl, rfl, rfl⟩

theorem bindAll_cons (ifaces : Option (List IpAddr)) (os : List (Option Nat)) (a : Multiaddr)
    (rest : List Multiaddr) :
    ∃ os', bindAll ifaces os (a :: rest) = bindAll ifaces os' rest ∨
      ∃ b, bindAll ifaces os (a :: rest) = b :: bindAll ifaces os' rest ∧ b.Wf ifaces ∧
        ∃ t, bindTarget a = some t ∧ b.sock.ip = t.ip := by
  rw [bindAll]
  split
  · exact ⟨_, Or.inl rfl⟩
  · rename_i t ht
    split
    · exact ⟨_, Or.inl rfl⟩
    · exact ⟨_, Or.inl rfl⟩
    · rename_i p os'
      split
      · rename_i hun
        split
        · exact ⟨_, Or.inl rfl⟩
        · rename_i l
          refine ⟨os', Or.inr ⟨_, rfl, fun s hs => ?_, t, ht, rfl⟩⟩
          obtain ⟨i, hi, hsi⟩ := List.mem_filterMap.mp hs
          obtain ⟨h1, rfl, h3⟩ := expandOne_spec hsi
          exact ⟨h1, Or.inr ⟨hun, h3, l, rfl, hi⟩⟩
      · rename_i hun
        refine ⟨os', Or.inr ⟨_, rfl, fun s hs => ?_, t, ht, rfl⟩⟩
        rw [List.mem_singleton.1 hs]
        exact ⟨rfl, Or.inl ⟨by simpa using hun, rfl⟩⟩

theorem bindAll_spec (ifaces : Option (List IpAddr)) (addrs : List Multiaddr) :
    ∀ (os : List (Option Nat)) (b : Bound), b ∈ bindAll ifaces os addrs →
      b.Wf ifaces ∧ ∃ a ∈ addrs, ∃ t, bindTarget a = some t ∧ b.sock.ip = t.ip := by
  induction addrs with
  | nil => exact nofun
  | cons a rest ih =>
    intro os b h
    have lift : ∀ os', b ∈ bindAll ifaces os' rest →
        b.Wf ifaces ∧ ∃ a' ∈ a :: rest, ∃ t, bindTarget a' = some t ∧ b.sock.ip = t.ip := fun os' h' =>
      have ⟨w, a', ha', t⟩ := ih os' b h'
      ⟨w, a', List.mem_cons_of_mem _ ha', t⟩
    obtain ⟨os', e | ⟨b', e, hw, ht⟩⟩ := bindAll_cons ifaces os a rest <;> rw [e] at h
    · exact lift os' h
    · rcases List.mem_cons.1 h with rfl | h
      · exact ⟨hw, a, List.mem_cons_self, ht⟩
      · exact lift os' h

theorem bindAll_length (ifaces : Option (List IpAddr)) (addrs : List Multiaddr) :
    ∀ os : List (Option Nat), (bindAll ifaces os addrs).length ≤ addrs.length := by
  induction addrs with
  | nil => exact fun os => Nat.le_refl _
  | cons a rest ih =>
    intro os
    obtain ⟨os', e | ⟨_, e, _⟩⟩ := bindAll_cons ifaces os a rest <;> rw [e]
    · exact Nat.le_succ_of_le (ih _)
    · exact Nat.succ_le_succ (ih _)

theorem mem_reportedAddrs {bs : List Bound} {m : Multiaddr} (h : m ∈ reportedAddrs bs) :
    ∃ b ∈ bs, ∃ s ∈ b.reported, m = socketToMultiaddr s := by
  unfold reportedAddrs reportedSockets at h
  obtain ⟨s, hs, rfl⟩ := List.mem_map.mp h
  obtain ⟨b, hb, hsb⟩ := List.mem_flatMap.mp hs
  exact ⟨b, hb, s, hsb, rfl⟩

theorem supported_reported (s : SockAddr) (q : Nat) (h : s.ip.isUnspecified = false) :
    supportedTransport true (withP2p (socketToMultiaddr s) q) = true := by
  obtain ⟨ip, port⟩ := s
  cases ip <;> simp_all [IpAddr.isUnspecified, socketToMultiaddr, withP2p, IpAddr.comp, supportedTransport]

/-- `is_local_address` strips the peer id: a reported address is compared as it was reported. -/
theorem takeWhile_reported (s : SockAddr) :
    (socketToMultiaddr s).takeWhile (fun c => !c.isP2p) = socketToMultiaddr s ∧
    ∀ q, (withP2p (socketToMultiaddr s) q).takeWhile (fun c => !c.isP2p) = socketToMultiaddr s := by
  obtain ⟨ip, port⟩ := s
  cases ip <;> exact ⟨rfl, fun _ => rfl⟩

theorem isLocalAddress_of_mem {listen : List Multiaddr} {a : Multiaddr}
    (h : a.takeWhile (fun c => !c.isP2p) ∈ listen) : isLocalAddress listen a = true := by
  simp [isLocalAddress, h]

theorem registerListen_some {localPeer : Nat} {listen listen' : List Multiaddr} {a : Multiaddr}
    (h : registerListen localPeer listen a = some listen') : listen' = listen ++ [a, withP2p a localPeer] := by
  unfold registerListen at h
  split at h <;> cases h
  rfl

theorem localDial_some {l : List SockAddr} {remote : IpAddr} {s : SockAddr}
    (h : localDial (.reuse l) remote = .ok (some s)) :
    s.ip.isUnspecified = true ∧ s.ip.isV4 = remote.isV4 ∧
      ∃ a ∈ l, a.port = s.port ∧ a.ip.isV4 = remote.isV4 ∧ a.ip.isLoopback = remote.isLoopback := by
  simp only [localDial] at h
  split at h <;> cases h
  rename_i a ha
  have hp := List.find?_some ha
  simp only [dialCandidate, Bool.and_eq_true, beq_iff_eq] at hp
  refine ⟨?_, ?_, a, List.mem_of_find?_eq_some ha, rfl, hp.1.symm, hp.2.symm⟩ <;> cases remote.isV4 <;> rfl

theorem localDial_error {l : List SockAddr} {remote : IpAddr} :
    localDial (.reuse l) remote = .error () ↔ ∀ a ∈ l, dialCandidate remote a = false := by
  simp only [localDial]
  split
  · rename_i a ha
    refine ⟨nofun, fun h => ?_⟩
    have hp := List.find?_some ha
    rw [h a (List.mem_of_find?_eq_some ha)] at hp
    cases hp
  · rename_i hn
    exact ⟨fun _ a ha => by simpa using List.find?_eq_none.mp hn a ha, fun _ => rfl⟩

/-- What an `Ok` of `lookup_ip` guarantees, per kind of host. -/
def LookupOk (h : Host) (answer : Option (List IpAddr)) (s : SockAddr) : Prop :=
  match h with
  | .ip4 i => s.ip = .v4 i
  | .ip6 i => s.ip = .v6 i
  | .dns _ => ∃ l, answer = some l ∧ s.ip ∈ l
  | .dns4 _ => ∃ l, answer = some l ∧ s.ip ∈ l ∧ s.ip.isV4 = true
  | .dns6 _ => ∃ l, answer = some l ∧ s.ip ∈ l ∧ s.ip.isV4 = false

theorem lastP2p_withP2p (a : Multiaddr) (p : Nat) : lastP2p (withP2p a p) = some p := by
  simp [lastP2p, withP2p]

theorem ensureLocalPeer_ok {lp : Nat} {a a' : Multiaddr} (h : ensureLocalPeer lp a = .ok a') :
    lastP2p a' = some lp := by
  unfold ensureLocalPeer at h
  split at h
  · cases h
  · split at h
    · rename_i q hq
      split at h <;> cases h
      rename_i hq'
      exact hq' ▸ hq
    · cases h
      exact lastP2p_withP2p a lp

theorem ensureLocalPeer_other {lp q : Nat} {a : Multiaddr} (hq : lastP2p a = some q) (hne : q ≠ lp) :
    ensureLocalPeer lp a = .error .differentPeer := by
  cases a with
  | nil => cases hq
  | cons c cs => simp [ensureLocalPeer, hq, hne]

theorem publicAdd_inv {lp : Nat} {set : List Multiaddr} (a : Multiaddr)
    (h : ∀ x ∈ set, lastP2p x = some lp) : ∀ x ∈ (publicAdd lp set a).1, lastP2p x = some lp := by
  unfold publicAdd
  split
  · exact h
  · rename_i a' ha'
    split
    · exact h
    · intro x hx
      rcases List.mem_append.mp hx with hx | hx
      · exact h x hx
      · rw [List.mem_singleton.1 hx]
        exact ensureLocalPeer_ok ha'

theorem publicRemove_inv {lp : Nat} {set : List Multiaddr} (a : Multiaddr)
    (h : ∀ x ∈ set, lastP2p x = some lp) : ∀ x ∈ (publicRemove set a).1, lastP2p x = some lp :=
  fun x hx => h x (List.mem_filter.mp hx).1

theorem handleDialGuard_self {m : Mgr} {peer : Nat} (h : peer = m.localPeer) : m.handleDialGuard peer = .self :=
  if_pos h

theorem handleDialGuard_queued {m : Mgr} {peer : Nat} (h : m.handleDialGuard peer = .queued) :
    peer ≠ m.localPeer ∧ ∃ c, lookupCtx peer m.peers = some c ∧ c.st = .disconnected ∧ c.store.recs ≠ [] := by
  unfold Mgr.handleDialGuard at h
  split at h
  · cases h
  · rename_i hne
    split at h
    · cases h
    · rename_i c hc
      split at h
      · cases h
      · cases h
      · rename_i hst
        split at h <;> cases h
        rename_i hrec
        exact ⟨hne, c, hc, hst, fun h0 => hrec (h0 ▸ rfl)⟩

theorem handleDial_queued {m : Mgr} {peer : Nat} (h : m.handleDialGuard peer = .queued) :
    m.handleDial peer = ((m.dial peer).1, .queued, some (m.dial peer).2) := by
  rw [Mgr.handleDial, h]

theorem handleDial_refused {m : Mgr} {peer : Nat} (h : m.handleDialGuard peer ≠ .queued) :
    m.handleDial peer = (m, m.handleDialGuard peer, none) := by
  unfold Mgr.handleDial
  split
  · contradiction
  · rfl

end Litep2pVerif.Addr
