import Litep2pVerif.Model.Addr.Open
/-! Lemmas about `TcpTransport::open`'s attempt order (`Model/Addr/Open.lean`). -/
namespace Litep2pVerif.Addr.Open

variable {α : Type}

/-- What `open` keeps with `n` dial slots: the attempts started so far followed by the addresses not yet pulled are the
list it was given; with one slot, what has finished followed by what is in flight is what has been started. -/
structure Inv (n : Nat) (addrs : List α) (s : St α) : Prop where
  order : s.started ++ s.pending = addrs
  seq : n = 1 → s.finished ++ s.inflight = s.started ∧ s.inflight.length ≤ 1

theorem fillGo_inv (n : Nat) (addrs p : List α) (s : St α) (h : s.started ++ p = addrs)
    (hs : n = 1 → s.finished ++ s.inflight = s.started ∧ s.inflight.length ≤ 1) : Inv n addrs (fillGo n p s) := by
  induction p generalizing s with
  | nil => exact ⟨by simpa [fillGo] using h, hs⟩
  | cons a rest ih =>
    unfold fillGo
    split
    · rename_i hlt
      refine ih _ (by simpa using h) ?_
      rintro rfl
      -- a free slot out of one: nothing is in flight, all that was started has finished
      have h0 : s.inflight = [] := List.eq_nil_of_length_eq_zero (Nat.lt_one_iff.1 hlt)
      have h1 := (hs rfl).1
      rw [h0, List.append_nil] at h1
      exact ⟨by simp [h0, h1], by simp [h0]⟩
    · exact ⟨h, hs⟩

theorem complete_inv (n k : Nat) (addrs : List α) (s : St α) (h : Inv n addrs s) : Inv n addrs (complete k s) := by
  unfold complete
  split
  · rename_i a ha
    refine ⟨h.order, ?_⟩
    rintro rfl
    obtain ⟨h1, h2⟩ := h.seq rfl
    -- at most one attempt is in flight, so it is the one that finishes
    match hi : s.inflight, h2 with
    | [], _ => simp [hi] at ha
    | [x], _ =>
      simp only [hi, List.length_singleton, Nat.mod_one, List.getElem?_cons_zero, Option.some.injEq] at ha
      subst ha
      rw [hi] at h1
      exact ⟨by simpa [Nat.mod_one] using h1, by simp [Nat.mod_one]⟩
  · exact h

theorem run_inv (n : Nat) (sched : List Nat) (addrs : List α) : Inv n addrs (run n sched addrs) := by
  unfold run
  have h1 : Inv n addrs (fill n { pending := addrs }) :=
    fillGo_inv n addrs _ _ (List.nil_append _) fun _ => ⟨rfl, Nat.zero_le _⟩
  generalize fill n ({ pending := addrs } : St α) = s0 at h1
  induction sched generalizing s0 with
  | nil => exact h1
  | cons k ks ih =>
    have h2 := complete_inv n k addrs s0 h1
    exact ih _ (fillGo_inv n addrs _ _ h2.order h2.seq)

end Litep2pVerif.Addr.Open
