import Litep2pVerif.Proofs.Addr.Filter
/-!
Specification vocabulary (`Admissible`, `Reach`) and the invariant proof behind
`Props.C10.remembered_only_if`.
-/
namespace Litep2pVerif.Addr

/-- What the property demands of an address remembered for `peer`. -/
def Admissible (tcp : Bool) (listen : List Multiaddr) (peer : Nat) (a : Multiaddr) : Prop :=
  supportedTransport tcp a = true ∧ isLocalAddress listen a = false ∧ lastP2p a = some peer ∧
  ∃ host port, tcpParse a = .ok ⟨host, port, some peer⟩

/-- Addresses handed to the transport by a `dial`. -/
def handedOf : DialOut → List Multiaddr
  | .started _ (some as) => as
  | _ => []

theorem mem_handedOf {a : Multiaddr} {d : DialOut} (h : a ∈ handedOf d) :
    ∃ conn as, d = .started conn (some as) ∧ a ∈ as := by
  unfold handedOf at h
  split at h
  · exact ⟨_, _, rfl, h⟩
  · cases h

/-- Histories of the manager in which addresses are learned through `add_known_address` and
re-scored by the results of dials (`H` = every address handed to the transport so far). The TCP
transport reports failures with the dialed address and successes with `ip|dns + tcp` of it.
`shuffle` = the hash map changes its iteration order. The listen set and the enabled transports
are those of the initial state. -/
inductive Reach (m0 : Mgr) : Mgr → List Multiaddr → Prop
  | init : Reach m0 m0 []
  | shuffle {m H} (peer : Nat) (π : List Rec) : Reach m0 m H → π.Perm (m.ctx peer).store.recs →
      Reach m0 (m.modify peer (fun c => { c with store := { c.store with recs := π } })) H
  | addKnown {m H} (peer : Nat) (as order : List Multiaddr) : Reach m0 m H →
      order.Perm (admitted m.tcp m.listen peer as) → Reach m0 (m.addKnownOrdered peer order) H
  | learn {m H} (peer : Nat) (as : List Multiaddr) (a : Multiaddr) : Reach m0 m H →
      a ∈ admitted m.tcp m.listen peer as → Reach m0 (m.rawInsert peer ⟨a, 0⟩) H
  | dial {m H} (peer : Nat) : Reach m0 m H → Reach m0 (m.dial peer).1 (H ++ handedOf (m.dial peer).2)
  | dialFailure {m H} (a : Multiaddr) (addressError : Bool) : Reach m0 m H → a ∈ H →
      Reach m0 (m.updateOnDialFailure a addressError) H
  | established {m H} (a : Multiaddr) (prs : Parsed) (peer : Nat) (listener : Bool) : Reach m0 m H → a ∈ H →
      tcpParse a = .ok prs → prs.peer = some peer →
      Reach m0 (m.updateOnEstablished peer (endpointAddr prs) listener) H
  | opened {m H} (conn : Nat) (a : Multiaddr) (prs : Parsed) : Reach m0 m H → a ∈ H →
      tcpParse a = .ok prs → lookupPending conn m.pending = prs.peer →
      Reach m0 (m.onConnectionOpened conn (endpointAddr prs)).1 H
  | openFailure {m H} (conn : Nat) : Reach m0 m H → Reach m0 (m.onOpenFailure conn).1 H
  | dialFailed {m H} (conn : Nat) : Reach m0 m H → Reach m0 (m.onDialFailure conn).1 H
  | occupy {m H} : Reach m0 m H → Reach m0 m.occupy H

/-- What `add_known_address` keeps is the offered address itself: the "append the peer id" branch exists in the code
but is never taken, `supported_transport` already demands a trailing `/p2p`. -/
theorem admit_sound {tcp : Bool} {listen : List Multiaddr} {peer : Nat} {a a' : Multiaddr}
    (h : admitOne tcp listen peer a = some a') : a' = a ∧ Admissible tcp listen peer a := by
  unfold admitOne at h
  split at h
  · cases h
  · rename_i hs
    split at h
    · cases h
    · rename_i hl
      have hs' : supportedTransport tcp a = true := by simpa using hs
      obtain ⟨host, port, q, rfl, _⟩ := supported_shape hs'
      simp only [List.getLast?_cons_cons, List.getLast?_singleton] at h
      split at h
      · rename_i heq
        cases h
        exact ⟨rfl, hs', by simpa using hl, heq ▸ rfl, host, port, heq ▸ tcpParse_shape host port q⟩
      · cases h

theorem mem_dedup {a : Multiaddr} : ∀ {l : List Multiaddr}, a ∈ dedup l → a ∈ l
  | x :: xs, h => by
    rcases List.mem_cons.1 h with rfl | h
    · exact List.mem_cons_self
    · exact List.mem_cons_of_mem _ (mem_dedup (List.mem_filter.1 h).1)

theorem admitted_sound {tcp : Bool} {listen : List Multiaddr} {peer : Nat} {as : List Multiaddr} {a : Multiaddr}
    (h : a ∈ admitted tcp listen peer as) : a ∈ as ∧ Admissible tcp listen peer a := by
  obtain ⟨x, hx, hadm⟩ := List.mem_filterMap.1 (mem_dedup h)
  obtain ⟨rfl, hA⟩ := admit_sound hadm
  exact ⟨hx, hA⟩

/-- A handed address that parses to `prs`: the parser finds the peer it is remembered for, and the record the success
paths insert (`AddressRecord::new(peer, endpoint address, score)`) is for that very address. -/
theorem endpoint_roundtrip {tcp : Bool} {listen : List Multiaddr} {p : Nat} {a : Multiaddr}
    (hA : Admissible tcp listen p a) {prs : Parsed} (hp : tcpParse a = .ok prs) :
    prs.peer = some p ∧ ∀ score, Rec.new p (endpointAddr prs) score = ⟨a, score⟩ := by
  obtain ⟨hs, _, hl, _⟩ := hA
  obtain ⟨host, port, q, rfl, _⟩ := supported_shape hs
  rw [tcpParse_shape] at hp
  cases hp
  cases hl
  exact ⟨rfl, fun _ => rfl⟩

structure RInv (m0 m : Mgr) (H : List Multiaddr) : Prop where
  tcp : m.tcp = m0.tcp
  listen : m.listen = m0.listen
  stores : ∀ p c, (p, c) ∈ m.peers → ∀ r ∈ c.store.recs, Admissible m0.tcp m0.listen p r.addr
  handed : ∀ a ∈ H, ∃ p, Admissible m0.tcp m0.listen p a

namespace RInv
variable {m0 m : Mgr} {H : List Multiaddr}

theorem ctx (hi : RInv m0 m H) (p : Nat) : ∀ r ∈ (m.ctx p).store.recs, Admissible m0.tcp m0.listen p r.addr := by
  unfold Mgr.ctx
  cases hl : lookupCtx p m.peers with
  | none => exact nofun
  | some c => exact hi.stores p c (lookupCtx_mem hl)

theorem congr (hi : RInv m0 m H) {m' : Mgr} (ht : m'.tcp = m.tcp) (hl : m'.listen = m.listen)
    (hp : m'.peers = m.peers) : RInv m0 m' H :=
  ⟨ht ▸ hi.tcp, hl ▸ hi.listen, hp ▸ hi.stores, hi.handed⟩

/-- Every step of the manager writes at most one context; the invariant survives if the store
written holds admissible addresses only. -/
theorem setCtx (hi : RInv m0 m H) {m' : Mgr} (p : Nat) (c : Ctx) (ht : m'.tcp = m.tcp) (hl : m'.listen = m.listen)
    (hp : m'.peers = Addr.setCtx p c m.peers) (hc : ∀ r ∈ c.store.recs, Admissible m0.tcp m0.listen p r.addr) :
    RInv m0 m' H := by
  refine ⟨ht ▸ hi.tcp, hl ▸ hi.listen, fun q c' hm => ?_, hi.handed⟩
  rcases mem_setCtx (hp ▸ hm) with ⟨rfl, rfl⟩ | hm
  · exact hc
  · exact hi.stores q c' hm

end RInv

theorem reach_inv {m0 m : Mgr} {H : List Multiaddr} (h0 : m0.peers = []) (h : Reach m0 m H) : RInv m0 m H := by
  induction h with
  | init => exact ⟨rfl, rfl, by simp [h0], by simp⟩
  | shuffle peer π _ hperm ih =>
    exact ih.setCtx peer _ rfl rfl rfl fun r hr => ih.ctx peer r (hperm.mem_iff.1 hr)
  | addKnown peer as order _ hperm ih =>
    refine ih.setCtx peer _ rfl rfl rfl (extend_adm _ (ih.ctx peer) fun r hr => ?_)
    obtain ⟨a, ha, hfa⟩ := List.mem_filterMap.1 hr
    rw [fromMultiaddr_eq hfa, ← ih.tcp, ← ih.listen]
    exact (admitted_sound (hperm.mem_iff.1 ha)).2
  | learn peer as a _ hmem ih =>
    refine ih.setCtx peer _ rfl rfl rfl (insert_adm (ih.ctx peer) ?_)
    rw [← ih.tcp, ← ih.listen]
    exact (admitted_sound hmem).2
  | @dial m H peer _ ih =>
    obtain ⟨ht, hl, hp, hh⟩ := dial_spec m peer
    have hm : RInv m0 (m.dial peer).1 H := by
      rcases hp with hp | ⟨st, hp⟩
      · exact ih.congr ht hl hp
      · exact ih.setCtx peer _ ht hl hp (ih.ctx peer)
    refine ⟨hm.tcp, hm.listen, hm.stores, fun a ha => ?_⟩
    rcases List.mem_append.1 ha with ha | ha
    · exact ih.handed a ha
    · obtain ⟨conn, as, hd, hmem⟩ := mem_handedOf ha
      obtain ⟨lim, _, rfl⟩ := hh conn as hd
      obtain ⟨r, hr, rfl⟩ := addresses_subset _ _ a hmem
      exact ⟨peer, ih.ctx peer r hr⟩
  | dialFailure a ae _ hmem ih =>
    obtain ⟨p, hA⟩ := ih.handed a hmem
    rw [updateOnDialFailure_eq hA.2.2.1]
    exact ih.setCtx p _ rfl rfl rfl (insert_adm (ih.ctx p) hA)
  | @established m H a prs peer listener _ hmem hp hpeer ih =>
    obtain ⟨p, hA⟩ := ih.handed a hmem
    unfold Mgr.updateOnEstablished
    split
    · exact ih
    · obtain ⟨hq, hrec⟩ := endpoint_roundtrip hA hp
      obtain rfl := Option.some.inj (hpeer.symm.trans hq)
      exact ih.setCtx peer _ rfl rfl rfl (insert_adm (ih.ctx peer) (by rw [hrec]; exact hA))
  | @opened m H conn a prs _ hmem hp hpend ih =>
    obtain ⟨p, hA⟩ := ih.handed a hmem
    unfold Mgr.onConnectionOpened
    split
    · exact ih
    · rename_i peer hlk
      obtain ⟨hq, hrec⟩ := endpoint_roundtrip hA hp
      obtain rfl := Option.some.inj (hlk.symm.trans (hpend.trans hq))
      have hins : ∀ x ∈ (insert m.sc (m.ctx peer).store (Rec.new peer (endpointAddr prs) m.sc.established)).recs,
          Admissible m0.tcp m0.listen peer x.addr :=
        insert_adm (ih.ctx peer) (by rw [hrec]; exact hA)
      split
      · split
        · exact ih.setCtx peer _ rfl rfl rfl hins
        · exact ih.setCtx peer _ rfl rfl rfl hins
      · exact ih.setCtx peer _ rfl rfl rfl hins
  | @openFailure m H conn _ ih =>
    unfold Mgr.onOpenFailure
    split
    · exact ih
    · rename_i peer _
      split
      · exact ih.setCtx peer _ rfl rfl rfl (ih.ctx peer)
      · exact ih.setCtx peer _ rfl rfl rfl (ih.ctx peer)
  | @dialFailed m H conn _ ih =>
    unfold Mgr.onDialFailure
    split
    · exact ih
    · rename_i peer _
      refine ih.setCtx peer _ rfl rfl rfl ?_
      dsimp only
      split
      · split
        · exact ih.ctx peer
        · exact ih.ctx peer
      · exact ih.ctx peer
  | occupy _ ih =>
    unfold Mgr.occupy
    split
    · exact ih.congr rfl rfl rfl
    · exact ih

end Litep2pVerif.Addr
