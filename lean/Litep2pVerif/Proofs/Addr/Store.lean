import Litep2pVerif.Model.Addr.Manager
import Litep2pVerif.Proofs.Common.List
/-!
Lemmas about `AddressStore` (model `Model/Addr/Store.lean`) for property C10: what each operation
does (`insert_known`, `insert_full`, `insert_room`), the one shape all of them share (`insert_shape`),
from which the invariants of the store follow, and the order `addresses` returns.
-/
namespace Litep2pVerif.Addr

theorem hasAddr_iff {rs : List Rec} {a : Multiaddr} : hasAddr rs a = true ↔ ∃ r ∈ rs, r.addr = a := by
  simp [hasAddr]

theorem hasAddr_eq_false {rs : List Rec} {a : Multiaddr} : hasAddr rs a = false ↔ ∀ r ∈ rs, r.addr ≠ a := by
  simp [hasAddr]

theorem minRec_none : ∀ {rs : List Rec}, minRec rs = none → rs = []
  | [], _ => rfl
  | r :: rest, h => by
    rw [minRec] at h
    split at h
    · cases h
    · split at h <;> cases h

theorem minRec_spec : ∀ {rs : List Rec} {m : Rec}, minRec rs = some m → m ∈ rs ∧ ∀ x ∈ rs, m.score ≤ x.score
  | r :: rest, m, h => by
    rw [minRec] at h
    split at h
    · rename_i hn
      cases h
      simp [minRec_none hn]
    · rename_i m' hm'
      obtain ⟨hmem, hmin⟩ := minRec_spec hm'
      rw [List.forall_mem_cons]
      split at h <;> cases h
      · exact ⟨List.mem_cons_of_mem _ hmem, by omega, hmin⟩
      · exact ⟨List.mem_cons_self, Int.le_refl _, fun x hx => by have := hmin x hx; omega⟩

theorem mem_removeAddr {rs : List Rec} {a : Multiaddr} {x : Rec} :
    x ∈ removeAddr rs a ↔ x ∈ rs ∧ x.addr ≠ a := by
  simp [removeAddr]

theorem removeAddr_length_lt {rs : List Rec} {m : Rec} (hm : m ∈ rs) :
    (removeAddr rs m.addr).length < rs.length :=
  List.length_filter_lt_length_iff_exists.2 ⟨m, hm, by simp⟩

theorem mem_setScore {rs : List Rec} {a : Multiaddr} {v : Int} {x : Rec} :
    x ∈ setScore rs a v ↔ ∃ y ∈ rs, if y.addr = a then x = ⟨y.addr, v⟩ else x = y := by
  simp only [setScore, List.mem_map]
  exact exists_congr fun y => and_congr_right fun _ => by split <;> exact eq_comm

theorem setScore_map_addr (rs : List Rec) (a : Multiaddr) (v : Int) :
    (setScore rs a v).map (·.addr) = rs.map (·.addr) := by
  rw [setScore, List.map_map]
  exact List.map_congr_left fun r _ => by simp only [Function.comp]; split <;> rfl

theorem withBonus_addr (sc : Scores) (r : Rec) : (withBonus sc r).addr = r.addr := by
  unfold withBonus; split <;> rfl

theorem nodup_of_map_addr {rs : List Rec} (h : (rs.map (·.addr)).Nodup) : rs.Nodup :=
  List.Pairwise.of_map _ (fun _ _ hne he => hne (he ▸ rfl)) h

theorem removeAddr_eq_erase {rs : List Rec} (h : (rs.map (·.addr)).Nodup) {m : Rec} (hm : m ∈ rs) :
    removeAddr rs m.addr = rs.erase m := by
  rw [(nodup_of_map_addr h).erase_eq_filter]
  refine List.filter_congr fun x hx => ?_
  by_cases he : x = m
  · simp [he]
  · have hne : x.addr ≠ m.addr := fun ha => he (eq_of_nodup_map _ _ h x hx m hm ha)
    rw [bne_iff_ne.2 hne, bne_iff_ne.2 he]

theorem Rec.new_of_lastP2p {a : Multiaddr} {q : Nat} (h : lastP2p a = some q) (p : Nat) (v : Int) :
    Rec.new p a v = ⟨a, v⟩ := by
  simp [Rec.new, h]

theorem fromMultiaddr_eq {a : Multiaddr} {r : Rec} (h : Rec.fromMultiaddr a = some r) : r = ⟨a, 0⟩ := by
  unfold Rec.fromMultiaddr at h
  split at h <;> cases h
  rfl

theorem insert_known {sc : Scores} {s : Store} {r : Rec} (h : hasAddr s.recs r.addr = true) :
    insert sc s r = if r.score ≠ 0 then { s with recs := setScore s.recs r.addr r.score } else s := by
  rw [insert, if_pos h]

theorem insert_full {sc : Scores} {s : Store} {r m : Rec} (h : hasAddr s.recs r.addr = false)
    (hfull : s.cap ≤ s.recs.length) (hm : minRec s.recs = some m) :
    insert sc s r = if (withBonus sc r).score < m.score then s
      else { s with recs := removeAddr s.recs m.addr ++ [withBonus sc r] } := by
  rw [insert, if_neg (by simp [h]), if_pos hfull, hm]

theorem insert_room {sc : Scores} {s : Store} {r : Rec} (h : hasAddr s.recs r.addr = false)
    (hroom : s.recs.length < s.cap) : insert sc s r = { s with recs := s.recs ++ [withBonus sc r] } := by
  rw [insert, if_neg (by simp [h]), if_neg (Nat.not_le.2 hroom)]

/-- `l`: the records kept — all of them if there is room, all but one if the store is full. -/
theorem insert_shape (sc : Scores) (s : Store) (r : Rec) :
    insert sc s r = s ∨ insert sc s r = { s with recs := setScore s.recs r.addr r.score } ∨
    ∃ l, l.Sublist s.recs ∧ (s.recs.length ≤ s.cap → l.length < s.cap) ∧ hasAddr s.recs r.addr = false ∧
      insert sc s r = { s with recs := l ++ [withBonus sc r] } := by
  cases h : hasAddr s.recs r.addr with
  | true =>
    rw [insert_known h]
    split
    · exact Or.inr (Or.inl rfl)
    · exact Or.inl rfl
  | false =>
    by_cases hfull : s.cap ≤ s.recs.length
    · cases hm : minRec s.recs with
      | none => exact Or.inl (by rw [insert, if_neg (by simp [h]), if_pos hfull, hm])
      | some m =>
        rw [insert_full h hfull hm]
        split
        · exact Or.inl rfl
        · exact Or.inr (Or.inr ⟨_, List.filter_sublist, fun hle =>
            Nat.lt_of_lt_of_le (removeAddr_length_lt (minRec_spec hm).1) hle, rfl, rfl⟩)
    · exact Or.inr (Or.inr ⟨_, List.Sublist.refl _, fun _ => Nat.not_le.1 hfull, rfl,
        insert_room h (Nat.not_le.1 hfull)⟩)

theorem insert_cap (sc : Scores) (s : Store) (r : Rec) : (insert sc s r).cap = s.cap := by
  rcases insert_shape sc s r with h | h | ⟨_, _, _, _, h⟩ <;> rw [h]

theorem insert_adm {sc : Scores} {P : Multiaddr → Prop} {s : Store} {r : Rec}
    (hs : ∀ x ∈ s.recs, P x.addr) (hr : P r.addr) : ∀ x ∈ (insert sc s r).recs, P x.addr := by
  intro x hx
  rcases insert_shape sc s r with h | h | ⟨l, hl, _, _, h⟩ <;> rw [h] at hx
  · exact hs x hx
  · obtain ⟨y, hy, hxy⟩ := mem_setScore.1 hx
    split at hxy <;> rw [hxy] <;> exact hs y hy
  · rcases List.mem_append.1 hx with hx | hx
    · exact hs x (hl.subset hx)
    · rw [List.mem_singleton.1 hx, withBonus_addr]
      exact hr

theorem insert_length_le (sc : Scores) (s : Store) (r : Rec) (h : s.recs.length ≤ s.cap) :
    (insert sc s r).recs.length ≤ s.cap := by
  rcases insert_shape sc s r with e | e | ⟨l, _, hl, _, e⟩ <;> rw [e]
  · exact h
  · simpa [setScore] using h
  · rw [List.length_append]
    exact hl h

theorem insert_nodup (sc : Scores) (s : Store) (r : Rec) (h : (s.recs.map (·.addr)).Nodup) :
    ((insert sc s r).recs.map (·.addr)).Nodup := by
  rcases insert_shape sc s r with e | e | ⟨l, hl, _, hnew, e⟩ <;> rw [e]
  · exact h
  · rw [setScore_map_addr]
    exact h
  · simp only [List.map_append, List.map_cons, List.map_nil, withBonus_addr, List.nodup_append,
      List.mem_singleton, List.mem_map]
    refine ⟨(hl.map _).nodup h, by simp, ?_⟩
    rintro _ ⟨x, hx, rfl⟩ _ rfl
    exact hasAddr_eq_false.1 hnew x (hl.subset hx)

theorem extend_adm {sc : Scores} {P : Multiaddr → Prop} : ∀ (rs : List Rec) {s : Store},
    (∀ x ∈ s.recs, P x.addr) → (∀ r ∈ rs, P r.addr) → ∀ x ∈ (extend sc s rs).recs, P x.addr
  | [], _, hs, _ => hs
  | r :: rs, _, hs, hr =>
    extend_adm rs (insert_adm hs (hr r List.mem_cons_self)) fun x hx => hr x (List.mem_cons_of_mem _ hx)

theorem extend_eq_self {sc : Scores} {s : Store} : ∀ {rs : List Rec}, (∀ r ∈ rs, insert sc s r = s) →
    extend sc s rs = s
  | [], _ => rfl
  | r :: rs, h => by
    rw [extend, List.foldl_cons, h r List.mem_cons_self]
    exact extend_eq_self fun x hx => h x (List.mem_cons_of_mem _ hx)

theorem insertPanics_false (s : Store) (r : Rec) (hcap : 1 ≤ s.cap) : insertPanics s r = false := by
  unfold insertPanics
  cases hs : s.recs with
  | nil => simp [hasAddr, Nat.not_le.2 hcap]
  | cons x xs => simp

theorem insertDesc_perm (r : Rec) : ∀ l : List Rec, (insertDesc r l).Perm (r :: l)
  | [] => List.Perm.refl _
  | x :: xs => by
    unfold insertDesc
    split
    · exact ((insertDesc_perm r xs).cons x).trans (List.Perm.swap r x xs)
    · exact List.Perm.refl _

theorem sortDesc_perm : ∀ l : List Rec, (sortDesc l).Perm l
  | [] => List.Perm.refl _
  | r :: rest => (insertDesc_perm r _).trans ((sortDesc_perm rest).cons r)

theorem insertDesc_sorted (r : Rec) : ∀ l : List Rec, l.Pairwise (fun a b => b.score ≤ a.score) →
    (insertDesc r l).Pairwise (fun a b => b.score ≤ a.score)
  | [], _ => List.pairwise_singleton _ _
  | x :: xs, h => by
    unfold insertDesc
    split
    · rw [List.pairwise_cons] at h ⊢
      refine ⟨fun y hy => ?_, insertDesc_sorted r xs h.2⟩
      rcases List.mem_cons.1 ((insertDesc_perm r xs).mem_iff.1 hy) with rfl | hy
      · omega
      · exact h.1 y hy
    · refine List.pairwise_cons.2 ⟨fun y hy => ?_, h⟩
      rcases List.mem_cons.1 hy with rfl | hy
      · omega
      · have := (List.pairwise_cons.1 h).1 y hy
        omega

theorem sortDesc_sorted : ∀ l : List Rec, (sortDesc l).Pairwise (fun a b => b.score ≤ a.score)
  | [] => List.Pairwise.nil
  | r :: rest => insertDesc_sorted r _ (sortDesc_sorted rest)

end Litep2pVerif.Addr
