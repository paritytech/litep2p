import Litep2pVerif.Proofs.Addr.Store
/-!
Helper lemmas about the address filter, the TCP parser and the manager bookkeeping (C10).
-/
namespace Litep2pVerif.Addr

/-- The only shape `supported_transport` accepts in a TCP-only build. -/
theorem supported_shape {tcp : Bool} {a : Multiaddr} (h : supportedTransport tcp a = true) :
    ∃ host port q, a = [Host.comp host, .tcp port, .p2p q] ∧ tcp = true := by
  unfold supportedTransport at h
  split at h
  · cases h
  · split at h
    · cases h
    · split at h
      · exact ⟨.ip4 _, _, _, rfl, h⟩
      · cases h
  · split at h
    · cases h
    · split at h
      · exact ⟨.ip6 _, _, _, rfl, h⟩
      · cases h
  · split at h
    · exact ⟨.dns _, _, _, rfl, h⟩
    · cases h
  · split at h
    · exact ⟨.dns4 _, _, _, rfl, h⟩
    · cases h
  · split at h
    · exact ⟨.dns6 _, _, _, rfl, h⟩
    · cases h
  · cases h

theorem tcpParse_shape (host : Host) (port q : Nat) :
    tcpParse [host.comp, .tcp port, .p2p q] = .ok ⟨host, port, some q⟩ := by
  cases host <;> rfl

theorem lastP2p_endpoint (host : Host) (port : Nat) : lastP2p [host.comp, .tcp port] = none := rfl

theorem mem_setCtx {p q : Nat} {c c' : Ctx} : ∀ {l : List (Nat × Ctx)},
    (q, c') ∈ setCtx p c l → (q = p ∧ c' = c) ∨ (q, c') ∈ l
  | [], h => Or.inl (by simpa [setCtx] using h)
  | (p0, c0) :: rest, h => by
    unfold setCtx at h
    split at h
    · rename_i heq
      rcases List.mem_cons.1 h with h | h
      · cases h
        exact Or.inl ⟨heq, rfl⟩
      · exact Or.inr (List.mem_cons_of_mem _ h)
    · rcases List.mem_cons.1 h with h | h
      · exact Or.inr (h ▸ List.mem_cons_self)
      · exact (mem_setCtx h).imp_right (List.mem_cons_of_mem _)

theorem lookupCtx_mem {p : Nat} {c : Ctx} : ∀ {l : List (Nat × Ctx)}, lookupCtx p l = some c → (p, c) ∈ l
  | (p0, c0) :: rest, h => by
    unfold lookupCtx at h
    split at h
    · rename_i heq
      cases h
      exact heq ▸ List.mem_cons_self
    · exact List.mem_cons_of_mem _ (lookupCtx_mem h)

theorem lookupCtx_setCtx_ne {p q : Nat} (h : q ≠ p) (c : Ctx) :
    ∀ l : List (Nat × Ctx), lookupCtx q (setCtx p c l) = lookupCtx q l
  | [] => by simp [setCtx, lookupCtx, Ne.symm h]
  | (p0, c0) :: rest => by
    unfold setCtx
    split
    · rename_i heq
      simp [lookupCtx, heq, Ne.symm h]
    · simp only [lookupCtx, lookupCtx_setCtx_ne h c rest]

theorem selectRecs_sublist (s : Store) : ∀ limit, (selectRecs s limit).Sublist (sortDesc s.recs)
  | none => List.Sublist.refl _
  | some n => List.take_sublist n _

theorem addresses_subset (s : Store) (limit : Option Nat) :
    ∀ a ∈ addresses s limit, ∃ r ∈ s.recs, r.addr = a := by
  intro a ha
  obtain ⟨r, hr, rfl⟩ := List.mem_map.1 ha
  exact ⟨r, (sortDesc_perm _).mem_iff.1 ((selectRecs_sublist s limit).subset hr), rfl⟩

theorem updateOnDialFailure_eq {m : Mgr} {a : Multiaddr} {p : Nat} (h : lastP2p a = some p) (ae : Bool) :
    m.updateOnDialFailure a ae = m.rawInsert p ⟨a, errorScore m.sc ae⟩ := by
  simp only [Mgr.updateOnDialFailure, h, Rec.new_of_lastP2p h]

theorem dial_spec (m : Mgr) (peer : Nat) :
    (m.dial peer).1.tcp = m.tcp ∧ (m.dial peer).1.listen = m.listen ∧
    ((m.dial peer).1.peers = m.peers ∨
      ∃ st, (m.dial peer).1.peers = setCtx peer ⟨st, (m.ctx peer).store⟩ m.peers) ∧
    ∀ conn as, (m.dial peer).2 = .started conn (some as) →
      ∃ lim, m.availableCapacity = some lim ∧ as = addresses (m.ctx peer).store lim := by
  unfold Mgr.dial
  split
  · exact ⟨rfl, rfl, Or.inl rfl, nofun⟩
  · rename_i lim hlim
    split
    · exact ⟨rfl, rfl, Or.inl rfl, nofun⟩
    · split
      · exact ⟨rfl, rfl, Or.inr ⟨_, rfl⟩, nofun⟩
      · exact ⟨rfl, rfl, Or.inr ⟨_, rfl⟩, nofun⟩
      · split
        · exact ⟨rfl, rfl, Or.inr ⟨_, rfl⟩, nofun⟩
        · refine ⟨rfl, rfl, Or.inr ⟨_, rfl⟩, fun conn as h => ⟨lim, hlim, ?_⟩⟩
          cases ht : m.tcp <;> simp only [ht] at h <;> cases h
          rfl

end Litep2pVerif.Addr
