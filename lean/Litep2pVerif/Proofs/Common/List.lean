/-! List facts that belong to no one area, over core `List` only. -/
namespace Litep2pVerif

universe u v
variable {α : Type u} {β : Type v}

theorem eq_of_nodup_map (f : α → β) (l : List α) (hn : (l.map f).Nodup) : ∀ x ∈ l, ∀ y ∈ l, f x = f y → x = y :=
  have hp := List.pairwise_map.1 hn
  fun _ hx _ hy => List.Pairwise.forall_of_forall_of_flip (R := fun x y => f x = f y → x = y) (fun _ _ _ => rfl)
    (hp.imp fun hne he => absurd he hne) (hp.imp fun hne he => absurd he.symm hne) hx hy

theorem filter_ne_of_not_mem {l : List Nat} {a : Nat} (h : a ∉ l) : l.filter (· ≠ a) = l :=
  List.filter_eq_self.2 fun x hx => by simpa using fun (e : x = a) => h (e ▸ hx)

theorem filter_ne_length {l : List Nat} {a : Nat} (ha : a ∈ l) (hn : l.Nodup) :
    (l.filter (· ≠ a)).length + 1 = l.length := by
  have h1 : l.filter (· ≠ a) = l.erase a := by
    rw [hn.erase_eq_filter]; exact List.filter_congr fun x _ => by rw [Bool.eq_iff_iff]; simp
  have := List.length_erase_of_mem ha
  have := List.length_pos_of_mem ha
  rw [h1]
  omega

/-- `HashSet::insert` on a list. -/
theorem mem_insert_unless [DecidableEq α] (x y : α) (l : List α) :
    y ∈ (if x ∈ l then l else x :: l) ↔ y = x ∨ y ∈ l := by
  split
  · exact ⟨Or.inr, fun h => h.elim (fun e => e ▸ ‹x ∈ l›) id⟩
  · exact List.mem_cons

theorem countP_erase_add [BEq α] [LawfulBEq α] (p : α → Bool) (l : List α) (a : α) (h : a ∈ l) :
    (l.erase a).countP p + (if p a then 1 else 0) = l.countP p := by
  rw [(List.perm_cons_erase h).countP_eq p, List.countP_cons]

theorem le_sum_map_of_mem (f : α → Nat) : ∀ (l : List α) (x : α), x ∈ l → f x ≤ (l.map f).sum
  | y :: t, x, h => by
    rw [List.map_cons, List.sum_cons]
    rcases List.mem_cons.1 h with rfl | h
    · omega
    · have := le_sum_map_of_mem f t x h; omega

theorem sum_map_take_le (f : α → Nat) (l : List α) (k : Nat) : ((l.take k).map f).sum ≤ (l.map f).sum := by
  conv => rhs; rw [← List.take_append_drop k l, List.map_append, List.sum_append]
  exact Nat.le_add_right _ _

theorem getElem?_of_prefix {l m : List α} (h : l <+: m) {i : Nat} {x : α} (hx : l[i]? = some x) : m[i]? = some x := by
  obtain ⟨t, rfl⟩ := h
  rw [List.getElem?_append_left (List.getElem?_eq_some_iff.1 hx).1, hx]

theorem forall_mem_set {P : α → Prop} {l : List α} {j : Nat} {a b : α} (hj : l[j]? = some a) (hab : P b ↔ P a) :
    (∀ x ∈ l.set j b, P x) ↔ ∀ x ∈ l, P x := by
  induction l generalizing j with
  | nil => simp
  | cons y t ih =>
    cases j with
    | zero => cases hj; simp [hab]
    | succ j => simp [ih (by simpa using hj)]

end Litep2pVerif
