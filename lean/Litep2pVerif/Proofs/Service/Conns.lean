import Litep2pVerif.Proofs.Service.Assoc
import Litep2pVerif.Model.Service.Order
/-!
Lemmas and invariants for C08 (`Props/C08.lean`): what `on_connection_established` / `on_connection_closed` do to
the table seen through `cget`, the per-peer alternation of connection events, freshness of substream ids, the
invariant `Inv` tying the service to its environment `Env`, and what follows from it for single steps.
-/
namespace Litep2pVerif.Service

theorem connected_def (s : State) (p : Peer) : connected s p = (cget s.conns p).isSome := rfl

theorem onEstablished_nextSub (s : State) (p : Peer) (c : ConnId) : (onEstablished s p c).1.nextSub = s.nextSub := by
  unfold onEstablished
  cases cget s.conns p with
  | none => rfl
  | some ctx => obtain ⟨a, _ | b⟩ := ctx <;> rfl

theorem onClosed_nextSub (s : State) (p : Peer) (c : ConnId) : (onClosed s p c).1.nextSub = s.nextSub := by
  unfold onClosed
  cases cget s.conns p with
  | none => rfl
  | some ctx => obtain ⟨a, _ | b⟩ := ctx <;> simp only [] <;> split <;> rfl

/-- Peer `p`'s context after `on_connection_established(p, c)`. -/
def estCtx (old : Option Ctx) (c : ConnId) : Ctx :=
  match old with
  | none => ⟨c, none⟩
  | some ⟨a, none⟩ => ⟨a, some c⟩
  | some ctx => ctx

/-- What is left of a context after `on_connection_closed(_, c)`. -/
def closeCtx (ctx : Ctx) (c : ConnId) : Option Ctx :=
  if ctx.primary = c then ctx.secondary.map (⟨·, none⟩) else some ⟨ctx.primary, none⟩

theorem onEstablished_cget (s : State) (p : Peer) (c : ConnId) (q : Peer) :
    cget (onEstablished s p c).1.conns q = if q = p then some (estCtx (cget s.conns p) c) else cget s.conns q := by
  unfold onEstablished
  cases hp : cget s.conns p with
  | none => exact cget_cput ..
  | some ctx =>
    obtain ⟨a, _ | b⟩ := ctx
    · exact cget_cput ..
    · simp only [estCtx]; split
      · subst q; exact hp
      · rfl

theorem onEstablished_obs (s : State) (p : Peer) (c : ConnId) :
    (onEstablished s p c).2 = if connected s p then none else some (.established p) := by
  unfold onEstablished connected
  cases cget s.conns p with
  | none => rfl
  | some ctx => obtain ⟨a, _ | b⟩ := ctx <;> rfl

theorem onClosed_cget (s : State) (p : Peer) (c : ConnId) (q : Peer) :
    cget (onClosed s p c).1.conns q = if q = p then (cget s.conns p).bind (closeCtx · c) else cget s.conns q := by
  unfold onClosed
  cases hp : cget s.conns p with
  | none => simp only [Option.bind_none]; split
            · subst q; exact hp
            · rfl
  | some ctx =>
    simp only [closeCtx, Option.bind_some]
    obtain ⟨a, _ | b⟩ := ctx
    · split
      · exact cget_cremove ..
      · exact cget_cput ..
    · split <;> exact cget_cput ..

theorem onClosed_obs (s : State) (p : Peer) (c : ConnId) :
    (onClosed s p c).2.1 = match cget s.conns p with
      | some ctx => if closeCtx ctx c = none then some (.closed p) else none
      | none => none := by
  unfold onClosed closeCtx
  cases cget s.conns p with
  | none => rfl
  | some ctx => obtain ⟨a, _ | b⟩ := ctx <;> simp only [] <;> split <;> simp

theorem onEstablished_ev (s : State) (p : Peer) (c : ConnId) :
    (onEstablished s p c).2 = none ∨ (onEstablished s p c).2 = some (.established p) := by
  rw [onEstablished_obs]; split <;> simp

theorem onClosed_ev (s : State) (p : Peer) (c : ConnId) :
    (onClosed s p c).2.1 = none ∨ (onClosed s p c).2.1 = some (.closed p) := by
  rw [onClosed_obs]
  split
  · split <;> simp
  · exact Or.inl rfl

theorem openSubstream_conns (s : State) (p : Peer) (permit : Bool) (send : SendRes) :
    (openSubstream s p permit send).1.conns = s.conns := by
  unfold openSubstream
  cases cget s.conns p with
  | none => rfl
  | some ctx => cases permit <;> cases send <;> rfl

theorem step_forceClose_state (s : State) (p : Peer) (sec prim : SendRes) :
    (step s (.forceClose p sec prim)).1 = s := by
  simp only [step, forceClose]
  cases cget s.conns p <;> rfl

theorem step_nextSub_le (s : State) (op : Op) : s.nextSub ≤ (step s op).1.nextSub := by
  cases op with
  | otherAlloc n => exact Nat.le_add_right _ _
  | managerCall => exact Nat.le_refl _
  | forceClose q sec prim => rw [step_forceClose_state]; exact Nat.le_refl _
  | «open» q permit send =>
    simp only [step, openSubstream]
    cases cget s.conns q with
    | none => exact Nat.le_refl _
    | some ctx => cases permit <;> cases send <;> simp
  | inner e =>
    cases e with
    | established q c => exact Nat.le_of_eq (onEstablished_nextSub s q c).symm
    | closed q c => exact Nat.le_of_eq (onClosed_nextSub s q c).symm
    | _ => exact Nat.le_refl _

theorem step_conn (s : State) (op : Op) (p : Peer) :
    connEvents p [(step s op).2] =
      if connected (step s op).1 p = connected s p then [] else [connected (step s op).1 p] := by
  cases op with
  | inner e =>
    cases e with
    | established q c =>
      simp only [step, pollEvent, connected, onEstablished_cget, onEstablished_obs]
      by_cases hpq : p = q
      · subst hpq
        by_cases hc : (cget s.conns p).isSome = true <;> simp [connEvents, hc]
      · have : ¬ q = p := fun h => hpq h.symm
        by_cases hc : (cget s.conns q).isSome = true <;> simp [connEvents, hc, hpq, this]
    | closed q c =>
      simp only [step, pollEvent, connected, onClosed_cget, onClosed_obs]
      by_cases hpq : p = q
      · subst hpq
        cases hq : cget s.conns p with
        | none => simp [connEvents]
        | some ctx => by_cases hc : closeCtx ctx c = none <;> simp [connEvents, hc, Option.isSome_iff_ne_none]
      · have : ¬ q = p := fun h => hpq h.symm
        cases cget s.conns q with
        | none => simp [connEvents, hpq]
        | some ctx => by_cases hc : closeCtx ctx c = none <;> simp [connEvents, hc, hpq, this]
    | _ => simp [step, pollEvent, connEvents]
  | «open» q permit send =>
    simp only [step, connected, openSubstream_conns]
    cases (openSubstream s q permit send).2 <;> simp [connEvents]
  | forceClose q sec prim => rw [step_forceClose_state]; simp [step, connEvents]
  | _ => simp [step, connEvents, connected]

theorem connEvents_cons (p : Peer) (o : Obs) (l : List Obs) :
    connEvents p (o :: l) = connEvents p [o] ++ connEvents p l := by
  cases o with
  | ev e => cases e <;> simp [connEvents] <;> split <;> simp
  | _ => simp [connEvents]

theorem alternation_gen (p : Peer) (ops : List Op) : ∀ s : State,
    alternates (!(connected s p)) (connEvents p (trace s ops)) = true := by
  induction ops with
  | nil => intro s; rfl
  | cons op rest ih =>
    intro s
    have ih' := ih (step s op).1
    rw [trace, connEvents_cons, step_conn]
    split
    · rename_i heq; rwa [← heq]
    · rename_i hne
      cases h1 : connected s p <;> cases h2 : connected (step s op).1 p <;> simp_all [alternates]

theorem step_openOk (s : State) (op : Op) (sid : Nat) (c : Nat)
    (h : (step s op).2 = .openOk sid c) :
    sid = s.nextSub ∧ (step s op).1.nextSub = sid + 1 ∧ (step s op).1.conns = s.conns ∧
    ∃ p permit send ctx, op = .open p permit send ∧ cget s.conns p = some ctx ∧ ctx.primary = c := by
  cases op with
  | otherAlloc n => simp [step] at h
  | managerCall => simp [step] at h
  | forceClose q sec prim => simp [step] at h
  | inner e =>
    simp only [step] at h
    split at h <;> simp at h
  | «open» q permit send =>
    simp only [step, openSubstream] at h ⊢
    cases hq : cget s.conns q with
    | none => simp [hq] at h
    | some ctx =>
      by_cases hp : permit = false
      · simp [hq, hp] at h
      · cases send <;> simp [hq, hp] at h
        obtain ⟨h1, h2⟩ := h
        refine ⟨h1.symm, by simp [hp, h1], by simp [hp], q, permit, .ok, ctx, rfl, hq, h2⟩

def answerOf : Obs → Option Nat
  | .ev (.subOpened _ (some sid)) => some sid
  | .ev (.subFailed sid) => some sid
  | _ => none

def acceptOf : Obs → Option Nat
  | .openOk sid _ => some sid
  | _ => none

theorem answeredIds_cons (o : Obs) (l : List Obs) :
    answeredIds (o :: l) = (answerOf o).toList ++ answeredIds l := by
  cases o with
  | ev e => cases e with
    | subOpened p d => cases d <;> simp [answeredIds, answerOf]
    | _ => simp [answeredIds, answerOf]
  | _ => simp [answeredIds, answerOf]

theorem acceptedIds_cons (o : Obs) (l : List Obs) :
    acceptedIds (o :: l) = (acceptOf o).toList ++ acceptedIds l := by
  cases o <;> simp [acceptedIds, acceptOf]

theorem acceptOf_eq_some {o : Obs} {sid : Nat} : acceptOf o = some sid ↔ ∃ c, o = .openOk sid c := by
  cases o <;> simp [acceptOf]

theorem accepted_ge (ops : List Op) : ∀ (s : State), ∀ sid ∈ acceptedIds (trace s ops), s.nextSub ≤ sid := by
  induction ops with
  | nil => intro s sid h; cases h
  | cons op rest ih =>
    intro s sid h
    rw [trace, acceptedIds_cons, List.mem_append] at h
    rcases h with h | h
    · obtain ⟨c, ho⟩ := acceptOf_eq_some.mp (Option.mem_toList.mp h)
      exact Nat.le_of_eq (step_openOk s op sid c ho).1.symm
    · exact Nat.le_trans (step_nextSub_le s op) (ih _ sid h)

theorem ids_fresh_gen (ops : List Op) : ∀ (s : State),
    (acceptedIds (trace s ops)).Pairwise (· < ·) := by
  induction ops with
  | nil => intro s; exact List.Pairwise.nil
  | cons op rest ih =>
    intro s
    rw [trace, acceptedIds_cons, List.pairwise_append]
    refine ⟨by cases acceptOf (step s op).2 <;> simp, ih _, fun a ha b hb => ?_⟩
    obtain ⟨c, ho⟩ := acceptOf_eq_some.mp (Option.mem_toList.mp ha)
    have := accepted_ge rest _ b hb
    have := (step_openOk s op a c ho).2.1
    omega

def Ctx.has (ctx : Ctx) (c : Nat) : Prop := ctx.primary = c ∨ ctx.secondary = some c

structure Inv (e : Env) (s : State) : Prop where
  /-- the service's table holds exactly the live connections -/
  connIff : ∀ p c, (p, c) ∈ e.live ↔ ∃ ctx, cget s.conns p = some ctx ∧ ctx.has c
  liveUsed : ∀ p c, (p, c) ∈ e.live → c ∈ e.used
  distinct : ∀ p ctx, cget s.conns p = some ctx → ctx.secondary ≠ some ctx.primary
  outLive : ∀ sid p c, (sid, p, c) ∈ e.outstanding → (p, c) ∈ e.live
  outLt : ∀ x ∈ e.outstanding, x.1 < s.nextSub
  outNodup : (outstandingIds e).Nodup

theorem inv_init : Inv {} {} := by
  constructor <;> simp [cget, outstandingIds, Ctx.has]

theorem two_le_length {α : Type} {x y : α} : ∀ {l : List α}, x ∈ l → y ∈ l → x ≠ y → 2 ≤ l.length
  | [], hx, _, _ => by cases hx
  | [_], hx, hy, hne => absurd ((List.mem_singleton.mp hx).trans (List.mem_singleton.mp hy).symm) hne
  | _ :: _ :: _, _, _, _ => by simp

theorem Inv.mono {e : Env} {s s' : State} (h : Inv e s) (hc : s'.conns = s.conns) (hle : s.nextSub ≤ s'.nextSub) :
    Inv e s' :=
  ⟨by rw [hc]; exact h.connIff, h.liveUsed, by rw [hc]; exact h.distinct, h.outLive,
    fun x hx => Nat.lt_of_lt_of_le (h.outLt x hx) hle, h.outNodup⟩

theorem estCtx_has (old : Option Ctx) (c d : ConnId) (h2 : ∀ ctx, old = some ctx → ctx.secondary = none) :
    (estCtx old c).has d ↔ d = c ∨ ∃ ctx, old = some ctx ∧ ctx.has d := by
  rcases old with _ | ⟨a, _ | b⟩
  · simp [estCtx, Ctx.has, eq_comm]
  · simp [estCtx, Ctx.has, eq_comm, or_comm]
  · cases h2 _ rfl

theorem closeCtx_has (ctx : Ctx) (c d : ConnId) (hd : ctx.secondary ≠ some ctx.primary) (hc : ctx.has c) :
    (∃ ctx', closeCtx ctx c = some ctx' ∧ ctx'.has d) ↔ ctx.has d ∧ d ≠ c := by
  obtain ⟨a, sec⟩ := ctx
  unfold closeCtx Ctx.has at *
  by_cases hac : a = c
  · subst hac
    rcases sec with _ | b
    · simp; intro h; exact h.symm
    · have : b ≠ a := fun e => hd (by rw [e])
      simp; constructor
      · rintro rfl; exact ⟨Or.inr rfl, this⟩
      · rintro ⟨h | h, h'⟩
        · exact absurd h.symm h'
        · exact h
  · have hs : sec = some c := hc.resolve_left hac
    subst hs
    simp [hac]; constructor
    · rintro rfl; exact ⟨Or.inl rfl, hac⟩
    · rintro ⟨h | h, h'⟩
      · exact h
      · exact absurd h.symm h'

theorem closeCtx_secondary {ctx ctx' : Ctx} {c : ConnId} (h : closeCtx ctx c = some ctx') : ctx'.secondary = none := by
  unfold closeCtx at h
  split at h
  · obtain ⟨x, _, rfl⟩ := Option.map_eq_some_iff.mp h; rfl
  · cases h; rfl

theorem inv_open {e : Env} {s : State} (h : Inv e s) (p : Nat) (permit : Bool) (send : SendRes) :
    Inv (envStep e (.open p permit send) (step s (.open p permit send)).2) (step s (.open p permit send)).1 := by
  have hm := h.mono (openSubstream_conns s p permit send) (step_nextSub_le s (.open p permit send))
  cases ho : (step s (.open p permit send)).2 with
  | openOk sid c =>
    obtain ⟨h1, h2, _, p', permit', send', ctx, hop, hctx, hprim⟩ := step_openOk s _ sid c ho
    injection hop with hp' _ _
    subst hp'
    refine ⟨hm.connIff, h.liveUsed, hm.distinct, ?_, ?_, ?_⟩
    · intro sid' q d hm
      simp only [envStep, List.mem_cons, Prod.mk.injEq] at hm
      rcases hm with ⟨_, rfl, rfl⟩ | hm
      · exact (h.connIff _ _).mpr ⟨ctx, hctx, Or.inl hprim⟩
      · exact h.outLive _ _ _ hm
    · intro x hx
      simp only [envStep, List.mem_cons] at hx
      rcases hx with rfl | hx
      · simp only; omega
      · exact hm.outLt x hx
    · simp only [envStep, outstandingIds, List.map, List.nodup_cons]
      refine ⟨fun hm => ?_, h.outNodup⟩
      obtain ⟨x, hx, hxe⟩ := List.mem_map.mp hm
      have := h.outLt x hx
      omega
  | _ => exact hm

theorem inv_filter_out {e : Env} {s : State} (h : Inv e s) (P : Nat × Nat × Nat → Bool) :
    Inv { e with outstanding := e.outstanding.filter P } s :=
  ⟨h.connIff, h.liveUsed, h.distinct,
   fun sid p c hm => h.outLive sid p c (List.mem_filter.mp hm).1,
   fun x hx => h.outLt x (List.mem_filter.mp hx).1,
   h.outNodup.sublist (List.filter_sublist.map _)⟩

theorem inv_established {e : Env} {s : State} (h : Inv e s) (p c : Nat)
    (hok : envOk e (.inner (.established p c)) = true) :
    Inv (envStep e (.inner (.established p c)) (step s (.inner (.established p c))).2)
      (step s (.inner (.established p c))).1 := by
  simp only [envOk, Bool.and_eq_true, Bool.not_eq_true', decide_eq_true_eq] at hok
  obtain ⟨hfresh, hcount⟩ := hok
  have hfresh : c ∉ e.used := by simpa using hfresh
  -- a third connection is impossible: two connections to `p` would already be live
  have hno3 : ∀ ctx, cget s.conns p = some ctx → ctx.secondary = none := by
    rintro ⟨a, _ | b⟩ hq
    · rfl
    · have ha : (p, a) ∈ e.live := (h.connIff p a).mpr ⟨_, hq, Or.inl rfl⟩
      have hb : (p, b) ∈ e.live := (h.connIff p b).mpr ⟨_, hq, Or.inr rfl⟩
      have := two_le_length (l := e.live.filter (fun x => x.1 == p)) (List.mem_filter.mpr ⟨ha, beq_self_eq_true p⟩)
        (List.mem_filter.mpr ⟨hb, beq_self_eq_true p⟩)
        fun heq => h.distinct p _ hq (by simp [(Prod.mk.inj heq).2])
      unfold liveCount at hcount
      omega
  refine ⟨fun q d => ?_, fun q d hm => ?_, fun q ctx' hq => ?_,
    fun sid q d hm => List.mem_cons_of_mem _ (h.outLive sid q d hm),
    fun x hx => (onEstablished_nextSub s p c).symm ▸ h.outLt x hx, h.outNodup⟩
  · simp only [envStep, step, pollEvent, onEstablished_cget, List.mem_cons, Prod.mk.injEq]
    by_cases hqp : q = p
    · subst hqp
      simp only [if_true, Option.some.injEq, exists_eq_left', true_and, estCtx_has _ c d hno3, h.connIff q d]
    · simp only [hqp, if_false, false_and, false_or, h.connIff q d]
  · simp only [envStep, List.mem_cons, Prod.mk.injEq] at hm ⊢
    exact hm.imp (fun h => h.2) (h.liveUsed q d)
  · simp only [step, pollEvent, onEstablished_cget] at hq
    split at hq
    · cases hq
      rcases hp : cget s.conns p with _ | ⟨a, _ | b⟩
      · simp [estCtx]
      · have ha : (p, a) ∈ e.live := (h.connIff p a).mpr ⟨_, hp, Or.inl rfl⟩
        simp only [estCtx, ne_eq, Option.some.injEq]
        exact fun hca => hfresh (hca ▸ h.liveUsed _ _ ha)
      · exact h.distinct p _ hp
    · exact h.distinct q ctx' hq

theorem inv_closed {e : Env} {s : State} (h : Inv e s) (p c : Nat)
    (hok : envOk e (.inner (.closed p c)) = true) :
    Inv (envStep e (.inner (.closed p c)) (step s (.inner (.closed p c))).2)
      (step s (.inner (.closed p c))).1 := by
  simp only [envOk, List.contains_iff_mem] at hok
  obtain ⟨ctx, hq, hhas⟩ := (h.connIff p c).mp hok
  have hmemf : ∀ q d, (q, d) ∈ e.live.filter (fun x => x != (p, c)) ↔ (q, d) ∈ e.live ∧ ¬ (q = p ∧ d = c) := by
    intro q d; simp [List.mem_filter]
  refine ⟨fun q d => ?_, fun q d hm => h.liveUsed q d ((hmemf q d).mp hm).1, fun q ctx' hq' => ?_,
    fun sid q d hm => ?_, fun x hx => (onClosed_nextSub s p c).symm ▸ h.outLt x (List.mem_filter.mp hx).1,
    h.outNodup.sublist (List.filter_sublist.map _)⟩
  · simp only [envStep, step, pollEvent, onClosed_cget, hmemf]
    by_cases hqp : q = p
    · subst hqp
      rw [if_pos rfl, hq, Option.bind_some, closeCtx_has ctx c d (h.distinct q _ hq) hhas, h.connIff q d, hq]
      simp
    · simp only [hqp, if_false, false_and, not_false_eq_true, and_true, h.connIff q d]
  · simp only [step, pollEvent, onClosed_cget] at hq'
    split at hq'
    · rw [hq, Option.bind_some] at hq'
      simp [closeCtx_secondary hq']
    · exact h.distinct q ctx' hq'
  · obtain ⟨hm1, hm2⟩ := List.mem_filter.mp hm
    exact (hmemf q d).mpr ⟨h.outLive sid q d hm1, fun hh => by simp [hh.2] at hm2⟩

theorem envStep_forceClose (e : Env) (p : Peer) (sec prim : SendRes) (o : Obs) :
    envStep e (.forceClose p sec prim) o = e := rfl

theorem inv_step {e : Env} {s : State} (h : Inv e s) (op : Op) (hok : envOk e op = true) :
    Inv (envStep e op (step s op).2) (step s op).1 := by
  cases op with
  | otherAlloc n => exact h.mono rfl (Nat.le_add_right _ _)
  | managerCall => exact h
  | forceClose p sec prim => rw [step_forceClose_state]; exact h
  | «open» p permit send => exact inv_open h p permit send
  | inner ev =>
    cases ev with
    | established p c => exact inv_established h p c hok
    | closed p c => exact inv_closed h p c hok
    | subOpened p d c =>
      cases d with
      | none => exact h
      | some sid => exact inv_filter_out h _
    | subFailed sid => exact inv_filter_out h _
    | dialFailure p => exact h

theorem esteps_inv (ops : List Op) : ∀ (e : Env) (s : State), Inv e s → feasible e s ops = true →
    ∀ e' s' op o, (e', s', op, o) ∈ esteps e s ops → Inv e' s' ∧ envOk e' op = true ∧ o = (step s' op).2 := by
  induction ops with
  | nil => intro e s _ _ e' s' op o hx; cases hx
  | cons op rest ih =>
    intro e s hinv hf e' s' op' o hx
    simp only [feasible, Bool.and_eq_true] at hf
    rcases List.mem_cons.mp hx with hx | hx
    · cases hx; exact ⟨hinv, hf.1, rfl⟩
    · exact ih _ _ (inv_step hinv op hf.1) hf.2 _ _ _ _ hx

theorem run_inv (ops : List Op) : ∀ (e : Env) (s : State), Inv e s → feasible e s ops = true →
    Inv (envRun e s ops) (run s ops) := by
  induction ops with
  | nil => intro e s h _; exact h
  | cons op rest ih =>
    intro e s hinv hf
    simp only [feasible, Bool.and_eq_true] at hf
    exact ih _ _ (inv_step hinv op hf.1) hf.2

/-! ### answers to accepted opens -/

theorem step_sub (s : State) (op : Op) :
    (∀ p d, (step s op).2 = .ev (.subOpened p d) → ∃ c, op = .inner (.subOpened p d c)) ∧
    (∀ sid, (step s op).2 = .ev (.subFailed sid) → op = .inner (.subFailed sid)) := by
  cases op with
  | «open» q permit send => simp only [step]; split <;> exact ⟨nofun, nofun⟩
  | inner e =>
    cases e with
    | established q c => simp only [step, pollEvent]; rcases onEstablished_ev s q c with he | he <;> simp [he]
    | closed q c => simp only [step, pollEvent]; rcases onClosed_ev s q c with he | he <;> simp [he]
    | _ => simp [step, pollEvent]
  | _ => exact ⟨nofun, nofun⟩

theorem step_answer (s : State) (op : Op) (sid : Nat) (h : answerOf (step s op).2 = some sid) :
    (step s op).1 = s ∧ acceptOf (step s op).2 = none ∧
    ((∃ p c, op = .inner (.subOpened p (some sid) c)) ∨ op = .inner (.subFailed sid)) := by
  have hop : (∃ p c, op = .inner (.subOpened p (some sid) c)) ∨ op = .inner (.subFailed sid) := by
    cases ho : (step s op).2 with
    | ev e =>
      rw [ho] at h
      cases e with
      | subOpened p d =>
        cases d with
        | none => cases h
        | some x => cases h; exact Or.inl ⟨p, (step_sub s op).1 p _ ho⟩
      | subFailed x => cases h; exact Or.inr ((step_sub s op).2 _ ho)
      | _ => cases h
    | _ => rw [ho] at h; cases h
  rcases hop with ⟨p, c, rfl⟩ | rfl
  · exact ⟨rfl, rfl, Or.inl ⟨p, c, rfl⟩⟩
  · exact ⟨rfl, rfl, Or.inr rfl⟩

theorem mem_outstandingIds {e : Env} {x : Nat} :
    x ∈ outstandingIds e ↔ ∃ p c, (x, p, c) ∈ e.outstanding := by
  simp [outstandingIds]

theorem mem_envStep_outstanding (e : Env) (s : State) (op : Op) (x p c : Nat) :
    (x, p, c) ∈ (envStep e op (step s op).2).outstanding ↔
      ((x, p, c) ∈ e.outstanding ∧ (∀ p', op ≠ .inner (.closed p' c)) ∧ answerOf (step s op).2 ≠ some x) ∨
      ((step s op).2 = .openOk x c ∧ ∃ permit send, op = .open p permit send) := by
  cases op with
  | otherAlloc n => simp [envStep, step, answerOf]
  | managerCall => simp [envStep, step, answerOf]
  | forceClose q a b => simp [envStep, step, answerOf]
  | «open» q permit send =>
    simp only [step]
    split
    · simp only [envStep, List.mem_cons, Prod.mk.injEq, Obs.openOk.injEq, Op.open.injEq]
      constructor
      · rintro (⟨rfl, rfl, rfl⟩ | h)
        · exact Or.inr ⟨⟨rfl, rfl⟩, _, _, rfl, rfl, rfl⟩
        · exact Or.inl ⟨h, nofun, nofun⟩
      · rintro (⟨h, _⟩ | ⟨⟨rfl, rfl⟩, _, _, rfl, _⟩)
        · exact Or.inr h
        · exact Or.inl ⟨rfl, rfl, rfl⟩
    · simp [envStep, answerOf]
  | inner ev =>
    cases ev with
    | established q d => rcases onEstablished_ev s q d with he | he <;> simp [envStep, step, pollEvent, he, answerOf]
    | closed q d =>
      rcases onClosed_ev s q d with he | he <;> simp [envStep, step, pollEvent, he, answerOf, eq_comm (a := c)]
    | subOpened q dir d => cases dir <;> simp [envStep, step, pollEvent, answerOf, eq_comm (a := x)]
    | subFailed sid => simp [envStep, step, pollEvent, answerOf, eq_comm (a := x)]
    | dialFailure q => simp [envStep, step, pollEvent, answerOf]

theorem outstandingIds_envStep (e : Env) (s : State) (op : Op) (x : Nat)
    (h : x ∈ outstandingIds (envStep e op (step s op).2)) :
    (x ∈ outstandingIds e ∧ answerOf (step s op).2 ≠ some x) ∨ acceptOf (step s op).2 = some x := by
  obtain ⟨p, c, hm⟩ := mem_outstandingIds.mp h
  rcases (mem_envStep_outstanding ..).mp hm with ⟨h1, _, h3⟩ | ⟨ho, _⟩
  · exact Or.inl ⟨mem_outstandingIds.mpr ⟨p, c, h1⟩, h3⟩
  · exact Or.inr (by rw [ho]; rfl)

theorem answer_outstanding {e : Env} {s : State} {op : Op} {sid : Nat}
    (h : answerOf (step s op).2 = some sid) (hok : envOk e op = true) : sid ∈ outstandingIds e := by
  obtain ⟨_, _, ⟨p, c, rfl⟩ | rfl⟩ := step_answer s op sid h <;> simp only [envOk, List.contains_iff_mem] at hok
  · exact mem_outstandingIds.mpr ⟨p, c, hok⟩
  · exact hok

theorem at_most_once_gen (ops : List Op) : ∀ (e : Env) (s : State), Inv e s → feasible e s ops = true →
    (answeredIds (trace s ops)).Nodup ∧
    ∀ sid ∈ answeredIds (trace s ops), sid ∈ outstandingIds e ∨ sid ∈ acceptedIds (trace s ops) := by
  induction ops with
  | nil => intro e s _ _; exact ⟨List.nodup_nil, nofun⟩
  | cons op rest ih =>
    intro e s hinv hf
    simp only [feasible, Bool.and_eq_true] at hf
    obtain ⟨ih1, ih2⟩ := ih _ _ (inv_step hinv op hf.1) hf.2
    rw [trace, answeredIds_cons, acceptedIds_cons]
    have later : ∀ x ∈ answeredIds (trace (step s op).1 rest),
        (x ∈ outstandingIds e ∧ answerOf (step s op).2 ≠ some x) ∨
        x ∈ (acceptOf (step s op).2).toList ++ acceptedIds (trace (step s op).1 rest) := by
      intro x hx
      rcases ih2 x hx with h1 | h1
      · exact (outstandingIds_envStep e s op x h1).imp_right fun h =>
          List.mem_append_left _ (Option.mem_toList.mpr h)
      · exact Or.inr (List.mem_append_right _ h1)
    refine ⟨List.nodup_append.mpr ⟨by cases answerOf (step s op).2 <;> simp, ih1, fun x hx y hy hxy => ?_⟩,
      fun x hx => ?_⟩
    · -- answered by this step: not again later
      subst hxy
      have ha := Option.mem_toList.mp hx
      obtain ⟨hs, hacc, _⟩ := step_answer s op x ha
      rcases later x hy with ⟨_, hne⟩ | h1
      · exact hne ha
      · -- ids accepted from here on are at least the counter, outstanding ones are below it
        rw [hacc, Option.toList_none, List.nil_append] at h1
        have h2 := accepted_ge rest _ x h1
        rw [hs] at h2
        obtain ⟨p, c, hpc⟩ := mem_outstandingIds.mp (answer_outstanding ha hf.1)
        have := hinv.outLt _ hpc
        omega
    · rcases List.mem_append.mp hx with hx | hx
      · exact Or.inl (answer_outstanding (Option.mem_toList.mp hx) hf.1)
      · exact (later x hx).imp_left (·.1)

theorem once_unless_closed_gen (ops : List Op) : ∀ (e : Env) (s : State) (sid c : Nat),
    (Obs.openOk sid c ∈ trace s ops ∨ ∃ p, (sid, p, c) ∈ e.outstanding) →
    sid ∈ answeredIds (trace s ops) ∨ (∃ p, Op.inner (.closed p c) ∈ ops) ∨
    ∃ p, (sid, p, c) ∈ (envRun e s ops).outstanding := by
  induction ops with
  | nil =>
    intro e s sid c h
    rcases h with h | h
    · cases h
    · exact Or.inr (Or.inr h)
  | cons op rest ih =>
    intro e s sid c h
    have next : (Obs.openOk sid c ∈ trace (step s op).1 rest ∨
        ∃ p, (sid, p, c) ∈ (envStep e op (step s op).2).outstanding) →
        sid ∈ answeredIds (trace s (op :: rest)) ∨ (∃ p, Op.inner (.closed p c) ∈ op :: rest) ∨
        ∃ p, (sid, p, c) ∈ (envRun e s (op :: rest)).outstanding := fun h' =>
      (ih _ _ sid c h').imp (fun h1 => by rw [trace, answeredIds_cons]; exact List.mem_append_right _ h1)
        (Or.imp_left fun ⟨p, h1⟩ => ⟨p, List.mem_cons_of_mem _ h1⟩)
    rcases h with h | ⟨p, h⟩
    · rcases List.mem_cons.mp h with h | h
      · obtain ⟨_, _, _, p, permit, send, _, rfl, _, _⟩ := step_openOk s op sid c h.symm
        exact next (Or.inr ⟨p, (mem_envStep_outstanding ..).mpr (Or.inr ⟨h.symm, permit, send, rfl⟩)⟩)
      · exact next (Or.inl h)
    · -- outstanding before: still so, unless its connection is reported closed or it is answered
      by_cases hcl : ∃ p', op = .inner (.closed p' c)
      · obtain ⟨p', rfl⟩ := hcl
        exact Or.inr (Or.inl ⟨p', List.mem_cons_self⟩)
      · by_cases hans : answerOf (step s op).2 = some sid
        · exact Or.inl (by rw [trace, answeredIds_cons, hans]; exact List.mem_cons_self)
        · exact next (Or.inr ⟨p, (mem_envStep_outstanding ..).mpr (Or.inl ⟨h, fun p' e => hcl ⟨p', e⟩, hans⟩)⟩)

theorem closed_local {e : Env} {s : State} (h : Inv e s) (p c : Nat)
    (hok : envOk e (.inner (.closed p c)) = true) :
    (step s (.inner (.closed p c))).2 = .ev (.closed p) ↔ ∀ c', (p, c') ∈ e.live → c' = c := by
  simp only [envOk, List.contains_iff_mem] at hok
  obtain ⟨ctx, hq, hhas⟩ := (h.connIff p c).mp hok
  have hl : ∀ d, (p, d) ∈ e.live ↔ ctx.has d := fun d => by simp [h.connIff p d, hq]
  have hev : (step s (.inner (.closed p c))).2 = .ev (.closed p) ↔ closeCtx ctx c = none := by
    by_cases hc : closeCtx ctx c = none <;> simp [step, pollEvent, onClosed_obs, hq, hc]
  rw [hev]
  constructor
  · intro hnone c' hc'
    refine Decidable.byContradiction fun hne => ?_
    obtain ⟨ctx', hc, _⟩ := (closeCtx_has ctx c c' (h.distinct p _ hq) hhas).mpr ⟨(hl c').mp hc', hne⟩
    rw [hnone] at hc; cases hc
  · intro hall
    cases hc : closeCtx ctx c with
    | none => rfl
    | some ctx' =>
      have := (closeCtx_has ctx c ctx'.primary (h.distinct p _ hq) hhas).mp ⟨ctx', hc, Or.inl rfl⟩
      exact absurd (hall _ ((hl _).mpr this.1)) this.2

theorem established_local {e : Env} {s : State} (h : Inv e s) (p c : Nat) :
    (step s (.inner (.established p c))).2 = .ev (.established p) ↔ ∀ c', (p, c') ∉ e.live := by
  have hev : (step s (.inner (.established p c))).2 = .ev (.established p) ↔ cget s.conns p = none := by
    cases hq : cget s.conns p <;> simp [step, pollEvent, onEstablished_obs, connected, hq]
  rw [hev]
  constructor
  · intro hq c' hm
    obtain ⟨ctx, hc, _⟩ := (h.connIff p c').mp hm
    rw [hq] at hc; cases hc
  · intro hall
    cases hq : cget s.conns p with
    | none => rfl
    | some ctx => exact absurd ((h.connIff p ctx.primary).mpr ⟨ctx, hq, Or.inl rfl⟩) (hall _)

theorem sub_local {e : Env} {s : State} (h : Inv e s) (op : Op) (hok : envOk e op = true) :
    (∀ p d, (step s op).2 = .ev (.subOpened p d) → connected s p = true) ∧
    (∀ sid, (step s op).2 = .ev (.subFailed sid) →
      ∃ p c, (sid, p, c) ∈ e.outstanding ∧ connected s p = true) := by
  have conn_of_live : ∀ p c, (p, c) ∈ e.live → connected s p = true := by
    intro p c hm
    obtain ⟨ctx, hc, _⟩ := (h.connIff p c).mp hm
    simp [connected, hc]
  refine ⟨fun p d ho => ?_, fun sid ho => ?_⟩
  · obtain ⟨c, rfl⟩ := (step_sub s op).1 p d ho
    cases d <;> simp only [envOk, List.contains_iff_mem] at hok
    · exact conn_of_live _ _ hok
    · exact conn_of_live _ _ (h.outLive _ _ _ hok)
  · rw [(step_sub s op).2 sid ho] at hok
    simp only [envOk, List.contains_iff_mem] at hok
    obtain ⟨p, c, hpc⟩ := mem_outstandingIds.mp hok
    exact ⟨p, c, hpc, conn_of_live _ _ (h.outLive _ _ _ hpc)⟩

/-! ### `force_close` at any point of a history -/

theorem run_append (pre post : List Op) : ∀ s : State, run s (pre ++ post) = run (run s pre) post := by
  induction pre with
  | nil => intro s; rfl
  | cons op rest ih => intro s; simp only [List.cons_append, run]; exact ih _

theorem trace_append (pre post : List Op) : ∀ s : State,
    trace s (pre ++ post) = trace s pre ++ trace (run s pre) post := by
  induction pre with
  | nil => intro s; rfl
  | cons op rest ih => intro s; simp only [List.cons_append, trace, run, ih]

theorem feasible_append (pre post : List Op) : ∀ (e : Env) (s : State),
    feasible e s (pre ++ post) = (feasible e s pre && feasible (envRun e s pre) (run s pre) post) := by
  induction pre with
  | nil => intro e s; simp [feasible, envRun, run]
  | cons op rest ih => intro e s; simp only [List.cons_append, feasible, envRun, run, ih, Bool.and_assoc]

/-- A call that changes neither state nor environment can be inserted anywhere. -/
theorem forceClose_insert (pre post : List Op) (s : State) (e : Env) (p : Peer) (sec prim : SendRes) :
    run s (pre ++ .forceClose p sec prim :: post) = run s (pre ++ post) ∧
    trace s (pre ++ .forceClose p sec prim :: post) =
      trace s pre ++ (step (run s pre) (.forceClose p sec prim)).2 :: trace (run s pre) post ∧
    feasible e s (pre ++ .forceClose p sec prim :: post) = feasible e s (pre ++ post) := by
  refine ⟨?_, ?_, ?_⟩
  · rw [run_append, run_append]; simp only [run, step_forceClose_state]
  · rw [trace_append]; simp only [trace, step_forceClose_state]
  · rw [feasible_append, feasible_append]
    simp only [feasible, envOk, envStep_forceClose, step_forceClose_state, Bool.true_and]

/-- Who is told to close: with room in both command channels exactly the connections of the peer's context, secondary
first; never a connection outside the context. -/
theorem forceClose_cmds (s : State) (p : Peer) (sec prim : SendRes) :
    (cget s.conns p = none → (step s (.forceClose p sec prim)).2 = .force (some .peerDoesntExist) []) ∧
    (∀ ctx, cget s.conns p = some ctx →
      (step s (.forceClose p .ok .ok)).2 = .force none (ctx.secondary.toList ++ [ctx.primary]) ∧
      ∀ r cs, (step s (.forceClose p sec prim)).2 = .force r cs → ∀ c ∈ cs, ctx.has c) := by
  constructor
  · intro h; simp [step, forceClose, h]
  · intro ctx h
    obtain ⟨a, b⟩ := ctx
    constructor
    · cases b <;> simp [step, forceClose, h, forceOne, forceSecondary]
    · intro r cs ho c hc
      simp only [step, forceClose, h, Obs.force.injEq] at ho
      obtain ⟨_, rfl⟩ := ho
      cases b <;> cases sec <;> cases prim <;> simp_all [forceOne, forceSecondary, Ctx.has] <;> omega

end Litep2pVerif.Service
