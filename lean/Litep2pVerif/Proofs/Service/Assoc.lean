import Litep2pVerif.Model.Service.KeepAlive
/-! The hash maps of the service models as association lists: lookup after insert / remove (`aget`, and `cget` of
`Model/Service/Conns.lean`, which is the same function). -/
namespace Litep2pVerif.Service.KA

theorem aget_aremove {β : Type} (m : List (Nat × β)) (x y : Nat) :
    aget (aremove m x) y = if y = x then none else aget m y := by
  induction m with
  | nil => simp [aremove, aget]
  | cons h t ih =>
    unfold aremove at ih ⊢
    by_cases hk : h.1 = x <;> by_cases hy : y = x <;> simp_all [aget, @eq_comm _ x y]

theorem aget_aput {β : Type} (m : List (Nat × β)) (x y : Nat) (v : β) :
    aget (aput m x v) y = if y = x then some v else aget m y := by
  by_cases hy : y = x <;> simp [aput, aget, aget_aremove, hy, @eq_comm _ x y]

theorem mem_aremove {β : Type} (m : List (Nat × β)) (x : Nat) (e : Nat × β) :
    e ∈ aremove m x ↔ e ∈ m ∧ e.1 ≠ x := by
  simp [aremove, List.mem_filter]

theorem mem_aput {β : Type} (m : List (Nat × β)) (x : Nat) (v : β) (e : Nat × β) :
    e ∈ aput m x v ↔ e = (x, v) ∨ (e ∈ m ∧ e.1 ≠ x) := by
  simp [aput, mem_aremove]

theorem aget_mem {β : Type} {m : List (Nat × β)} {x : Nat} {v : β} (h : aget m x = some v) : (x, v) ∈ m := by
  induction m with
  | nil => simp [aget] at h
  | cons a t ih => by_cases hk : a.1 = x <;> simp_all [aget, Prod.ext_iff]

theorem aget_none_key {β : Type} {m : List (Nat × β)} {x : Nat} (h : aget m x = none) : ∀ e ∈ m, e.1 ≠ x := by
  induction m with
  | nil => simp
  | cons a t ih =>
    by_cases hk : a.1 = x
    · simp [aget, hk] at h
    · simp only [aget, hk, if_false] at h
      simpa [hk] using ih h

end Litep2pVerif.Service.KA

namespace Litep2pVerif.Service
open KA

theorem cget_eq_aget (m : ConnMap) (p : Peer) : cget m p = aget m p := by
  induction m with
  | nil => rfl
  | cons a t ih => simp [cget, aget, ih]

theorem cget_cremove (m : ConnMap) (p q : Peer) :
    cget (cremove m p) q = if q = p then none else cget m q := by
  simp only [cget_eq_aget]; exact aget_aremove m p q

theorem cget_cput (m : ConnMap) (p q : Peer) (c : Ctx) :
    cget (cput m p c) q = if q = p then some c else cget m q := by
  simp only [cget_eq_aget]; exact aget_aput m p q c

end Litep2pVerif.Service
