import Litep2pVerif.Proofs.Service.Assoc
/-! Lemmas about one protocol's keep-alive state for C09 (`Props/C09.lean`): what a poll of the tracker does to
one key, the count of active handles. -/
namespace Litep2pVerif.Service.KA
open Litep2pVerif.Service

def Idle (T now : Nat) (last : List (Nat × Nat)) (c : Nat) : Prop := ∃ la, aget last c = some la ∧ T ≤ now - la

theorem fireOne_spec (T now : Nat) (acc : Tracker × List Nat) (t : Timer) (c : Nat) :
    (c ∈ (fireOne T now acc t).2 ↔ c ∈ acc.2 ∨ (t.key = c ∧ Idle T now acc.1.last c)) ∧
    (t.key = c ∧ Idle T now acc.1.last c → aget (fireOne T now acc t).1.last c = none) ∧
    (¬ (t.key = c ∧ Idle T now acc.1.last c) → aget (fireOne T now acc t).1.last c = aget acc.1.last c) := by
  unfold fireOne Idle
  by_cases hk : t.key = c
  · subst hk
    cases he : aget acc.1.last t.key with
    | none => simp [he]
    | some la =>
      by_cases hlt : now - la < T
      · simp [hlt, he, Nat.not_le.mpr hlt]
      · simp [hlt, aget_aremove, Nat.le_of_not_lt hlt]
  · cases aget acc.1.last t.key with
    | none => simp [hk]
    | some la => by_cases hlt : now - la < T <;> simp [hlt, hk, aget_aremove, Ne.symm hk]

theorem fold_spec (T now c : Nat) (ts : List Timer) : ∀ acc : Tracker × List Nat,
    (c ∈ (ts.foldl (fireOne T now) acc).2 ↔ c ∈ acc.2 ∨ ((∃ t ∈ ts, t.key = c) ∧ Idle T now acc.1.last c)) ∧
    ((∃ t ∈ ts, t.key = c) ∧ Idle T now acc.1.last c → aget (ts.foldl (fireOne T now) acc).1.last c = none) ∧
    (¬ ((∃ t ∈ ts, t.key = c) ∧ Idle T now acc.1.last c) →
      aget (ts.foldl (fireOne T now) acc).1.last c = aget acc.1.last c) := by
  induction ts with
  | nil => simp
  | cons t rest ih =>
    intro acc
    obtain ⟨s1, s2, s3⟩ := fireOne_spec T now acc t c
    obtain ⟨i1, i2, i3⟩ := ih (fireOne T now acc t)
    simp only [List.foldl, List.mem_cons, exists_eq_or_imp]
    by_cases hex : t.key = c ∧ Idle T now acc.1.last c
    · -- forgotten by this sleep: nothing later brings the entry back
      have hno : ¬ Idle T now (fireOne T now acc t).1.last c := by simp [Idle, s2 hex]
      have hlast := (i3 (fun h => hno h.2)).trans (s2 hex)
      exact ⟨by simp [i1, s1, hex, hno], fun _ => hlast, fun h => absurd ⟨Or.inl hex.1, hex.2⟩ h⟩
    · rw [Idle, s3 hex, ← Idle] at i1 i2 i3
      have hE : ((t.key = c ∨ ∃ x ∈ rest, x.key = c) ∧ Idle T now acc.1.last c) ↔
          ((∃ x ∈ rest, x.key = c) ∧ Idle T now acc.1.last c) :=
        ⟨fun ⟨h1, h2⟩ => ⟨h1.resolve_left fun hk => hex ⟨hk, h2⟩, h2⟩, fun ⟨h1, h2⟩ => ⟨Or.inr h1, h2⟩⟩
      rw [hE]
      exact ⟨by simp [i1, s1, hex], i2, i3⟩

theorem start_key (now : Nat) (t : Timer) : (t.start now).key = t.key := by
  unfold Timer.start; split <;> rfl

theorem pollRound_spec (T now c : Nat) (tr : Tracker) :
    (c ∈ (pollRound T now tr).2 ↔
      (∃ t ∈ tr.timers, t.key = c ∧ (t.start now).fired now = true) ∧ Idle T now tr.last c) ∧
    (c ∈ (pollRound T now tr).2 → aget (pollRound T now tr).1.last c = none) ∧
    (c ∉ (pollRound T now tr).2 → aget (pollRound T now tr).1.last c = aget tr.last c) := by
  obtain ⟨h1, h2, h3⟩ := fold_spec T now c ((tr.timers.map (Timer.start now)).filter (Timer.fired now))
    ({ tr with timers := (tr.timers.map (Timer.start now)).filter (fun t => !(Timer.fired now t)) }, [])
  simp only [List.not_mem_nil, false_or] at h1
  refine ⟨?_, fun h => h2 (h1.mp h), fun h => h3 (fun h' => h (h1.mpr h'))⟩
  rw [pollRound, h1]
  simp only [List.mem_filter, List.mem_map]
  constructor
  · rintro ⟨⟨_, ⟨⟨t, ht, rfl⟩, hf⟩, hk⟩, hi⟩; exact ⟨⟨t, ht, start_key now t ▸ hk, hf⟩, hi⟩
  · rintro ⟨⟨t, ht, hk, hf⟩, hi⟩; exact ⟨⟨_, ⟨⟨t, ht, rfl⟩, hf⟩, (start_key now t).trans hk⟩, hi⟩

theorem pollTimers_spec (T now c : Nat) (tr : Tracker) :
    (c ∈ (pollTimers T now tr).2 → Idle T now tr.last c) ∧
    (c ∉ (pollTimers T now tr).2 → aget (pollTimers T now tr).1.last c = aget tr.last c) := by
  unfold pollTimers
  simp only [List.mem_append, not_or]
  obtain ⟨a1, _, a3⟩ := pollRound_spec T now c tr
  obtain ⟨b1, _, b3⟩ := pollRound_spec T now c (pollRound T now tr).1
  refine ⟨fun hin => ?_, fun ⟨h1, h2⟩ => (b3 h2).trans (a3 h1)⟩
  by_cases h1 : c ∈ (pollRound T now tr).2
  · exact (a1.mp h1).2
  · -- reported by the second round: idle on the entry the first round left alone
    have := (b1.mp (hin.resolve_left h1)).2
    rwa [Idle, a3 h1] at this

def ctxHolds (ctx : KCtx) (c : Nat) : Nat :=
  (if ctx.primary.id = c ∧ ctx.primary.active then 1 else 0) +
  (match ctx.secondary with | some h => if h.id = c ∧ h.active then 1 else 0 | none => 0)

theorem holds_eq (s : Svc) (c : Nat) : s.holds c = (s.conns.map fun e => ctxHolds e.2 c).sum := rfl

/-- Slots hold different connections. -/
def Distinct (ctx : KCtx) : Prop := ∀ h, ctx.secondary = some h → h.id ≠ ctx.primary.id

theorem ctxHolds_pos (ctx : KCtx) (c : Nat) : 0 < ctxHolds ctx c ↔ ctx.activeFor c = true := by
  obtain ⟨⟨pid, pact⟩, _ | ⟨sid, sact⟩⟩ := ctx
  · by_cases hp : pid = c <;> cases pact <;> simp [ctxHolds, KCtx.activeFor, hp]
  · by_cases hp : pid = c <;> by_cases hs : sid = c <;> cases pact <;> cases sact <;>
      simp [ctxHolds, KCtx.activeFor, hp, hs]

theorem downgrade_other (ctx : KCtx) (c d : Nat) (h : d ≠ c) :
    ctxHolds (ctx.downgrade d) c = ctxHolds ctx c := by
  obtain ⟨⟨pid, pact⟩, sec⟩ := ctx
  unfold KCtx.downgrade ctxHolds
  by_cases hp : pid = d
  · subst hp; simp [Handle.close, h]
  · rcases sec with _ | ⟨sid, sact⟩
    · simp [hp]
    · by_cases hs : sid = d
      · subst hs; simp [hp, Handle.close, h]
      · simp [hp, hs]

theorem downgrade_self (ctx : KCtx) (c : Nat) (hd : Distinct ctx) :
    ctxHolds (ctx.downgrade c) c = 0 := by
  obtain ⟨⟨pid, pact⟩, sec⟩ := ctx
  unfold KCtx.downgrade ctxHolds
  by_cases hp : pid = c
  · rcases sec with _ | s
    · simp [hp, Handle.close]
    · have : ¬ s.id = c := fun h' => hd s rfl (h'.trans hp.symm)
      simp [hp, Handle.close, this]
  · rcases sec with _ | ⟨sid, sact⟩
    · simp [hp]
    · by_cases hs : sid = c <;> simp [hp, hs, Handle.close]

def SameIds (a b : KCtx) : Prop :=
  b.primary.id = a.primary.id ∧ b.secondary.map (·.id) = a.secondary.map (·.id)

theorem SameIds.distinct {a b : KCtx} (h : SameIds a b) (hd : Distinct a) : Distinct b := by
  obtain ⟨⟨pa, aa⟩, sa⟩ := a
  obtain ⟨⟨pb, ab⟩, sb⟩ := b
  obtain ⟨h1, h2⟩ := h
  simp only at h1 h2
  subst h1
  cases sa <;> cases sb <;> simp_all [Distinct]

theorem sameIds_downgrade (ctx : KCtx) (c : Nat) : SameIds ctx (ctx.downgrade c) := by
  obtain ⟨⟨pid, pact⟩, sec⟩ := ctx
  unfold KCtx.downgrade SameIds
  by_cases hp : pid = c
  · simp [hp, Handle.close]
  · rcases sec with _ | s
    · simp [hp]
    · by_cases hs : s.id = c <;> simp [hp, hs, Handle.close]

theorem downgradeAll_foldl (keys : List Nat) : ∀ conns : List (Nat × KCtx),
    keys.foldl downgradeAll conns = conns.map fun e => (e.1, keys.foldl KCtx.downgrade e.2) := by
  induction keys with
  | nil => intro conns; simp
  | cons d rest ih => intro conns; simp [ih, downgradeAll]

theorem downgrades_holds (keys : List Nat) (c : Nat) : ∀ ctx : KCtx, Distinct ctx →
    ctxHolds (keys.foldl KCtx.downgrade ctx) c = if c ∈ keys then 0 else ctxHolds ctx c := by
  induction keys with
  | nil => intro ctx _; simp
  | cons d rest ih =>
    intro ctx hd
    rw [List.foldl_cons, ih _ ((sameIds_downgrade ctx d).distinct hd)]
    by_cases hc : c ∈ rest
    · simp [hc]
    · by_cases hdc : d = c
      · simp [hdc, downgrade_self ctx c hd]
      · simp [hc, Ne.symm hdc, downgrade_other ctx c d hdc]

theorem poll_holds (s : Svc) (c now : Nat) (hd : ∀ e ∈ s.conns, Distinct e.2) :
    (s.pollKeepAlive now).holds c =
      if c ∈ (pollTimers s.T now s.tr).2 then 0 else s.holds c := by
  simp only [holds_eq, Svc.pollKeepAlive, downgradeAll_foldl, List.map_map, Function.comp_def]
  rw [List.map_congr_left (g := fun e => if c ∈ (pollTimers s.T now s.tr).2 then 0 else ctxHolds e.2 c)
    (fun e he => downgrades_holds _ c e.2 (hd e he))]
  by_cases hc : c ∈ (pollTimers s.T now s.tr).2
  · simp only [hc, if_true]
    exact List.sum_eq_zero_iff_forall_eq_nat.mpr fun x hx => by obtain ⟨_, _, rfl⟩ := List.mem_map.mp hx; rfl
  · simp [hc]

/-- The protocol tracks `c` (entry `la`) and a started sleep for it completes by `la + T`. -/
def Armed (svc : Svc) (c now : Nat) : Prop :=
  ∃ la, aget svc.tr.last c = some la ∧ la ≤ now ∧
    ∃ t ∈ svc.tr.timers, t.key = c ∧ ∃ d, t.deadline = some d ∧ d ≤ la + svc.T

theorem svc_poll_armed (s : Svc) (c now la : Nat) (hd : ∀ e ∈ s.conns, Distinct e.2)
    (hla : aget s.tr.last c = some la) (hle : la ≤ now)
    (ht : ∃ t ∈ s.tr.timers, t.key = c ∧ ∃ d, t.deadline = some d ∧ d ≤ la + s.T) :
    (now < la + s.T → (s.pollKeepAlive now).holds c = s.holds c) ∧
    (la + s.T ≤ now → (s.pollKeepAlive now).holds c = 0) := by
  rw [poll_holds s c now hd]
  constructor
  · intro hlt
    have hnot : c ∉ (pollTimers s.T now s.tr).2 := fun hin => by
      obtain ⟨la', hla', hge⟩ := (pollTimers_spec s.T now c s.tr).1 hin
      rw [hla] at hla'; cases hla'; omega
    rw [if_neg hnot]
  · intro hge
    obtain ⟨t, htm, hk, d, hdl, hdle⟩ := ht
    have hf : (t.start now).fired now = true := by
      simp only [Timer.start, hdl, Timer.fired, decide_eq_true_eq]
      omega
    -- the first round reports `c`
    have hin : c ∈ (pollTimers s.T now s.tr).2 :=
      List.mem_append_left _ ((pollRound_spec s.T now c s.tr).1.mpr ⟨⟨t, htm, hk, hf⟩, la, hla, by omega⟩)
    rw [if_pos hin]

/-- A substream of a keep-alive protocol on `c` exists or is being opened (or any other permit
carrier is around). -/
def Busy (s : Sys) (c : Nat) : Prop :=
  (∃ x ∈ s.queue, x.conn = c) ∨ (∃ x ∈ s.nego, x.conn = c) ∨
  (∃ i p d life, (i, Msg.subOpened p d c life) ∈ s.inbox) ∨ (∃ i, (i, c, true) ∈ s.subs)

theorem busy_permits (s : Sys) (c : Nat) (h : Busy s c) : 0 < permits s c := by
  have hf {α : Type} (l : List α) (P : α → Bool) (x : α) (hx : x ∈ l) (hp : P x = true) :
      0 < (l.filter P).length := List.length_pos_of_mem (List.mem_filter.mpr ⟨hx, hp⟩)
  unfold permits
  rcases h with ⟨x, hx, hc⟩ | ⟨x, hx, hc⟩ | ⟨i, p, d, life, hm⟩ | ⟨i, hm⟩
  · have := hf _ (fun x => x.conn == c) x hx (by simp [hc]); omega
  · have := hf _ (fun x => x.conn == c) x hx (by simp [hc]); omega
  · have : 0 < (s.inbox.map (fun m => msgHolds c m.2)).sum :=
      List.sum_pos_iff_exists_pos_nat.mpr
        ⟨_, List.mem_map.mpr ⟨_, hm, rfl⟩, by cases life <;> simp [msgHolds]⟩
    omega
  · have := hf _ (fun x => x.2.1 == c && x.2.2) _ hm (by simp); omega

theorem permits_tick (s : Sys) (dt c : Nat) : permits (s.advance dt).pollAll c = permits s c := rfl

theorem busy_tick (s : Sys) (dt c : Nat) (h : Busy s c) : Busy (s.advance dt).pollAll c := h

theorem exits_iff (s : Sys) (c : Nat) :
    exits s c = true ↔ (∀ svc ∈ s.svcs, svc.holds c = 0) ∧ permits s c = 0 := by
  simp [exits, strong, handles, Nat.add_eq_zero_iff, List.sum_eq_zero_iff_forall_eq_nat]

theorem exits_pollAll (s : Sys) (c : Nat) (hperm : permits s c = 0) :
    exits s.pollAll c = true ↔ ∀ svc ∈ s.svcs, (svc.pollKeepAlive s.now).holds c = 0 := by
  rw [exits_iff, and_iff_left (show permits s.pollAll c = 0 from hperm)]
  exact List.forall_mem_map

end Litep2pVerif.Service.KA
