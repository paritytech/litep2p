import Litep2pVerif.Proofs.Service.KeepAlive
import Litep2pVerif.Proofs.Common.List
/-! Reachability invariants of the keep-alive transition system (`Sys.step`) for C09 `idle_closed_at`: the tracker
invariant `TrackerOk` under activity, close and poll; one protocol's invariant `SvcInv` under each of its operations
(those on one peer's entry through the frame lemma `SvcInv.replace`); what a step of the system is (`step_kind`) and the system invariant
`SysInv` it keeps (`Reach.inv`); never late (`SvcInv.holder`, `holders_idle_exits`), never early (`never_early`); idle runs. -/
namespace Litep2pVerif.Service.KA
open Litep2pVerif.Service

/-- Timer `t` will have completed by `la + T`: started with such a deadline, or — not polled yet — its
duration ends by then if it is started now. -/
def Good (T now la : Nat) (t : Timer) : Prop :=
  match t.deadline with
  | some d => d ≤ la + T
  | none => now + t.timeout ≤ la + T

/-- Tracker invariant: every tracked connection has a sleep future that completes by
`last_activity + T`; no started sleep is overdue. -/
structure TrackerOk (T now : Nat) (tr : Tracker) : Prop where
  tracked : ∀ c la, aget tr.last c = some la → la ≤ now ∧ ∃ t ∈ tr.timers, t.key = c ∧ Good T now la t
  notOverdue : ∀ t ∈ tr.timers, ∀ d, t.deadline = some d → now ≤ d

theorem good_iff {T now la : Nat} {t : Timer} :
    Good T now la t ↔ t.deadline.getD (now + t.timeout) ≤ la + T := by
  unfold Good; cases t.deadline <;> rfl

theorem start_deadline (now : Nat) (t : Timer) :
    (t.start now).deadline = some (t.deadline.getD (now + t.timeout)) := by
  unfold Timer.start; split <;> simp [*]

theorem fired_start (now : Nat) (t : Timer) :
    (t.start now).fired now = decide (t.deadline.getD (now + t.timeout) ≤ now) := by
  rw [Timer.fired, start_deadline]

theorem activity_last (tr : Tracker) (c now T c' : Nat) :
    aget (tr.activity c now T).last c' = if c' = c then some now else aget tr.last c' := by
  unfold Tracker.activity
  cases aget tr.last c <;> simp [aget_aput]

theorem activity_tracked (tr : Tracker) (d now T c : Nat) (h : c = d ∨ aget tr.last c ≠ none) :
    aget (tr.activity d now T).last c ≠ none := by
  rw [activity_last]
  split
  · simp
  · exact h.resolve_left ‹_›

theorem mem_activity_timers (tr : Tracker) (c now T : Nat) (t : Timer) :
    t ∈ (tr.activity c now T).timers ↔ t ∈ tr.timers ∨ (aget tr.last c = none ∧ t = ⟨c, none, T⟩) := by
  unfold Tracker.activity
  cases aget tr.last c <;> simp

theorem activity_ok (tr : Tracker) (c now T : Nat) (h : TrackerOk T now tr) :
    TrackerOk T now (tr.activity c now T) := by
  constructor
  · intro c' la hla
    rw [activity_last] at hla
    split at hla
    · cases hla; subst c'
      refine ⟨Nat.le_refl _, ?_⟩
      cases he : aget tr.last c with
      | none => exact ⟨⟨c, none, T⟩, (mem_activity_timers ..).mpr (Or.inr ⟨he, rfl⟩), rfl, Nat.le_refl _⟩
      | some la0 =>
        obtain ⟨hle, t, ht, hk, hg⟩ := h.tracked c la0 he
        rw [good_iff] at hg
        exact ⟨t, (mem_activity_timers ..).mpr (Or.inl ht), hk, good_iff.mpr (by omega)⟩
    · obtain ⟨hle, t, ht, hk, hg⟩ := h.tracked c' la hla
      exact ⟨hle, t, (mem_activity_timers ..).mpr (Or.inl ht), hk, hg⟩
  · intro t ht d hd
    rcases (mem_activity_timers ..).mp ht with ht | ⟨_, rfl⟩
    · exact h.notOverdue t ht d hd
    · cases hd

theorem closed_last (tr : Tracker) (c c' : Nat) :
    aget (tr.closed c).last c' = if c' = c then none else aget tr.last c' := by
  simp [Tracker.closed, aget_aremove]

theorem closed_ok (tr : Tracker) (c now T : Nat) (h : TrackerOk T now tr) : TrackerOk T now (tr.closed c) := by
  refine ⟨fun c' la hla => ?_, h.notOverdue⟩
  rw [closed_last] at hla
  split at hla
  · cases hla
  · exact h.tracked c' la hla

/-- The clock may advance as far as the environment hypothesis allows. -/
theorem advance_ok (tr : Tracker) (T now dt : Nat) (h : TrackerOk T now tr)
    (hs : ∀ t ∈ tr.timers, ∃ d, t.deadline = some d ∧ now + dt ≤ d) : TrackerOk T (now + dt) tr := by
  constructor
  · intro c la hla
    obtain ⟨hle, t, ht, hk, hg⟩ := h.tracked c la hla
    obtain ⟨d, hd, _⟩ := hs t ht
    rw [good_iff, hd] at hg
    exact ⟨by omega, t, ht, hk, by rw [good_iff, hd]; exact hg⟩
  · intro t ht d hd
    obtain ⟨d', hd', hle⟩ := hs t ht
    rw [hd] at hd'; cases hd'; exact hle

/-- The sleep `fireOne` pushes for a completed sleep `t`. -/
def rearm (T now : Nat) (last : List (Nat × Nat)) (t : Timer) : Option Timer :=
  (aget last t.key).bind fun la => if now - la < T then some ⟨t.key, none, T - (now - la)⟩ else none

/-- `fireOne` forgets an entry only when it is idle for `T`, and such an entry re-arms nothing anyway: what later sleeps
re-arm can be read off the entries before. -/
theorem fireOne_timers (T now : Nat) (acc : Tracker × List Nat) (t : Timer) :
    (fireOne T now acc t).1.timers = acc.1.timers ++ (rearm T now acc.1.last t).toList ∧
    ∀ t', rearm T now (fireOne T now acc t).1.last t' = rearm T now acc.1.last t' := by
  unfold fireOne rearm
  cases h : aget acc.1.last t.key with
  | none => simp
  | some la =>
    by_cases hlt : now - la < T
    · simp [hlt]
    · simp only [hlt, if_false, Option.bind_some, Option.toList_none, List.append_nil, aget_aremove, true_and]
      intro t'
      by_cases hk : t'.key = t.key <;> simp [hk, h, hlt]

theorem fold_timers (T now : Nat) (ts : List Timer) : ∀ acc : Tracker × List Nat,
    (ts.foldl (fireOne T now) acc).1.timers = acc.1.timers ++ ts.filterMap (rearm T now acc.1.last) := by
  induction ts with
  | nil => intro acc; simp
  | cons t rest ih =>
    intro acc
    obtain ⟨h1, h2⟩ := fireOne_timers T now acc t
    rw [List.foldl_cons, ih, h1, funext h2, List.filterMap_cons]
    cases rearm T now acc.1.last t <;> simp

theorem mem_pollRound_timers {T now : Nat} {tr : Tracker} {x : Timer} :
    x ∈ (pollRound T now tr).1.timers ↔
      (x ∈ tr.timers.map (Timer.start now) ∧ x.fired now = false) ∨
      ∃ t ∈ tr.timers.map (Timer.start now), t.fired now = true ∧ rearm T now tr.last t = some x := by
  simp only [pollRound, fold_timers, List.mem_append, List.mem_filter, List.mem_filterMap, Bool.not_eq_true', and_assoc]

/-- Nothing a round leaves completes at this instant: the sleeps still running do not, the fresh ones have a positive
duration. -/
theorem pollRound_pending (T now : Nat) (tr : Tracker) :
    ∀ x ∈ (pollRound T now tr).1.timers, (x.start now).fired now = false := by
  intro x hx
  rcases mem_pollRound_timers.mp hx with ⟨hx, hf⟩ | ⟨t, _, _, hr⟩
  · obtain ⟨t, _, rfl⟩ := List.mem_map.mp hx
    rw [fired_start] at hf ⊢
    rwa [start_deadline]
  · obtain ⟨la, _, hr⟩ := Option.bind_eq_some_iff.mp hr
    split at hr
    · cases hr; simp [fired_start]; omega
    · cases hr

theorem pollRound_ok (T now : Nat) (tr : Tracker) (h : TrackerOk T now tr) : TrackerOk T now (pollRound T now tr).1 := by
  constructor
  · intro c la hla
    obtain ⟨s1, s2, s3⟩ := pollRound_spec T now c tr
    have hnotin : c ∉ (pollRound T now tr).2 := fun hin => by rw [s2 hin] at hla; cases hla
    rw [s3 hnotin] at hla
    obtain ⟨hle, t, ht, hk, hg⟩ := h.tracked c la hla
    have hts : t.start now ∈ tr.timers.map (Timer.start now) := List.mem_map.mpr ⟨t, ht, rfl⟩
    refine ⟨hle, ?_⟩
    by_cases hf : (t.start now).fired now = true
    · -- completed but not reported: `c` is not idle for `T`, the sleep is re-armed with the remaining time
      have hlt : now - la < T := Nat.lt_of_not_le fun hge => hnotin (s1.mpr ⟨⟨t, ht, hk, hf⟩, la, hla, hge⟩)
      refine ⟨⟨c, none, T - (now - la)⟩, mem_pollRound_timers.mpr (Or.inr ⟨_, hts, hf, ?_⟩), rfl, ?_⟩
      · simp [rearm, start_key, hk, hla, hlt]
      · rw [good_iff]; simp only [Option.getD_none]; omega
    · refine ⟨_, mem_pollRound_timers.mpr (Or.inl ⟨hts, by simpa using hf⟩), (start_key now t).trans hk, ?_⟩
      rw [good_iff, start_deadline]; exact good_iff.mp hg
  · intro x hx d hd
    have := pollRound_pending T now tr x hx
    rw [fired_start, hd] at this
    simp only [Option.getD_some, decide_eq_false_iff_not] at this
    omega

theorem pollTimers_ok (T now : Nat) (tr : Tracker) (h : TrackerOk T now tr) : TrackerOk T now (pollTimers T now tr).1 :=
  pollRound_ok T now _ (pollRound_ok T now tr h)

/-- The second round starts what the first one re-armed, and nothing completes in it. -/
theorem pollTimers_settled (T now : Nat) (tr : Tracker) :
    ∀ x ∈ (pollTimers T now tr).1.timers, ∃ d, x.deadline = some d ∧ now < d := by
  intro x hx
  rcases mem_pollRound_timers.mp hx with ⟨hx, hf⟩ | ⟨t, ht, hf, _⟩
  · obtain ⟨t, _, rfl⟩ := List.mem_map.mp hx
    exact ⟨_, start_deadline now t, by simpa [fired_start] using hf⟩
  · obtain ⟨t', ht', rfl⟩ := List.mem_map.mp ht
    rw [pollRound_pending T now tr t' ht'] at hf; cases hf

/-! ### connection contexts: which ids, which handles -/

def ctxHas (ctx : KCtx) (c : Nat) : Prop := ctx.primary.id = c ∨ ∃ h, ctx.secondary = some h ∧ h.id = c

def Svc.hasId (s : Svc) (c : Nat) : Prop := ∃ e ∈ s.conns, ctxHas e.2 c

theorem SameIds.has {a b : KCtx} (h : SameIds a b) (c : Nat) : ctxHas b c ↔ ctxHas a c := by
  obtain ⟨⟨pa, aa⟩, sa⟩ := a
  obtain ⟨⟨pb, ab⟩, sb⟩ := b
  obtain ⟨h1, h2⟩ := h
  simp only at h1 h2
  subst h1
  cases sa <;> cases sb <;> simp_all [ctxHas]

theorem SameIds.rfl' (a : KCtx) : SameIds a a := ⟨rfl, rfl⟩

theorem SameIds.trans {a b c : KCtx} (h1 : SameIds a b) (h2 : SameIds b c) : SameIds a c :=
  ⟨h2.1.trans h1.1, h2.2.trans h1.2⟩

theorem sameIds_downgrades (keys : List Nat) (ctx : KCtx) : SameIds ctx (keys.foldl KCtx.downgrade ctx) :=
  List.foldlRecOn keys KCtx.downgrade (SameIds.rfl' ctx) fun a h d _ => h.trans (sameIds_downgrade a d)

theorem tryUpgrade_id (h : Handle) (up : Bool) : (h.tryUpgrade up).id = h.id := by
  unfold Handle.tryUpgrade; split <;> rfl

theorem sameIds_tryUpgrade (ctx : KCtx) (c : Nat) (up : Bool) : SameIds ctx (ctx.tryUpgrade c up) := by
  obtain ⟨⟨pid, pact⟩, sec⟩ := ctx
  unfold KCtx.tryUpgrade SameIds
  by_cases hp : pid = c
  · simp [hp, tryUpgrade_id]
  · rcases sec with _ | s
    · simp [hp]
    · by_cases hs : s.id = c <;> simp [hp, hs, tryUpgrade_id]

/-- `open_substream` upgrades the primary handle, whatever its id. -/
theorem tryUpgrade_primary (ctx : KCtx) (up : Bool) :
    { ctx with primary := ctx.primary.tryUpgrade up } = ctx.tryUpgrade ctx.primary.id up := by
  simp [KCtx.tryUpgrade]

theorem tryUpgrade_other (ctx : KCtx) (c d : Nat) (up : Bool) (h : d ≠ c) :
    ctxHolds (ctx.tryUpgrade d up) c = ctxHolds ctx c := by
  obtain ⟨⟨pid, pact⟩, sec⟩ := ctx
  unfold KCtx.tryUpgrade ctxHolds
  by_cases hp : pid = d
  · subst hp; cases pact <;> simp [Handle.tryUpgrade, h]
  · rcases sec with _ | ⟨sid, sact⟩
    · simp [hp]
    · by_cases hs : sid = d
      · subst hs; cases sact <;> simp [hp, Handle.tryUpgrade, h]
      · simp [hp, hs]

theorem tryUpgrade_self (ctx : KCtx) (c : Nat) (h : ctxHas ctx c) : 0 < ctxHolds (ctx.tryUpgrade c true) c := by
  obtain ⟨⟨pid, pact⟩, sec⟩ := ctx
  unfold KCtx.tryUpgrade ctxHolds Handle.tryUpgrade
  by_cases hp : pid = c
  · cases pact <;> simp [hp] <;> omega
  · obtain ⟨⟨sid, sact⟩, rfl, hs⟩ := h.resolve_left hp
    simp only at hs
    cases sact <;> simp [hp, hs]

theorem ctxHolds_pos_has (ctx : KCtx) (c : Nat) (h : 0 < ctxHolds ctx c) : ctxHas ctx c := by
  obtain ⟨⟨pid, pact⟩, sec⟩ := ctx
  unfold ctxHolds at h
  unfold ctxHas
  by_cases hp : pid = c
  · exact Or.inl hp
  · rcases sec with _ | s
    · simp [hp] at h
    · by_cases hs : s.id = c
      · exact Or.inr ⟨s, rfl, hs⟩
      · simp [hp, hs] at h

theorem single_le (ctx : KCtx) (x : Handle) (hx : x = ctx.primary ∨ ctx.secondary = some x) (c : Nat) :
    (ctxHas ⟨x, none⟩ c → ctxHas ctx c) ∧ ctxHolds ⟨x, none⟩ c ≤ ctxHolds ctx c := by
  rcases hx with rfl | hx
  · exact ⟨fun h => Or.inl (by simpa [ctxHas] using h), by simp [ctxHolds]⟩
  · refine ⟨fun h => Or.inr ⟨x, hx, by simpa [ctxHas] using h⟩, ?_⟩
    simp only [ctxHolds, hx, Nat.add_zero]; omega

theorem sum_map_pos {α : Type} (f : α → Nat) (l : List α) : 0 < (l.map f).sum ↔ ∃ x ∈ l, 0 < f x := by
  rw [List.sum_pos_iff_exists_pos_nat]
  constructor
  · rintro ⟨_, hx, hpos⟩
    obtain ⟨a, ha, rfl⟩ := List.mem_map.mp hx
    exact ⟨a, ha, hpos⟩
  · rintro ⟨a, ha, hpos⟩; exact ⟨_, List.mem_map.mpr ⟨a, ha, rfl⟩, hpos⟩

theorem holds_pos_iff (s : Svc) (c : Nat) : 0 < s.holds c ↔ ∃ e ∈ s.conns, 0 < ctxHolds e.2 c :=
  sum_map_pos _ _

/-! ### keys of the connection map are unique -/

def KeysOk (m : List (Nat × KCtx)) : Prop := ∀ e ∈ m, aget m e.1 = some e.2

theorem keys_aput {m : List (Nat × KCtx)} (h : KeysOk m) (p : Nat) (v : KCtx) : KeysOk (aput m p v) := by
  intro e he
  rw [aget_aput]
  rcases (mem_aput _ _ _ _).mp he with rfl | ⟨he, hk⟩
  · simp
  · simp only [hk, if_false]; exact h e he

theorem keys_aremove {m : List (Nat × KCtx)} (h : KeysOk m) (p : Nat) : KeysOk (aremove m p) := by
  intro e he
  rw [aget_aremove]
  obtain ⟨he, hk⟩ := (mem_aremove _ _ _).mp he
  simp only [hk, if_false]; exact h e he

theorem aget_map (f : KCtx → KCtx) (m : List (Nat × KCtx)) (k : Nat) :
    aget (m.map fun e => (e.1, f e.2)) k = (aget m k).map f := by
  induction m with
  | nil => rfl
  | cons a t ih => by_cases hk : a.1 = k <;> simp [aget, hk, ih]

theorem keys_map {m : List (Nat × KCtx)} (h : KeysOk m) (f : KCtx → KCtx) :
    KeysOk (m.map fun e => (e.1, f e.2)) := by
  intro e he
  obtain ⟨e0, he0, rfl⟩ := List.mem_map.mp he
  rw [aget_map, h e0 he0]; rfl

structure SvcInv (peer : Nat → Nat) (now : Nat) (svc : Svc) : Prop where
  keys : KeysOk svc.conns
  distinct : ∀ e ∈ svc.conns, Distinct e.2
  peerOk : ∀ e ∈ svc.conns, ∀ c, ctxHas e.2 c → peer c = e.1
  tr : TrackerOk svc.T now svc.tr
  /-- an active handle is always tracked -/
  held : ∀ c, 0 < svc.holds c → aget svc.tr.last c ≠ none

variable {peer : Nat → Nat} {now : Nat}

theorem mem_conns_holds (s : Svc) (e : Nat × KCtx) (he : e ∈ s.conns) (c : Nat) (h : 0 < ctxHolds e.2 c) :
    0 < s.holds c := (holds_pos_iff s c).mpr ⟨e, he, h⟩

/-- The shape all operations on one peer share. Entries of other peers hold only connections of their own peer, so the
tracker has to keep just those. -/
theorem SvcInv.replace {s : Svc} (h : SvcInv peer now s) (p : Nat)
    {conns' : List (Nat × KCtx)} {tr' : Tracker} (hk : KeysOk conns') (htr : TrackerOk s.T now tr')
    (hmem : ∀ e ∈ conns', (e ∈ s.conns ∧ e.1 ≠ p) ∨ (e.1 = p ∧ Distinct e.2 ∧
      ∀ c, ctxHas e.2 c → peer c = p ∧ (0 < ctxHolds e.2 c → aget tr'.last c ≠ none)))
    (hkeep : ∀ c, peer c ≠ p → aget s.tr.last c ≠ none → aget tr'.last c ≠ none) :
    SvcInv peer now { s with tr := tr', conns := conns' } := by
  refine ⟨hk, fun e he => ?_, fun e he c hc => ?_, htr, fun c hpos => ?_⟩
  · rcases hmem e he with ⟨he, _⟩ | ⟨_, hd, _⟩
    · exact h.distinct e he
    · exact hd
  · rcases hmem e he with ⟨he, _⟩ | ⟨hp, _, hc'⟩
    · exact h.peerOk e he c hc
    · exact hp ▸ (hc' c hc).1
  · obtain ⟨e, he, hpe⟩ := (holds_pos_iff _ c).mp hpos
    have hhas := ctxHolds_pos_has _ _ hpe
    rcases hmem e he with ⟨he, hne⟩ | ⟨_, _, hc'⟩
    · exact hkeep c (fun hpc => hne ((h.peerOk e he c hhas).symm.trans hpc)) (h.held c (mem_conns_holds s e he c hpe))
    · exact (hc' c hhas).2 hpe

theorem SvcInv.touch {s : Svc} (h : SvcInv peer now s) (p d : Nat) (ctx' : KCtx)
    (hd : Distinct ctx') (hp : ∀ c, ctxHas ctx' c → peer c = p)
    (hh : ∀ c, 0 < ctxHolds ctx' c → c = d ∨ 0 < s.holds c)
    (hge : ∀ ctx, aget s.conns p = some ctx → ∀ c, 0 < ctxHolds ctx c → 0 < ctxHolds ctx' c)
    (s' : Svc) (hs : s' = { s with tr := s.tr.activity d now s.T, conns := aput s.conns p ctx' }) :
    SvcInv peer now s' ∧ (∀ c, s'.hasId c → ctxHas ctx' c ∨ s.hasId c) ∧ (∀ c, 0 < s.holds c → 0 < s'.holds c) := by
  subst hs
  have htracked := activity_tracked s.tr d now s.T
  refine ⟨h.replace p (keys_aput h.keys p ctx') (activity_ok _ _ _ _ h.tr) (fun e he => ?_)
    (fun c _ hc => htracked c (Or.inr hc)), fun c ⟨e, he, hc⟩ => ?_, fun c hpos => ?_⟩
  · rcases (mem_aput _ _ _ _).mp he with rfl | he
    · exact Or.inr ⟨rfl, hd, fun c hc => ⟨hp c hc, fun hpos => htracked c ((hh c hpos).imp_right (h.held c))⟩⟩
    · exact Or.inl he
  · rcases (mem_aput _ _ _ _).mp he with rfl | ⟨he, _⟩
    · exact Or.inl hc
    · exact Or.inr ⟨e, he, hc⟩
  · obtain ⟨e, he, hpe⟩ := (holds_pos_iff s c).mp hpos
    apply (holds_pos_iff _ c).mpr
    by_cases hkp : e.1 = p
    · exact ⟨(p, ctx'), (mem_aput _ _ _ _).mpr (Or.inl rfl), hge e.2 (hkp ▸ h.keys e he) c hpe⟩
    · exact ⟨e, (mem_aput _ _ _ _).mpr (Or.inr ⟨he, hkp⟩), hpe⟩

theorem SvcInv.upgrade {s : Svc} (h : SvcInv peer now s) (p d : Nat) (ctx : KCtx)
    (hg : aget s.conns p = some ctx) (s' : Svc)
    (hs : s' = { s with tr := s.tr.activity d now s.T, conns := aput s.conns p (ctx.tryUpgrade d true) }) :
    SvcInv peer now s' ∧ (∀ c, s'.hasId c → s.hasId c) ∧ (∀ c, 0 < s.holds c → 0 < s'.holds c) := by
  have hmem := aget_mem hg
  have hsame := sameIds_tryUpgrade ctx d true
  obtain ⟨k1, k2, k3⟩ := h.touch p d (ctx.tryUpgrade d true) (hsame.distinct (h.distinct _ hmem))
    (fun c hc => h.peerOk _ hmem c ((hsame.has c).mp hc))
    (fun c hpos => by
      by_cases hc : c = d
      · exact Or.inl hc
      · rw [tryUpgrade_other ctx c d true (Ne.symm hc)] at hpos
        exact Or.inr (mem_conns_holds s _ hmem c hpos))
    (fun ctx0 hc0 c hpos => by
      rw [hg] at hc0; cases hc0
      by_cases hc : c = d
      · exact hc ▸ tryUpgrade_self ctx c (ctxHolds_pos_has ctx c hpos)
      · rwa [tryUpgrade_other ctx c d true (Ne.symm hc)]) s' hs
  exact ⟨k1, fun c hc => (k2 c hc).elim (fun hc => ⟨_, hmem, (hsame.has c).mp hc⟩) id, k3⟩

theorem inv_activity_only {s : Svc} (h : SvcInv peer now s) (c : Nat) :
    SvcInv peer now { s with tr := s.tr.activity c now s.T } :=
  ⟨h.keys, h.distinct, h.peerOk, activity_ok _ _ _ _ h.tr,
    fun c' hpos => activity_tracked _ _ _ _ _ (Or.inr (h.held c' hpos))⟩

theorem onEstablished_inv (s : Svc) (p c : Nat) (h : SvcInv peer now s)
    (hp : peer c = p) (hfresh : ¬ s.hasId c) :
    SvcInv peer now (s.onEstablished p c now).1 ∧
    (∀ c', (s.onEstablished p c now).1.hasId c' → s.hasId c' ∨ c' = c) ∧
    (∀ c', 0 < s.holds c' → 0 < (s.onEstablished p c now).1.holds c') := by
  unfold Svc.onEstablished
  cases hg : aget s.conns p with
  | none =>
    obtain ⟨k1, k2, k3⟩ := h.touch p c ⟨⟨c, true⟩, none⟩ (by simp [Distinct]) (by simpa [ctxHas] using hp)
      (fun c' hpos => Or.inl (by simpa [ctxHas, eq_comm] using ctxHolds_pos_has _ _ hpos))
      (fun ctx hc => by rw [hg] at hc; cases hc) _ rfl
    exact ⟨k1, fun c' hc' => (k2 c' hc').elim (fun hc => Or.inr (by simpa [ctxHas, eq_comm] using hc)) Or.inl, k3⟩
  | some ctx =>
    have hmem := aget_mem hg
    simp only []
    cases hsec : ctx.secondary with
    | some x => exact ⟨h, fun c' hc' => Or.inl hc', fun _ hc => hc⟩
    | none =>
      simp only []
      have hpc : ctx.primary.id ≠ c := fun e => hfresh ⟨(p, ctx), hmem, Or.inl e⟩
      have hholds : ∀ c', ctxHolds { ctx with secondary := some ⟨c, true⟩ } c' =
          ctxHolds ctx c' + if c = c' then 1 else 0 := by simp [ctxHolds, hsec]
      have hhas : ∀ c', ctxHas { ctx with secondary := some ⟨c, true⟩ } c' → ctxHas ctx c' ∨ c' = c := by
        simp only [ctxHas, Option.some.injEq, exists_eq_left']
        exact fun c' hc' => hc'.imp Or.inl Eq.symm
      obtain ⟨k1, k2, k3⟩ := h.touch p c { ctx with secondary := some ⟨c, true⟩ }
        (by simpa [Distinct] using Ne.symm hpc)
        (fun c' hc' => (hhas c' hc').elim (h.peerOk _ hmem c') (fun e => e ▸ hp))
        (fun c' hpos => by
          rw [hholds] at hpos
          by_cases hc : c = c'
          · exact Or.inl hc.symm
          · exact Or.inr (mem_conns_holds s _ hmem c' (by simpa [hc] using hpos)))
        (fun ctx0 hc0 c' hpos => by rw [hg] at hc0; cases hc0; rw [hholds]; omega) _ rfl
      exact ⟨k1, fun c' hc' => (k2 c' hc').elim (fun hc => (hhas c' hc).imp_left fun hc => ⟨_, hmem, hc⟩) Or.inl, k3⟩

theorem SvcInv.close {s : Svc} (h : SvcInv peer now s) (p d : Nat) (hp : peer d = p)
    {conns' : List (Nat × KCtx)} (hk : KeysOk conns')
    (hmem : ∀ e ∈ conns', (e ∈ s.conns ∧ e.1 ≠ p) ∨ ∃ ctx x, aget s.conns p = some ctx ∧
      (x = ctx.primary ∨ ctx.secondary = some x) ∧ x.id ≠ d ∧ e = (p, ⟨x, none⟩)) :
    SvcInv peer now { s with tr := s.tr.closed d, conns := conns' } ∧
    (∀ c, Svc.hasId { s with tr := s.tr.closed d, conns := conns' } c → s.hasId c) := by
  refine ⟨h.replace p hk (closed_ok _ _ _ _ h.tr) (fun e he => ?_) (fun c hc hl => ?_), fun c ⟨e, he, hc⟩ => ?_⟩
  · rcases hmem e he with he | ⟨ctx, x, hg, hx, hne, rfl⟩
    · exact Or.inl he
    · have hm := aget_mem hg
      refine Or.inr ⟨rfl, by simp [Distinct], fun c hc => ⟨h.peerOk _ hm c ((single_le ctx x hx c).1 hc), fun hpos => ?_⟩⟩
      have hcd : c ≠ d := fun e => hne ((by simpa [ctxHas] using hc : x.id = c).trans e)
      rw [closed_last, if_neg hcd]
      exact h.held c (mem_conns_holds s _ hm c (Nat.lt_of_lt_of_le hpos (single_le ctx x hx c).2))
  · rw [closed_last, if_neg (fun e => hc (by rw [e]; exact hp))]; exact hl
  · rcases hmem e he with ⟨he, _⟩ | ⟨ctx, x, hg, hx, _, rfl⟩
    · exact ⟨e, he, hc⟩
    · exact ⟨_, aget_mem hg, (single_le ctx x hx c).1 hc⟩

theorem onClosed_inv (s : Svc) (p c : Nat) (h : SvcInv peer now s) (hp : peer c = p) :
    SvcInv peer now (s.onClosed p c).1 ∧ (∀ c', (s.onClosed p c).1.hasId c' → s.hasId c') := by
  unfold Svc.onClosed
  simp only []
  cases hg : aget s.conns p with
  | none => exact h.close p c hp h.keys fun e he => Or.inl ⟨he, aget_none_key hg e he⟩
  | some ctx =>
    have hput : ∀ x, (x = ctx.primary ∨ ctx.secondary = some x) → x.id ≠ c → ∀ e ∈ aput s.conns p ⟨x, none⟩,
        (e ∈ s.conns ∧ e.1 ≠ p) ∨ ∃ ctx x, aget s.conns p = some ctx ∧
          (x = ctx.primary ∨ ctx.secondary = some x) ∧ x.id ≠ c ∧ e = (p, ⟨x, none⟩) :=
      fun x hx hne e he => ((mem_aput _ _ _ _).mp he).symm.imp_right fun he => ⟨ctx, x, hg, hx, hne, he⟩
    simp only []
    by_cases hpc : ctx.primary.id = c
    · simp only [hpc, if_true]
      cases hsec : ctx.secondary with
      | none => exact h.close p c hp (keys_aremove h.keys p) fun e he => Or.inl ((mem_aremove _ _ _).mp he)
      | some x =>
        exact h.close p c hp (keys_aput h.keys p _) (hput x (Or.inr hsec)
          fun e => h.distinct _ (aget_mem hg) x hsec (e.trans hpc.symm))
    · simp only [hpc, if_false]
      exact h.close p c hp (keys_aput h.keys p _) (hput _ (Or.inl rfl) hpc)

theorem openSubstream_inv (s : Svc) (p : Nat) (up : Bool) (send : SendRes) (sid : Nat)
    (h : SvcInv peer now s) :
    SvcInv peer now (s.openSubstream p now up send sid).1 ∧
    (∀ c', (s.openSubstream p now up send sid).1.hasId c' → s.hasId c') ∧
    (∀ c', 0 < s.holds c' → 0 < (s.openSubstream p now up send sid).1.holds c') := by
  have hsame : SvcInv peer now s ∧ (∀ c', s.hasId c' → s.hasId c') ∧ ∀ c', 0 < s.holds c' → 0 < s.holds c' :=
    ⟨h, fun _ hc => hc, fun _ hc => hc⟩
  unfold Svc.openSubstream
  cases hg : aget s.conns p with
  | none => exact hsame
  | some ctx =>
    simp only []
    by_cases hu : (ctx.primary.active || up) = false
    · rw [if_pos hu]; exact hsame
    · rw [if_neg hu]
      by_cases hka : s.ka = true
      · rw [if_pos hka, tryUpgrade_primary]
        cases send <;> exact h.upgrade p ctx.primary.id ctx hg _ rfl
      · rw [if_neg hka]
        cases send <;> exact hsame

theorem onSubstreamOpened_inv (s : Svc) (p c : Nat) (h : SvcInv peer now s) :
    SvcInv peer now (s.onSubstreamOpened p c now) ∧
    (∀ c', (s.onSubstreamOpened p c now).hasId c' → s.hasId c') ∧
    (∀ c', 0 < s.holds c' → 0 < (s.onSubstreamOpened p c now).holds c') := by
  unfold Svc.onSubstreamOpened
  by_cases hka : s.ka = true
  · rw [if_pos hka]
    simp only []
    cases hg : aget s.conns p with
    | none => exact ⟨inv_activity_only h c, fun _ hc => hc, fun _ hc => hc⟩
    | some ctx => exact h.upgrade p c ctx hg _ rfl
  · rw [if_neg hka]; exact ⟨h, fun _ hc => hc, fun _ hc => hc⟩

theorem pollKeepAlive_inv (s : Svc) (h : SvcInv peer now s) :
    SvcInv peer now (s.pollKeepAlive now) ∧ (∀ c', (s.pollKeepAlive now).hasId c' → s.hasId c') := by
  have hids : ∀ e' ∈ (s.pollKeepAlive now).conns, ∃ e ∈ s.conns, e'.1 = e.1 ∧ SameIds e.2 e'.2 := by
    intro e' he'
    simp only [Svc.pollKeepAlive, downgradeAll_foldl, List.mem_map] at he'
    obtain ⟨e, he, rfl⟩ := he'
    exact ⟨e, he, rfl, sameIds_downgrades _ _⟩
  refine ⟨⟨?_, ?_, ?_, pollTimers_ok _ _ _ h.tr, ?_⟩, ?_⟩
  · simp only [Svc.pollKeepAlive, downgradeAll_foldl]; exact keys_map h.keys ((pollTimers s.T now s.tr).2.foldl KCtx.downgrade)
  · intro e' he'
    obtain ⟨e, he, _, hs⟩ := hids e' he'
    exact hs.distinct (h.distinct e he)
  · intro e' he' c' hc'
    obtain ⟨e, he, hk, hs⟩ := hids e' he'
    rw [hk]; exact h.peerOk e he c' ((hs.has c').mp hc')
  · intro c' hpos
    rw [poll_holds s c' now h.distinct] at hpos
    by_cases hin : c' ∈ (pollTimers s.T now s.tr).2
    · simp [hin] at hpos
    · simp only [hin, if_false] at hpos
      show aget (pollTimers s.T now s.tr).1.last c' ≠ none
      rw [(pollTimers_spec s.T now c' s.tr).2 hin]
      exact h.held c' hpos
  · rintro c' ⟨e', he', hc'⟩
    obtain ⟨e, he, _, hs⟩ := hids e' he'
    exact ⟨e, he, (hs.has c').mp hc'⟩

/-- Never early, for one protocol: its poll takes the handle of `c` away only after the whole timeout. -/
theorem pollKeepAlive_drop (s : Svc) (h : SvcInv peer now s) (c : Nat) :
    ((s.pollKeepAlive now).holds c = s.holds c ∧ aget (s.pollKeepAlive now).tr.last c = aget s.tr.last c) ∨
    ((s.pollKeepAlive now).holds c = 0 ∧ ∀ la, aget s.tr.last c = some la → la + s.T ≤ now) := by
  rw [poll_holds s c now h.distinct]
  by_cases hin : c ∈ (pollTimers s.T now s.tr).2
  · obtain ⟨la, hla, hge⟩ := (pollTimers_spec s.T now c s.tr).1 hin
    have := (h.tr.tracked c la hla).1
    exact Or.inr ⟨if_pos hin, fun la' hla' => by rw [hla] at hla'; cases hla'; omega⟩
  · exact Or.inl ⟨if_neg hin, (pollTimers_spec s.T now c s.tr).2 hin⟩

/-! ### the system invariant -/

theorem splitFirst_spec (i : Nat) : ∀ (l pre post : List (Nat × Msg)) (m : Msg),
    splitFirst i l = some (pre, m, post) → l = pre ++ (i, m) :: post ∧ ∀ x ∈ pre, x.1 ≠ i := by
  intro l
  induction l with
  | nil => intro pre post m h; cases h
  | cons x r ih =>
    intro pre post m h
    unfold splitFirst at h
    split at h
    · cases h; subst i; exact ⟨rfl, fun _ h => by cases h⟩
    · split at h
      · cases h
        obtain ⟨e, hp⟩ := ih _ _ _ ‹_›
        exact ⟨by rw [e]; rfl, List.forall_mem_cons.mpr ⟨‹_›, hp⟩⟩
      · cases h

/-- Two `ConnectionEstablished` for the same connection never wait for the same protocol. -/
def EstOnce (a b : Nat × Msg) : Prop :=
  ∀ p p' c, a.2 = Msg.established p c → b.2 = Msg.established p' c → a.1 ≠ b.1

structure SysInv (peer : Nat → Nat) (n : Nat) (s : Sys) : Prop where
  svc : ∀ svc ∈ s.svcs, SvcInv peer s.now svc
  idsLt : ∀ svc ∈ s.svcs, ∀ c, svc.hasId c → c < n
  est : ∀ i p c, (i, Msg.established p c) ∈ s.inbox → c < n ∧ peer c = p
  closedPeer : ∀ i p c, (i, Msg.closed p c) ∈ s.inbox → peer c = p
  estFresh : ∀ i p c svc, (i, Msg.established p c) ∈ s.inbox → s.svcs[i]? = some svc → ¬ svc.hasId c
  estOnce : s.inbox.Pairwise EstOnce

variable {n n' : Nat} {s s' : Sys}

theorem getElem?_setSvc {svcs : List Svc} {j i : Nat} {v w : Svc} (h : (setSvc svcs j v)[i]? = some w) :
    (j = i ∧ w = v) ∨ (j ≠ i ∧ svcs[i]? = some w) := by
  rw [setSvc, List.getElem?_set] at h
  split at h
  · split at h
    · cases h; exact Or.inl ⟨‹_›, rfl⟩
    · cases h
  · exact Or.inr ⟨‹_›, h⟩

/-- Steps that leave the protocols alone: messages leave the channels (`mid`), the connection tasks append others
(`extra`). -/
theorem SysInv.frame (h : SysInv peer n s) (hnn : n ≤ n') (hs : s'.svcs = s.svcs) (hn : s'.now = s.now)
    (mid extra : List (Nat × Msg)) (hmid : mid.Sublist s.inbox) (hin : s'.inbox = mid ++ extra)
    (hpw : extra.Pairwise EstOnce)
    (hex : ∀ x ∈ extra, (∀ p c, x.2 = Msg.established p c → n ≤ c ∧ c < n' ∧ peer c = p) ∧
      (∀ p c, x.2 = Msg.closed p c → peer c = p)) : SysInv peer n' s' := by
  have hmem : ∀ i p c, (i, Msg.established p c) ∈ s'.inbox →
      (i, Msg.established p c) ∈ s.inbox ∨ (n ≤ c ∧ c < n' ∧ peer c = p) := by
    intro i p c hm
    rw [hin] at hm
    exact (List.mem_append.mp hm).imp (fun hm => hmid.subset hm) (fun hm => (hex _ hm).1 p c rfl)
  refine ⟨by rw [hs, hn]; exact h.svc, fun svc hsvc c hc => Nat.lt_of_lt_of_le (h.idsLt svc (hs ▸ hsvc) c hc) hnn,
    fun i p c hm => ?_, fun i p c hm => ?_, fun i p c svc hm hsv hid => ?_, ?_⟩
  · rcases hmem i p c hm with hm | ⟨_, hlt, hp⟩
    · exact ⟨Nat.lt_of_lt_of_le (h.est i p c hm).1 hnn, (h.est i p c hm).2⟩
    · exact ⟨hlt, hp⟩
  · rw [hin] at hm
    rcases List.mem_append.mp hm with hm | hm
    · exact h.closedPeer i p c (hmid.subset hm)
    · exact (hex _ hm).2 p c rfl
  · rw [hs] at hsv
    rcases hmem i p c hm with hm | ⟨hge, _⟩
    · exact h.estFresh i p c svc hm hsv hid
    · exact Nat.not_lt_of_le hge (h.idsLt svc (List.mem_of_getElem? hsv) c hid)
  · rw [hin, List.pairwise_append]
    refine ⟨h.estOnce.sublist hmid, hpw, fun a ha b hb p p' c ha2 hb2 => ?_⟩
    -- an old message is for a connection below `n`, a new one is not
    have := (h.est a.1 p c (ha2 ▸ hmid.subset ha)).1
    have := ((hex b hb).1 p' c hb2).1
    omega

/-- Steps of protocol `i`: its state changes, it may have taken a message out of its channel. -/
theorem SysInv.update {peer : Nat → Nat} {n : Nat} {s s' : Sys} (h : SysInv peer n s) (i : Nat) (svc' : Svc)
    (hs : s'.svcs = setSvc s.svcs i svc') (hn : s'.now = s.now) (hsub : s'.inbox.Sublist s.inbox)
    (hinv : SvcInv peer s.now svc') (hids : ∀ c, svc'.hasId c → c < n)
    (hfresh : ∀ p c, (i, Msg.established p c) ∈ s'.inbox → ¬ svc'.hasId c) : SysInv peer n s' := by
  have hset : ∀ x ∈ s'.svcs, x ∈ s.svcs ∨ x = svc' := by
    intro x hx; rw [hs] at hx; exact List.mem_or_eq_of_mem_set hx
  refine ⟨?_, ?_, fun j p c hm => h.est j p c (hsub.subset hm), fun j p c hm => h.closedPeer j p c (hsub.subset hm),
    ?_, h.estOnce.sublist hsub⟩
  · intro x hx
    rw [hn]
    rcases hset x hx with hx | rfl
    · exact h.svc x hx
    · exact hinv
  · intro x hx
    rcases hset x hx with hx | rfl
    · exact h.idsLt x hx
    · exact hids
  · intro j p c x hm hx
    rcases getElem?_setSvc (hs ▸ hx) with ⟨rfl, rfl⟩ | ⟨_, hx⟩
    · exact hfresh p c hm
    · exact h.estFresh j p c x (hsub.subset hm) hx

theorem timersSettled_spec (s : Sys) (dt : Nat) (h : timersSettled s dt = true) :
    ∀ svc ∈ s.svcs, ∀ t ∈ svc.tr.timers, ∃ d, t.deadline = some d ∧ s.now + dt ≤ d := by
  simp only [timersSettled, List.all_eq_true] at h
  intro svc hsvc t ht
  have := h svc hsvc t ht
  split at this
  · exact ⟨_, ‹_›, by simpa using this⟩
  · cases this

/-- Reachable states: from a system without connections by the real operations, under the environment
hypothesis built into `Sys.step` (`advance`). The `Nat` is the ghost counter of connection ids. -/
inductive Reach (peer : Nat → Nat) : Nat → Sys → Prop
  | init (cfg : List (Bool × Nat)) : Reach peer 0 (Sys.init cfg)
  | step {n n' : Nat} {s s' : Sys} (l : Label) : Reach peer n s → s.step peer n l = some (n', s') → Reach peer n' s'

theorem init_inv (peer : Nat → Nat) (cfg : List (Bool × Nat)) : SysInv peer 0 (Sys.init cfg) := by
  have hsv : ∀ svc ∈ (Sys.init cfg).svcs, ∃ ka T, svc = { ka := ka, T := T } := by
    intro svc hsvc
    obtain ⟨x, _, rfl⟩ := List.mem_map.mp hsvc
    exact ⟨_, _, rfl⟩
  refine ⟨fun svc hsvc => ?_, fun svc hsvc c hc => ?_, nofun, nofun, nofun, List.Pairwise.nil⟩
  · obtain ⟨ka, T, rfl⟩ := hsv svc hsvc
    exact ⟨nofun, nofun, nofun, ⟨nofun, nofun⟩, fun c hpos => by cases hpos⟩
  · obtain ⟨ka, T, rfl⟩ := hsv svc hsvc
    obtain ⟨e, he, _⟩ := hc
    cases he

def Svc.onMsg (svc : Svc) (now : Nat) : Msg → Svc
  | .established p c => (svc.onEstablished p c now).1
  | .closed p c => (svc.onClosed p c).1
  | .subOpened p _ c _ => svc.onSubstreamOpened p c now
  | .subFailed _ => svc

def idleLabel : Label → Bool
  | .advance _ => true
  | .poll _ => true
  | _ => false

inductive SvcOp (s : Sys) (j : Nat) (svc : Svc) (l : Label) (svc' : Svc) (inbox' : List (Nat × Msg)) : Prop
  | «open» (p : Nat) (up : Bool) (send : SendRes) (sid : Nat) :
      svc' = (svc.openSubstream p s.now up send sid).1 → inbox' = s.inbox → SvcOp s j svc l svc' inbox'
  | deliver (pre post : List (Nat × Msg)) (m : Msg) : l = .deliver j → svc' = svc.onMsg s.now m →
      s.inbox = pre ++ (j, m) :: post → inbox' = pre ++ post → SvcOp s j svc l svc' inbox'
  | poll : l = .poll j → svc' = svc.pollKeepAlive s.now → inbox' = s.inbox → SvcOp s j svc l svc' inbox'

/-- `task`: a connection task (or nobody) moves. -/
inductive StepKind (peer : Nat → Nat) (n : Nat) (s : Sys) (l : Label) (n' : Nat) (s' : Sys) : Prop
  | established (c : Nat) : n ≤ c → n' = c + 1 → s' = s.established (peer c) c →
      StepKind peer n s l n' s'
  | advance (dt : Nat) : timersSettled s dt = true → n' = n → s' = s.advance dt →
      StepKind peer n s l n' s'
  | task (mid extra : List (Nat × Msg)) : n' = n → s'.now = s.now → s'.svcs = s.svcs →
      mid.Sublist s.inbox → s'.inbox = mid ++ extra →
      (∀ x ∈ extra, (∀ p c, x.2 ≠ Msg.established p c) ∧ (∀ p c, x.2 = Msg.closed p c → peer c = p)) →
      StepKind peer n s l n' s'
  | svc (j : Nat) (svc svc' : Svc) : n' = n → s'.now = s.now → s.svcs[j]? = some svc →
      s'.svcs = setSvc s.svcs j svc' → SvcOp s j svc l svc' s'.inbox → StepKind peer n s l n' s'

theorem StepKind.quiet {l : Label} (hs : s'.svcs = s.svcs) (hn : s'.now = s.now) (hb : s'.inbox.Sublist s.inbox) :
    StepKind peer n s l n s' :=
  .task s'.inbox [] rfl hn hs hb (by simp) (fun _ h => by cases h)

theorem StepKind.sends {l : Label} (hs : s'.svcs = s.svcs) (hn : s'.now = s.now) (x : Nat × Msg)
    (hb : s'.inbox = s.inbox ++ [x]) (hx : ∀ p c, x.2 ≠ Msg.established p c ∧ x.2 ≠ Msg.closed p c) :
    StepKind peer n s l n s' :=
  .task s.inbox [x] rfl hn hs (List.Sublist.refl _) hb fun y hy => by
    rw [List.mem_singleton.mp hy]; exact ⟨fun p c => (hx p c).1, fun p c e => absurd e (hx p c).2⟩

theorem step_poll {j : Nat} (hst : s.step peer n (.poll j) = some (n', s')) :
    ∃ svc, s.svcs[j]? = some svc ∧ n' = n ∧ s' = { s with svcs := setSvc s.svcs j (svc.pollKeepAlive s.now) } := by
  simp only [Sys.step] at hst
  split at hst
  · cases hst; exact ⟨_, ‹_›, rfl, rfl⟩
  · cases hst

theorem step_advance {dt : Nat} (hst : s.step peer n (.advance dt) = some (n', s')) :
    timersSettled s dt = true ∧ n' = n ∧ s' = s.advance dt := by
  simp only [Sys.step, Option.ite_none_right_eq_some, Option.some.injEq, Prod.mk.injEq] at hst
  exact ⟨hst.1, hst.2.1.symm, hst.2.2.symm⟩

theorem step_kind (l : Label) (hst : s.step peer n l = some (n', s')) :
    StepKind peer n s l n' s' := by
  cases l with
  | poll i =>
    obtain ⟨svc, hsv, rfl, rfl⟩ := step_poll hst
    exact .svc i svc _ rfl rfl hsv rfl (.poll rfl rfl rfl)
  | advance dt =>
    obtain ⟨hg, rfl, rfl⟩ := step_advance hst
    exact .advance dt hg rfl rfl
  | established c =>
    simp only [Sys.step, Option.ite_none_right_eq_some, Option.some.injEq, Prod.mk.injEq] at hst
    exact .established c hst.1 hst.2.1.symm hst.2.2.symm
  | closed c =>
    simp only [Sys.step, Option.ite_none_right_eq_some, Option.some.injEq, Prod.mk.injEq] at hst
    obtain ⟨_, rfl, rfl⟩ := hst
    refine .task s.inbox _ rfl rfl rfl (List.Sublist.refl _) rfl fun x hx => ?_
    obtain ⟨j, _, rfl⟩ := List.mem_map.mp hx
    exact ⟨nofun, fun p c' hh => by cases hh; rfl⟩
  | «open» i p =>
    simp only [Sys.step, Option.some.injEq, Prod.mk.injEq] at hst
    obtain ⟨rfl, rfl⟩ := hst
    unfold Sys.open
    cases hsv : s.svcs[i]? with
    | none => exact .quiet rfl rfl (List.Sublist.refl _)
    | some svc =>
      simp only []
      split <;> exact .svc i svc _ rfl rfl hsv rfl (.open p _ _ _ rfl rfl)
  | recv c =>
    simp only [Sys.step, Option.some.injEq, Prod.mk.injEq] at hst
    obtain ⟨rfl, rfl⟩ := hst
    unfold Sys.recv
    split <;> exact .quiet rfl rfl (List.Sublist.refl _)
  | subOpen c sid | subFail c sid =>
    simp only [Sys.step, Option.map_eq_some_iff, Prod.mk.injEq] at hst
    obtain ⟨s1, hs1, rfl, rfl⟩ := hst
    simp only [Sys.subOpen, Sys.subFail] at hs1
    split at hs1
    · cases hs1; exact .sends rfl rfl _ rfl fun _ _ => ⟨nofun, nofun⟩
    · cases hs1
  | subInbound c i =>
    simp only [Sys.step, Option.some.injEq, Prod.mk.injEq] at hst
    obtain ⟨rfl, rfl⟩ := hst
    unfold Sys.subInbound
    split
    · split
      · exact .quiet rfl rfl (List.Sublist.refl _)
      · exact .sends rfl rfl _ rfl fun _ _ => ⟨nofun, nofun⟩
    · exact .quiet rfl rfl (List.Sublist.refl _)
  | dropSub i k =>
    simp only [Sys.step, Option.map_eq_some_iff, Prod.mk.injEq] at hst
    obtain ⟨s1, hs1, rfl, rfl⟩ := hst
    simp only [Sys.dropSub] at hs1
    split at hs1
    · cases hs1; exact .quiet rfl rfl (List.Sublist.refl _)
    · cases hs1
  | deliver i =>
    simp only [Sys.step] at hst
    split at hst
    · rename_i pre m post hsp
      simp only [Option.some.injEq, Prod.mk.injEq] at hst
      obtain ⟨rfl, rfl⟩ := hst
      obtain ⟨hbox, _⟩ := splitFirst_spec i _ _ _ _ hsp
      have hsub : (pre ++ post).Sublist s.inbox := by
        rw [hbox]; exact List.Sublist.append (List.Sublist.refl _) (List.sublist_cons_self _ _)
      unfold Sys.deliver
      simp only []
      cases hsv : s.svcs[i]? with
      | none => exact .quiet rfl rfl hsub
      | some svc =>
        cases m with
        | subFailed sid => exact .quiet rfl rfl hsub
        | _ => exact .svc i svc _ rfl rfl hsv rfl (.deliver pre post _ rfl rfl hbox rfl)
    · cases hst

theorem step_svcs_length (l : Label)
    (hst : s.step peer n l = some (n', s')) : s'.svcs.length = s.svcs.length := by
  rcases step_kind l hst with ⟨_, _, _, rfl⟩ | ⟨_, _, _, rfl⟩ | ⟨_, _, _, _, hs, _⟩ | ⟨_, _, _, _, _, _, hs, _⟩
  · rfl
  · rfl
  · rw [hs]
  · rw [hs]; simp [setSvc]

theorem onMsg_inv (h : SysInv peer n s) {j : Nat} {svc : Svc}
    (hj : s.svcs[j]? = some svc) (m : Msg) (hm : (j, m) ∈ s.inbox) :
    SvcInv peer s.now (svc.onMsg s.now m) ∧
    (∀ c, (svc.onMsg s.now m).hasId c → svc.hasId c ∨ ∃ p, m = .established p c) ∧
    ((∀ p c, m ≠ .closed p c) → ∀ c, 0 < svc.holds c → 0 < (svc.onMsg s.now m).holds c) := by
  have hin := h.svc svc (List.mem_of_getElem? hj)
  cases m with
  | established p c =>
    obtain ⟨k1, k2, k3⟩ := onEstablished_inv svc p c hin (h.est j p c hm).2 (h.estFresh j p c svc hm hj)
    exact ⟨k1, fun c' hc' => (k2 c' hc').imp_right fun e => ⟨p, by rw [e]⟩, fun _ => k3⟩
  | closed p c =>
    obtain ⟨k1, k2⟩ := onClosed_inv svc p c hin (h.closedPeer j p c hm)
    exact ⟨k1, fun c' hc' => Or.inl (k2 c' hc'), fun hne => absurd rfl (hne p c)⟩
  | subOpened p dir c life =>
    obtain ⟨k1, k2, k3⟩ := onSubstreamOpened_inv svc p c hin
    exact ⟨k1, fun c' hc' => Or.inl (k2 c' hc'), fun _ => k3⟩
  | subFailed sid => exact ⟨hin, fun _ hc => Or.inl hc, fun _ _ hc => hc⟩

theorem step_inv (l : Label) (h : SysInv peer n s)
    (hst : s.step peer n l = some (n', s')) : SysInv peer n' s' := by
  rcases step_kind l hst with ⟨c, hc, rfl, rfl⟩ | ⟨dt, hg, rfl, rfl⟩ |
    ⟨mid, extra, rfl, hn, hs, hmid, hin, hex⟩ | ⟨j, svc, svc', rfl, hn, hj, hs, hop⟩
  · -- one `ConnectionEstablished` per protocol, for a connection id not used so far
    refine h.frame (Nat.le_succ_of_le hc) rfl rfl _ _ (List.Sublist.refl _) rfl ?_ fun x hx => ?_
    · exact List.pairwise_map.mpr (List.pairwise_lt_range.imp fun hab _ _ _ _ _ => Nat.ne_of_lt hab)
    · obtain ⟨j, _, rfl⟩ := List.mem_map.mp hx
      exact ⟨fun p c' e => by cases e; exact ⟨hc, Nat.lt_succ_self _, rfl⟩, nofun⟩
  · refine ⟨fun svc hsvc => ?_, h.idsLt, h.est, h.closedPeer, h.estFresh, h.estOnce⟩
    have hi := h.svc svc hsvc
    exact ⟨hi.keys, hi.distinct, hi.peerOk, advance_ok _ _ _ _ hi.tr (timersSettled_spec s dt hg svc hsvc), hi.held⟩
  · exact h.frame (Nat.le_refl _) hs hn mid extra hmid hin
      (List.pairwise_of_forall_mem_list fun a _ b hb p p' c _ hb2 => absurd hb2 ((hex b hb).1 p' c))
      fun x hx => ⟨fun p c e => absurd e ((hex x hx).1 p c), (hex x hx).2⟩
  · have hin := h.svc svc (List.mem_of_getElem? hj)
    have hlt := h.idsLt svc (List.mem_of_getElem? hj)
    have hsame : ∀ svc', s'.svcs = setSvc s.svcs j svc' → s'.inbox.Sublist s.inbox → SvcInv peer s.now svc' →
        (∀ c, svc'.hasId c → svc.hasId c) → SysInv peer n' s' := fun svc' hs hsub k1 k2 =>
      h.update j svc' hs hn hsub k1 (fun c hc => hlt c (k2 c hc))
        (fun p c hm hc => h.estFresh j p c svc (hsub.subset hm) hj (k2 c hc))
    rcases hop with ⟨p, up, send, sid, rfl, hbox⟩ | ⟨pre, post, m, _, rfl, hbox, hbox'⟩ | ⟨_, rfl, hbox⟩
    · obtain ⟨k1, k2, _⟩ := openSubstream_inv svc p up send sid hin
      exact hsame _ hs (hbox ▸ List.Sublist.refl _) k1 k2
    · have hmsg : (j, m) ∈ s.inbox := by rw [hbox]; simp
      have hsub : s'.inbox.Sublist s.inbox := by
        rw [hbox, hbox']; exact List.Sublist.append (List.Sublist.refl _) (List.sublist_cons_self _ _)
      obtain ⟨k1, k2, _⟩ := onMsg_inv h hj m hmsg
      refine h.update j _ hs hn hsub k1 (fun c hc => (k2 c hc).elim (hlt c) fun ⟨p, e⟩ => (h.est j p c (e ▸ hmsg)).1) ?_
      intro p' c' hm hc'
      rcases k2 c' hc' with hc' | ⟨p, rfl⟩
      · exact h.estFresh j p' c' svc (hsub.subset hm) hj hc'
      · -- a second `ConnectionEstablished` for `c'` in the same channel
        have hpw := h.estOnce
        rw [hbox, List.pairwise_append] at hpw
        obtain ⟨_, hpost, hcross⟩ := hpw
        rw [hbox'] at hm
        rcases List.mem_append.mp hm with hm | hm
        · exact hcross _ hm _ List.mem_cons_self p' p c' rfl rfl rfl
        · exact (List.pairwise_cons.mp hpost).1 _ hm p p' c' rfl rfl rfl
    · obtain ⟨k1, k2⟩ := pollKeepAlive_inv svc hin
      exact hsame _ hs (hbox ▸ List.Sublist.refl _) k1 k2

theorem Reach.inv {peer : Nat → Nat} {n : Nat} {s : Sys} (h : Reach peer n s) : SysInv peer n s := by
  induction h with
  | init cfg => exact init_inv peer cfg
  | step l _ hst ih => exact step_inv l ih hst

/-! ### never late, never early -/

/-- The protocol has polled its tracker at this instant: every sleep is started and incomplete. -/
def Polled (svc : Svc) (now : Nat) : Prop := ∀ t ∈ svc.tr.timers, ∃ d, t.deadline = some d ∧ now < d

theorem SvcInv.holder {peer : Nat → Nat} {now : Nat} {svc : Svc} (h : SvcInv peer now svc) (c : Nat)
    (hpos : 0 < svc.holds c) :
    ∃ la, aget svc.tr.last c = some la ∧ la ≤ now ∧ now ≤ la + svc.T ∧ (Polled svc now → now < la + svc.T) := by
  cases hla : aget svc.tr.last c with
  | none => exact absurd hla (h.held c hpos)
  | some la =>
    obtain ⟨hle, t, ht, _, hg⟩ := h.tr.tracked c la hla
    rw [good_iff] at hg
    refine ⟨la, rfl, hle, ?_, fun hp => ?_⟩
    · cases hd : t.deadline with
      | none => rw [hd, Option.getD_none] at hg; omega
      | some d => rw [hd, Option.getD_some] at hg; have := h.tr.notOverdue t ht d hd; omega
    · obtain ⟨d, hd, hlt⟩ := hp t ht
      rw [hd, Option.getD_some] at hg; omega

/-- **Never early.** In a reachable state, whatever step the system takes: if protocol `i` held an active
handle of `c` before the step and holds none after it, then either the step was protocol `i` processing a
`ConnectionClosed` message (the connection-closed path, not the idle mechanism), or it was protocol `i`
polling its keep-alive tracker at a time `≥ last_activity_i(c) + T_i`. -/
theorem never_early (hr : Reach peer n s) (c : Nat) (l : Label) (n' : Nat) (s' : Sys) (i : Nat) (svc svc' : Svc)
    (hst : s.step peer n l = some (n', s')) (hi : s.svcs[i]? = some svc) (hi' : s'.svcs[i]? = some svc')
    (hpos : 0 < svc.holds c) (hz : svc'.holds c = 0) :
    (l = .deliver i ∧ ∃ p c', svc' = (svc.onClosed p c').1) ∨
    (l = .poll i ∧ svc' = svc.pollKeepAlive s.now ∧ ∃ la, aget svc.tr.last c = some la ∧ la + svc.T ≤ s.now) := by
  have hsi := hr.inv.svc svc (List.mem_of_getElem? hi)
  have hsame : s'.svcs[i]? = s.svcs[i]? → False := fun he => by rw [he, hi] at hi'; cases hi'; omega
  rcases step_kind l hst with ⟨_, _, _, rfl⟩ | ⟨_, _, _, rfl⟩ | ⟨_, _, _, _, hs, _⟩ | ⟨j, x, x', _, _, hj, hs, hop⟩
  · exact (hsame rfl).elim
  · exact (hsame rfl).elim
  · exact (hsame (by rw [hs])).elim
  · rcases getElem?_setSvc (hs ▸ hi') with ⟨rfl, rfl⟩ | ⟨_, hi'⟩
    · rw [hi] at hj; cases hj
      rcases hop with ⟨p, up, send, sid, rfl, _⟩ | ⟨pre, post, m, hl, rfl, hbox, _⟩ | ⟨hl, rfl, _⟩
      · have := (openSubstream_inv svc p up send sid hsi).2.2 c hpos; omega
      · by_cases hm : ∃ p c', m = .closed p c'
        · obtain ⟨p, c', rfl⟩ := hm
          exact Or.inl ⟨hl, p, c', rfl⟩
        · have := (onMsg_inv hr.inv hi m (by rw [hbox]; simp)).2.2 (fun p c' e => hm ⟨p, c', e⟩) c hpos; omega
      · rcases pollKeepAlive_drop svc hsi c with ⟨hsame, _⟩ | ⟨_, hall⟩
        · omega
        · obtain ⟨la, hla, _⟩ := hsi.holder c hpos
          exact Or.inr ⟨hl, rfl, la, hla, hall la hla⟩
    · rw [hi] at hi'; cases hi'; omega

/-- Connection level: with no permit around, the step that drops the LAST strong sender of `c` is a
close report being processed, or some protocol's keep-alive poll at `≥ last_activity + T` of that protocol. -/
theorem last_holder_never_early (hr : Reach peer n s) (c : Nat) (l : Label) (n' : Nat) (s' : Sys)
    (hst : s.step peer n l = some (n', s')) (hperm : permits s c = 0)
    (h0 : exits s c = false) (h1 : exits s' c = true) :
    ∃ i svc, s.svcs[i]? = some svc ∧ 0 < svc.holds c ∧
      ((l = .deliver i ∧ ∃ p c', s'.svcs[i]? = some (svc.onClosed p c').1) ∨
       (l = .poll i ∧ ∃ la, aget svc.tr.last c = some la ∧ la + svc.T ≤ s.now)) := by
  have hpos : 0 < (s.svcs.map (·.holds c)).sum := by
    have : handles s.svcs c + permits s c ≠ 0 := by simpa [exits, strong] using h0
    unfold handles at this; omega
  obtain ⟨svc, hsvc, hh⟩ := (sum_map_pos _ _).mp hpos
  obtain ⟨i, hlt, hget⟩ := List.getElem_of_mem hsvc
  have hi : s.svcs[i]? = some svc := by rw [List.getElem?_eq_getElem hlt, hget]
  have hlt' : i < s'.svcs.length := by rw [step_svcs_length l hst]; exact hlt
  have hi' : s'.svcs[i]? = some s'.svcs[i] := List.getElem?_eq_getElem hlt'
  refine ⟨i, svc, hi, hh, ?_⟩
  rcases never_early hr c l n' s' i svc _ hst hi hi' hh (((exits_iff s' c).mp h1).1 _ (List.getElem_mem hlt')) with
    ⟨hl, p, c', he⟩ | ⟨hl, _, hla⟩
  · exact Or.inl ⟨hl, p, c', by rw [hi', he]⟩
  · exact Or.inr ⟨hl, hla⟩

/-- Connection level: nothing open, and every protocol that still holds `c` has polled at this instant with its
last activity at least its timeout ago ⇒ there is no such protocol: the loop exits. -/
theorem holders_idle_exits (hr : Reach peer n s) (c : Nat) (hperm : permits s c = 0)
    (hidle : ∀ svc ∈ s.svcs, 0 < svc.holds c →
      Polled svc s.now ∧ ∀ la, aget svc.tr.last c = some la → la + svc.T ≤ s.now) :
    exits s c = true := by
  refine (exits_iff s c).mpr ⟨fun svc hsvc => Nat.eq_zero_of_not_pos fun hh => ?_, hperm⟩
  obtain ⟨la, hla, _, _, hp⟩ := (hr.inv.svc svc hsvc).holder c hh
  have := hp (hidle svc hsvc hh).1
  have := (hidle svc hsvc hh).2 la hla
  omega

/-! ### idle runs: nothing happens but time passing and keep-alive polls -/

theorem steps_cons {l : Label} {ls : List Label} {r : Nat × Sys}
    (h : Sys.steps peer n s (l :: ls) = some r) :
    ∃ n1 s1, s.step peer n l = some (n1, s1) ∧ Sys.steps peer n1 s1 ls = some r := by
  simp only [Sys.steps] at h
  cases hst : s.step peer n l with
  | none => rw [hst] at h; cases h
  | some v => rw [hst] at h; exact ⟨v.1, v.2, rfl, h⟩

theorem Reach.steps (ls : List Label) : ∀ {n n' : Nat} {s s' : Sys}, Reach peer n s →
    Sys.steps peer n s ls = some (n', s') → Reach peer n' s' := by
  induction ls with
  | nil => intro n n' s s' h he; cases he; exact h
  | cons l ls ih =>
    intro n n' s s' h he
    obtain ⟨n1, s1, hst, he⟩ := steps_cons he
    exact ih (Reach.step l h hst) he

/-- Along an idle run from a state without permits of `c`, ending with every protocol polled: the loop has exited iff
the timeout of every protocol that held `c` at the start has elapsed. At the end state this is never late
(`holders_idle_exits`); a poll on the way either leaves handle and `last_activity` of `c` alone or takes the handle at
a time when the timeout has elapsed (`pollKeepAlive_drop`), and the clock only moves forward. -/
theorem idle_run_exits (c : Nat) (ls : List Label) : ∀ {n n' : Nat} {s s' : Sys}, Reach peer n s →
    permits s c = 0 → (∀ l ∈ ls, idleLabel l = true) → Sys.steps peer n s ls = some (n', s') →
    (∀ svc' ∈ s'.svcs, Polled svc' s'.now) →
    s.now ≤ s'.now ∧ (exits s' c = true ↔
      ∀ svc ∈ s.svcs, 0 < svc.holds c → ∀ la, aget svc.tr.last c = some la → la + svc.T ≤ s'.now) := by
  induction ls with
  | nil =>
    intro n n' s s' hr hperm _ he hpolled
    cases he
    refine ⟨Nat.le_refl _, fun hex svc hsvc hpos => ?_, fun hall =>
      holders_idle_exits hr c hperm fun svc hsvc hpos => ⟨hpolled svc hsvc, hall svc hsvc hpos⟩⟩
    have := ((exits_iff s c).mp hex).1 svc hsvc
    omega
  | cons l ls ih =>
    intro n n' s s' hr hperm hall he hpolled
    obtain ⟨n1, s1, hst, he⟩ := steps_cons he
    obtain ⟨hl, hall⟩ := List.forall_mem_cons.1 hall
    have ih := fun hp1 => ih (Reach.step l hr hst) hp1 hall he hpolled
    cases l with
    | advance dt =>
      obtain ⟨_, _, rfl⟩ := step_advance hst
      exact ⟨Nat.le_trans (Nat.le_add_right _ _) (ih hperm).1, (ih hperm).2⟩
    | poll j =>
      obtain ⟨x, hsv, _, rfl⟩ := step_poll hst
      obtain ⟨hle, hiff⟩ := ih hperm
      -- `setSvc` is `List.set`, and `permits` does not read `svcs`
      refine ⟨hle, hiff.trans (forall_mem_set hsv ?_)⟩
      rcases pollKeepAlive_drop x (hr.inv.svc x (List.mem_of_getElem? hsv)) c with ⟨hh, hla⟩ | ⟨hz, hge⟩
      · rw [hh, hla]; exact Iff.rfl
      · simp only [hz, Nat.lt_irrefl, false_imp_iff, true_iff]
        exact fun _ la hla => Nat.le_trans (hge la hla) hle
    | _ => cases hl

end Litep2pVerif.Service.KA
