import Litep2pVerif.Proofs.Wire.RoundtripGen
import Litep2pVerif.Model.Wire.KadEncoders
/-! The hand-written Kademlia encoders (message.rs) against `KademliaMessage::from_bytes`: everything
follows from the generated `KMessage.decode_encode` and the dispatch `kadOfMessage`. -/
namespace Litep2pVerif.Wire

theorem kadFromBytes_encode (peerIdOk addrOk : List Nat → Bool) (repl : Nat) (m : KMessage) (h : m.WF) :
    kadFromBytes peerIdOk addrOk repl (KMessage.encode m) = kadOfMessage peerIdOk addrOk repl m := by
  unfold kadFromBytes
  rw [KMessage.decode_encode m h]

theorem peerTryFrom_ok (peerIdOk addrOk : List Nat → Bool) (p : PeerIn) (h : peerInOk peerIdOk p) :
    peerTryFrom peerIdOk addrOk (peerToSchema p) = some (peerOutOf addrOk p) := by
  obtain ⟨h1, h2, h3⟩ := h
  unfold peerTryFrom peerToSchema peerOutOf
  have hc : ¬ (p.conn < 0 ∨ 3 < p.conn) := by omega
  simp [h1, hc]

theorem peersFrom_map (peerIdOk addrOk : List Nat → Bool) (repl : Nat) (f : PeerIn → PeerIn) (ps : List PeerIn)
    (h : ∀ p ∈ ps, peerInOk peerIdOk (f p)) (hl : ps.length ≤ repl) :
    peersFrom peerIdOk addrOk repl (ps.map fun p => peerToSchema (f p)) = ps.map fun p => peerOutOf addrOk (f p) := by
  unfold peersFrom
  have e : (ps.map fun p => peerToSchema (f p)).filterMap (peerTryFrom peerIdOk addrOk) =
      ps.map fun p => peerOutOf addrOk (f p) := by
    induction ps with
    | nil => rfl
    | cons p ps ih =>
      simp only [List.map_cons, List.filterMap_cons, peerTryFrom_ok peerIdOk addrOk (f p) (h p (by simp))]
      rw [ih (fun q hq => h q (by simp [hq])) (by simp at hl; omega)]
  rw [e]
  exact List.take_of_length_le (by simpa using hl)

theorem recordFromSchema_ok (peerIdOk : List Nat → Bool) (r : RecordIn) (h : recordInOk peerIdOk r) :
    recordFromSchema peerIdOk (recordToSchema r) = some (recordOutOf r) := by
  unfold recordInOk at h
  unfold recordFromSchema recordToSchema recordOutOf
  cases hp : r.publisher with
  | none => simp
  | some p =>
    rw [hp] at h
    obtain ⟨h1, h2⟩ := h
    simp [h1, h2]

/-- The written-out request bytes are prost's encoding of the request message. (The proof does not depend
on which other fields the schema has, as long as their defaults are omitted and `type`, `key`,
`clusterLevelRaw` keep tags 1, 2, 10 and stay the first, second and last field written.) -/
theorem encodeKadRequest_eq (type : Nat) (key : List Nat) :
    encodeKadRequest type key = KMessage.encode { type := Int.ofNat type, key := key, clusterLevelRaw := 10 } := by
  have h10 : i32ToU64 10 = 10 := by decide
  have ht : i32ToU64 (type : Int) = type := by simp [i32ToU64]
  unfold encodeKadRequest KMessage.encode
  simp [encPlain, encOpt, encRep, encInt32Field, ht, h10, List.append_assoc]

-- `KMessage.WF` is printed from the `.proto` file: the simp set names every field predicate the translation can emit,
-- whichever of them the schema at hand uses
set_option linter.unusedSimpArgs false in
theorem kadRequest_wf (type : Nat) (key : List Nat) (ht : type < 2 ^ 31) (hk : key.length < 2 ^ 64) :
    ({ type := Int.ofNat type, key := key, clusterLevelRaw := 10 } : KMessage).WF := by
  simp [KMessage.WF, okI32, okBytes, okString, okU32, okU64, okI64, okBool, optAll, listAll]
  omega

end Litep2pVerif.Wire
