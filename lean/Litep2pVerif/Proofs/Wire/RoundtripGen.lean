import Litep2pVerif.Proofs.Wire.Roundtrip
/-! GENERATED by tools/proto2lean.py from the `.proto` files of /repo — do not edit.
Per message `X`: `X.roundtrip : nest ≤ depth → m.WF → X.mergeFrom {} depth (X.encode m) = some m`, one
generic field lemma of `Proofs/Wire/Roundtrip.lean` per field in tag order; the state after the k-th field
is `{}` with the first k fields set, every side condition on it is `rfl`. -/
namespace Litep2pVerif.Wire

/-- Static nesting depth of `PublicKeyPb` (recursion budget its decoder needs). -/
def PublicKeyPb.nest : Nat := 0
theorem PublicKeyPb.roundtrip (depth : Nat) (hd : PublicKeyPb.nest ≤ depth) (m : PublicKeyPb) (h : m.WF) :
    PublicKeyPb.mergeFrom {} depth (PublicKeyPb.encode m) = some m := by
  have hc := (PublicKeyPb.merge_spec depth).consumes
  have hd' : 0 ≤ depth := hd
  obtain ⟨w0, w1⟩ := h
  refine run_append_nil ?_
  simp only [PublicKeyPb.encode, List.append_assoc]
  refine (run_req hc Scalar.int32 1 (by omega)
    ⟨fun st => st.type, fun st v => { st with type := v }, fun _ _ => rfl, fun _ _ _ => rfl, fun _ => rfl⟩
    (fun _ _ => rfl) _ m.type _ w0).trans ?_
  refine (run_req hc Scalar.bytes 2 (by omega)
    ⟨fun st => st.data, fun st v => { st with data := v }, fun _ _ => rfl, fun _ _ _ => rfl, fun _ => rfl⟩
    (fun _ _ => rfl) _ m.data _ w1).trans ?_
  exact run_done _ _ _ (by cases m; rfl)
theorem PublicKeyPb.decode_encode (m : PublicKeyPb) (h : m.WF) : PublicKeyPb.decode (PublicKeyPb.encode m) = some m :=
  PublicKeyPb.roundtrip recursionLimit (by decide) m h

/-- Static nesting depth of `PrivateKeyPb` (recursion budget its decoder needs). -/
def PrivateKeyPb.nest : Nat := 0
theorem PrivateKeyPb.roundtrip (depth : Nat) (hd : PrivateKeyPb.nest ≤ depth) (m : PrivateKeyPb) (h : m.WF) :
    PrivateKeyPb.mergeFrom {} depth (PrivateKeyPb.encode m) = some m := by
  have hc := (PrivateKeyPb.merge_spec depth).consumes
  have hd' : 0 ≤ depth := hd
  obtain ⟨w0, w1⟩ := h
  refine run_append_nil ?_
  simp only [PrivateKeyPb.encode, List.append_assoc]
  refine (run_req hc Scalar.int32 1 (by omega)
    ⟨fun st => st.type, fun st v => { st with type := v }, fun _ _ => rfl, fun _ _ _ => rfl, fun _ => rfl⟩
    (fun _ _ => rfl) _ m.type _ w0).trans ?_
  refine (run_req hc Scalar.bytes 2 (by omega)
    ⟨fun st => st.data, fun st v => { st with data := v }, fun _ _ => rfl, fun _ _ _ => rfl, fun _ => rfl⟩
    (fun _ _ => rfl) _ m.data _ w1).trans ?_
  exact run_done _ _ _ (by cases m; rfl)
theorem PrivateKeyPb.decode_encode (m : PrivateKeyPb) (h : m.WF) : PrivateKeyPb.decode (PrivateKeyPb.encode m) = some m :=
  PrivateKeyPb.roundtrip recursionLimit (by decide) m h

/-- Static nesting depth of `NoiseExchange` (recursion budget its decoder needs). -/
def NoiseExchange.nest : Nat := 0
theorem NoiseExchange.roundtrip (depth : Nat) (hd : NoiseExchange.nest ≤ depth) (m : NoiseExchange) (h : m.WF) :
    NoiseExchange.mergeFrom {} depth (NoiseExchange.encode m) = some m := by
  have hc := (NoiseExchange.merge_spec depth).consumes
  have hd' : 0 ≤ depth := hd
  obtain ⟨w0, w1⟩ := h
  refine run_append_nil ?_
  simp only [NoiseExchange.encode, List.append_assoc]
  refine (run_opt hc Scalar.bytes 1 (by omega)
    ⟨fun st => st.id, fun st v => { st with id := v }, fun _ _ => rfl, fun _ _ _ => rfl, fun _ => rfl⟩
    (fun _ _ => rfl) _ m.id _ rfl w0).trans ?_
  refine (run_opt hc Scalar.bytes 2 (by omega)
    ⟨fun st => st.pubkey, fun st v => { st with pubkey := v }, fun _ _ => rfl, fun _ _ _ => rfl, fun _ => rfl⟩
    (fun _ _ => rfl) _ m.pubkey _ rfl w1).trans ?_
  exact run_done _ _ _ (by cases m; rfl)
theorem NoiseExchange.decode_encode (m : NoiseExchange) (h : m.WF) : NoiseExchange.decode (NoiseExchange.encode m) = some m :=
  NoiseExchange.roundtrip recursionLimit (by decide) m h

/-- Static nesting depth of `NoiseExtensions` (recursion budget its decoder needs). -/
def NoiseExtensions.nest : Nat := 0
theorem NoiseExtensions.roundtrip (depth : Nat) (hd : NoiseExtensions.nest ≤ depth) (m : NoiseExtensions) (h : m.WF) :
    NoiseExtensions.mergeFrom {} depth (NoiseExtensions.encode m) = some m := by
  have hc := (NoiseExtensions.merge_spec depth).consumes
  have hd' : 0 ≤ depth := hd
  obtain ⟨w0, w1⟩ := h
  refine run_append_nil ?_
  simp only [NoiseExtensions.encode, List.append_assoc]
  refine (run_rep hc Scalar.bytes 1 (by omega)
    ⟨fun st => st.webtransportCerthashes, fun st v => { st with webtransportCerthashes := v }, fun _ _ => rfl, fun _ _ _ => rfl, fun _ => rfl⟩
    (fun _ _ => rfl) _ m.webtransportCerthashes _ rfl w0).trans ?_
  refine (run_rep hc Scalar.string 2 (by omega)
    ⟨fun st => st.streamMuxers, fun st v => { st with streamMuxers := v }, fun _ _ => rfl, fun _ _ _ => rfl, fun _ => rfl⟩
    (fun _ _ => rfl) _ m.streamMuxers _ rfl w1).trans ?_
  exact run_done _ _ _ (by cases m; rfl)
theorem NoiseExtensions.decode_encode (depth : Nat) (hd : NoiseExtensions.nest ≤ depth) (m : NoiseExtensions) (h : m.WF) :
    NoiseExtensions.decode depth (NoiseExtensions.encode m) = some m := NoiseExtensions.roundtrip depth hd m h

/-- Static nesting depth of `NoisePayload` (recursion budget its decoder needs). -/
def NoisePayload.nest : Nat := 1
theorem NoisePayload.roundtrip (depth : Nat) (hd : NoisePayload.nest ≤ depth) (m : NoisePayload) (h : m.WF) :
    NoisePayload.mergeFrom {} depth (NoisePayload.encode m) = some m := by
  have hc := (NoisePayload.merge_spec depth).consumes
  have hd' : 1 ≤ depth := hd
  obtain ⟨w0, w1, w2⟩ := h
  refine run_append_nil ?_
  simp only [NoisePayload.encode, List.append_assoc]
  refine (run_opt hc Scalar.bytes 1 (by omega)
    ⟨fun st => st.identityKey, fun st v => { st with identityKey := v }, fun _ _ => rfl, fun _ _ _ => rfl, fun _ => rfl⟩
    (fun _ _ => rfl) _ m.identityKey _ rfl w0).trans ?_
  refine (run_opt hc Scalar.bytes 2 (by omega)
    ⟨fun st => st.identitySig, fun st v => { st with identitySig := v }, fun _ _ => rfl, fun _ _ _ => rfl, fun _ => rfl⟩
    (fun _ _ => rfl) _ m.identitySig _ rfl w1).trans ?_
  refine (run_optmsg hc NoiseExtensions.mergeFrom NoiseExtensions.encode NoiseExtensions.WF {} depth (by omega)
    (fun v hv => NoiseExtensions.roundtrip (depth - 1) (by unfold NoiseExtensions.nest; omega) v hv) 4 (by omega)
    ⟨fun st => st.extensions, fun st v => { st with extensions := v }, fun _ _ => rfl, fun _ _ _ => rfl, fun _ => rfl⟩
    (fun _ _ => rfl) _ m.extensions _ rfl w2).trans ?_
  exact run_done _ _ _ (by cases m; rfl)
theorem NoisePayload.decode_encode (m : NoisePayload) (h : m.WF) : NoisePayload.decode (NoisePayload.encode m) = some m :=
  NoisePayload.roundtrip recursionLimit (by decide) m h

/-- Static nesting depth of `WebRtcMessage` (recursion budget its decoder needs). -/
def WebRtcMessage.nest : Nat := 0
theorem WebRtcMessage.roundtrip (depth : Nat) (hd : WebRtcMessage.nest ≤ depth) (m : WebRtcMessage) (h : m.WF) :
    WebRtcMessage.mergeFrom {} depth (WebRtcMessage.encode m) = some m := by
  have hc := (WebRtcMessage.merge_spec depth).consumes
  have hd' : 0 ≤ depth := hd
  obtain ⟨w0, w1⟩ := h
  refine run_append_nil ?_
  simp only [WebRtcMessage.encode, List.append_assoc]
  refine (run_opt hc Scalar.int32 1 (by omega)
    ⟨fun st => st.flag, fun st v => { st with flag := v }, fun _ _ => rfl, fun _ _ _ => rfl, fun _ => rfl⟩
    (fun _ _ => rfl) _ m.flag _ rfl w0).trans ?_
  refine (run_opt hc Scalar.bytes 2 (by omega)
    ⟨fun st => st.message, fun st v => { st with message := v }, fun _ _ => rfl, fun _ _ _ => rfl, fun _ => rfl⟩
    (fun _ _ => rfl) _ m.message _ rfl w1).trans ?_
  exact run_done _ _ _ (by cases m; rfl)
theorem WebRtcMessage.decode_encode (m : WebRtcMessage) (h : m.WF) : WebRtcMessage.decode (WebRtcMessage.encode m) = some m :=
  WebRtcMessage.roundtrip recursionLimit (by decide) m h

/-- Static nesting depth of `Identify` (recursion budget its decoder needs). -/
def Identify.nest : Nat := 0
theorem Identify.roundtrip (depth : Nat) (hd : Identify.nest ≤ depth) (m : Identify) (h : m.WF) :
    Identify.mergeFrom {} depth (Identify.encode m) = some m := by
  have hc := (Identify.merge_spec depth).consumes
  have hd' : 0 ≤ depth := hd
  obtain ⟨w0, w1, w2, w3, w4, w5⟩ := h
  refine run_append_nil ?_
  simp only [Identify.encode, List.append_assoc]
  refine (run_opt hc Scalar.bytes 1 (by omega)
    ⟨fun st => st.publicKey, fun st v => { st with publicKey := v }, fun _ _ => rfl, fun _ _ _ => rfl, fun _ => rfl⟩
    (fun _ _ => rfl) _ m.publicKey _ rfl w0).trans ?_
  refine (run_rep hc Scalar.bytes 2 (by omega)
    ⟨fun st => st.listenAddrs, fun st v => { st with listenAddrs := v }, fun _ _ => rfl, fun _ _ _ => rfl, fun _ => rfl⟩
    (fun _ _ => rfl) _ m.listenAddrs _ rfl w1).trans ?_
  refine (run_rep hc Scalar.string 3 (by omega)
    ⟨fun st => st.protocols, fun st v => { st with protocols := v }, fun _ _ => rfl, fun _ _ _ => rfl, fun _ => rfl⟩
    (fun _ _ => rfl) _ m.protocols _ rfl w2).trans ?_
  refine (run_opt hc Scalar.bytes 4 (by omega)
    ⟨fun st => st.observedAddr, fun st v => { st with observedAddr := v }, fun _ _ => rfl, fun _ _ _ => rfl, fun _ => rfl⟩
    (fun _ _ => rfl) _ m.observedAddr _ rfl w3).trans ?_
  refine (run_opt hc Scalar.string 5 (by omega)
    ⟨fun st => st.protocolVersion, fun st v => { st with protocolVersion := v }, fun _ _ => rfl, fun _ _ _ => rfl, fun _ => rfl⟩
    (fun _ _ => rfl) _ m.protocolVersion _ rfl w4).trans ?_
  refine (run_opt hc Scalar.string 6 (by omega)
    ⟨fun st => st.agentVersion, fun st v => { st with agentVersion := v }, fun _ _ => rfl, fun _ _ _ => rfl, fun _ => rfl⟩
    (fun _ _ => rfl) _ m.agentVersion _ rfl w5).trans ?_
  exact run_done _ _ _ (by cases m; rfl)
theorem Identify.decode_encode (m : Identify) (h : m.WF) : Identify.decode (Identify.encode m) = some m :=
  Identify.roundtrip recursionLimit (by decide) m h

/-- Static nesting depth of `KRecord` (recursion budget its decoder needs). -/
def KRecord.nest : Nat := 0
theorem KRecord.roundtrip (depth : Nat) (hd : KRecord.nest ≤ depth) (m : KRecord) (h : m.WF) :
    KRecord.mergeFrom {} depth (KRecord.encode m) = some m := by
  have hc := (KRecord.merge_spec depth).consumes
  have hd' : 0 ≤ depth := hd
  obtain ⟨w0, w1, w2, w3, w4⟩ := h
  refine run_append_nil ?_
  simp only [KRecord.encode, List.append_assoc]
  refine (run_plain hc Scalar.bytes 1 (by omega)
    ⟨fun st => st.key, fun st v => { st with key := v }, fun _ _ => rfl, fun _ _ _ => rfl, fun _ => rfl⟩
    (fun _ _ => rfl) [] _ m.key _ rfl w0).trans ?_
  refine (run_plain hc Scalar.bytes 2 (by omega)
    ⟨fun st => st.value, fun st v => { st with value := v }, fun _ _ => rfl, fun _ _ _ => rfl, fun _ => rfl⟩
    (fun _ _ => rfl) [] _ m.value _ rfl w1).trans ?_
  refine (run_plain hc Scalar.string 5 (by omega)
    ⟨fun st => st.timeReceived, fun st v => { st with timeReceived := v }, fun _ _ => rfl, fun _ _ _ => rfl, fun _ => rfl⟩
    (fun _ _ => rfl) [] _ m.timeReceived _ rfl w2).trans ?_
  refine (run_plain hc Scalar.bytes 666 (by omega)
    ⟨fun st => st.publisher, fun st v => { st with publisher := v }, fun _ _ => rfl, fun _ _ _ => rfl, fun _ => rfl⟩
    (fun _ _ => rfl) [] _ m.publisher _ rfl w3).trans ?_
  refine (run_plain hc Scalar.uint32 777 (by omega)
    ⟨fun st => st.ttl, fun st v => { st with ttl := v }, fun _ _ => rfl, fun _ _ _ => rfl, fun _ => rfl⟩
    (fun _ _ => rfl) 0 _ m.ttl _ rfl w4).trans ?_
  exact run_done _ _ _ (by cases m; rfl)
theorem KRecord.decode_encode (depth : Nat) (hd : KRecord.nest ≤ depth) (m : KRecord) (h : m.WF) :
    KRecord.decode depth (KRecord.encode m) = some m := KRecord.roundtrip depth hd m h

/-- Static nesting depth of `KPeer` (recursion budget its decoder needs). -/
def KPeer.nest : Nat := 0
theorem KPeer.roundtrip (depth : Nat) (hd : KPeer.nest ≤ depth) (m : KPeer) (h : m.WF) :
    KPeer.mergeFrom {} depth (KPeer.encode m) = some m := by
  have hc := (KPeer.merge_spec depth).consumes
  have hd' : 0 ≤ depth := hd
  obtain ⟨w0, w1, w2⟩ := h
  refine run_append_nil ?_
  simp only [KPeer.encode, List.append_assoc]
  refine (run_plain hc Scalar.bytes 1 (by omega)
    ⟨fun st => st.id, fun st v => { st with id := v }, fun _ _ => rfl, fun _ _ _ => rfl, fun _ => rfl⟩
    (fun _ _ => rfl) [] _ m.id _ rfl w0).trans ?_
  refine (run_rep hc Scalar.bytes 2 (by omega)
    ⟨fun st => st.addrs, fun st v => { st with addrs := v }, fun _ _ => rfl, fun _ _ _ => rfl, fun _ => rfl⟩
    (fun _ _ => rfl) _ m.addrs _ rfl w1).trans ?_
  refine (run_plain hc Scalar.int32 3 (by omega)
    ⟨fun st => st.connection, fun st v => { st with connection := v }, fun _ _ => rfl, fun _ _ _ => rfl, fun _ => rfl⟩
    (fun _ _ => rfl) 0 _ m.connection _ rfl w2).trans ?_
  exact run_done _ _ _ (by cases m; rfl)
theorem KPeer.decode_encode (depth : Nat) (hd : KPeer.nest ≤ depth) (m : KPeer) (h : m.WF) :
    KPeer.decode depth (KPeer.encode m) = some m := KPeer.roundtrip depth hd m h

/-- Static nesting depth of `KMessage` (recursion budget its decoder needs). -/
def KMessage.nest : Nat := 1
theorem KMessage.roundtrip (depth : Nat) (hd : KMessage.nest ≤ depth) (m : KMessage) (h : m.WF) :
    KMessage.mergeFrom {} depth (KMessage.encode m) = some m := by
  have hc := (KMessage.merge_spec depth).consumes
  have hd' : 1 ≤ depth := hd
  obtain ⟨w0, w1, w2, w3, w4, w5⟩ := h
  refine run_append_nil ?_
  simp only [KMessage.encode, List.append_assoc]
  refine (run_plain hc Scalar.int32 1 (by omega)
    ⟨fun st => st.type, fun st v => { st with type := v }, fun _ _ => rfl, fun _ _ _ => rfl, fun _ => rfl⟩
    (fun _ _ => rfl) 0 _ m.type _ rfl w0).trans ?_
  refine (run_plain hc Scalar.bytes 2 (by omega)
    ⟨fun st => st.key, fun st v => { st with key := v }, fun _ _ => rfl, fun _ _ _ => rfl, fun _ => rfl⟩
    (fun _ _ => rfl) [] _ m.key _ rfl w1).trans ?_
  refine (run_optmsg hc KRecord.mergeFrom KRecord.encode KRecord.WF {} depth (by omega)
    (fun v hv => KRecord.roundtrip (depth - 1) (by unfold KRecord.nest; omega) v hv) 3 (by omega)
    ⟨fun st => st.record, fun st v => { st with record := v }, fun _ _ => rfl, fun _ _ _ => rfl, fun _ => rfl⟩
    (fun _ _ => rfl) _ m.record _ rfl w2).trans ?_
  refine (run_rep hc (Scalar.msg KPeer.decode KPeer.encode KPeer.WF depth (by omega)
    (fun v hv => KPeer.roundtrip (depth - 1) (by unfold KPeer.nest; omega) v hv)) 8 (by omega)
    ⟨fun st => st.closerPeers, fun st v => { st with closerPeers := v }, fun _ _ => rfl, fun _ _ _ => rfl, fun _ => rfl⟩
    (fun _ _ => rfl) _ m.closerPeers _ rfl w3).trans ?_
  refine (run_rep hc (Scalar.msg KPeer.decode KPeer.encode KPeer.WF depth (by omega)
    (fun v hv => KPeer.roundtrip (depth - 1) (by unfold KPeer.nest; omega) v hv)) 9 (by omega)
    ⟨fun st => st.providerPeers, fun st v => { st with providerPeers := v }, fun _ _ => rfl, fun _ _ _ => rfl, fun _ => rfl⟩
    (fun _ _ => rfl) _ m.providerPeers _ rfl w4).trans ?_
  refine (run_plain hc Scalar.int32 10 (by omega)
    ⟨fun st => st.clusterLevelRaw, fun st v => { st with clusterLevelRaw := v }, fun _ _ => rfl, fun _ _ _ => rfl, fun _ => rfl⟩
    (fun _ _ => rfl) 0 _ m.clusterLevelRaw _ rfl w5).trans ?_
  exact run_done _ _ _ (by cases m; rfl)
theorem KMessage.decode_encode (m : KMessage) (h : m.WF) : KMessage.decode (KMessage.encode m) = some m :=
  KMessage.roundtrip recursionLimit (by decide) m h

/-- Static nesting depth of `BsEntry` (recursion budget its decoder needs). -/
def BsEntry.nest : Nat := 0
theorem BsEntry.roundtrip (depth : Nat) (hd : BsEntry.nest ≤ depth) (m : BsEntry) (h : m.WF) :
    BsEntry.mergeFrom {} depth (BsEntry.encode m) = some m := by
  have hc := (BsEntry.merge_spec depth).consumes
  have hd' : 0 ≤ depth := hd
  obtain ⟨w0, w1, w2, w3, w4⟩ := h
  refine run_append_nil ?_
  simp only [BsEntry.encode, List.append_assoc]
  refine (run_plain hc Scalar.bytes 1 (by omega)
    ⟨fun st => st.block, fun st v => { st with block := v }, fun _ _ => rfl, fun _ _ _ => rfl, fun _ => rfl⟩
    (fun _ _ => rfl) [] _ m.block _ rfl w0).trans ?_
  refine (run_plain hc Scalar.int32 2 (by omega)
    ⟨fun st => st.priority, fun st v => { st with priority := v }, fun _ _ => rfl, fun _ _ _ => rfl, fun _ => rfl⟩
    (fun _ _ => rfl) 0 _ m.priority _ rfl w1).trans ?_
  refine (run_plain hc Scalar.bool 3 (by omega)
    ⟨fun st => st.cancel, fun st v => { st with cancel := v }, fun _ _ => rfl, fun _ _ _ => rfl, fun _ => rfl⟩
    (fun _ _ => rfl) false _ m.cancel _ rfl w2).trans ?_
  refine (run_plain hc Scalar.int32 4 (by omega)
    ⟨fun st => st.wantType, fun st v => { st with wantType := v }, fun _ _ => rfl, fun _ _ _ => rfl, fun _ => rfl⟩
    (fun _ _ => rfl) 0 _ m.wantType _ rfl w3).trans ?_
  refine (run_plain hc Scalar.bool 5 (by omega)
    ⟨fun st => st.sendDontHave, fun st v => { st with sendDontHave := v }, fun _ _ => rfl, fun _ _ _ => rfl, fun _ => rfl⟩
    (fun _ _ => rfl) false _ m.sendDontHave _ rfl w4).trans ?_
  exact run_done _ _ _ (by cases m; rfl)
theorem BsEntry.decode_encode (depth : Nat) (hd : BsEntry.nest ≤ depth) (m : BsEntry) (h : m.WF) :
    BsEntry.decode depth (BsEntry.encode m) = some m := BsEntry.roundtrip depth hd m h

/-- Static nesting depth of `BsWantlist` (recursion budget its decoder needs). -/
def BsWantlist.nest : Nat := 1
theorem BsWantlist.roundtrip (depth : Nat) (hd : BsWantlist.nest ≤ depth) (m : BsWantlist) (h : m.WF) :
    BsWantlist.mergeFrom {} depth (BsWantlist.encode m) = some m := by
  have hc := (BsWantlist.merge_spec depth).consumes
  have hd' : 1 ≤ depth := hd
  obtain ⟨w0, w1⟩ := h
  refine run_append_nil ?_
  simp only [BsWantlist.encode, List.append_assoc]
  refine (run_rep hc (Scalar.msg BsEntry.decode BsEntry.encode BsEntry.WF depth (by omega)
    (fun v hv => BsEntry.roundtrip (depth - 1) (by unfold BsEntry.nest; omega) v hv)) 1 (by omega)
    ⟨fun st => st.entries, fun st v => { st with entries := v }, fun _ _ => rfl, fun _ _ _ => rfl, fun _ => rfl⟩
    (fun _ _ => rfl) _ m.entries _ rfl w0).trans ?_
  refine (run_plain hc Scalar.bool 2 (by omega)
    ⟨fun st => st.full, fun st v => { st with full := v }, fun _ _ => rfl, fun _ _ _ => rfl, fun _ => rfl⟩
    (fun _ _ => rfl) false _ m.full _ rfl w1).trans ?_
  exact run_done _ _ _ (by cases m; rfl)
theorem BsWantlist.decode_encode (depth : Nat) (hd : BsWantlist.nest ≤ depth) (m : BsWantlist) (h : m.WF) :
    BsWantlist.decode depth (BsWantlist.encode m) = some m := BsWantlist.roundtrip depth hd m h

/-- Static nesting depth of `BsBlock` (recursion budget its decoder needs). -/
def BsBlock.nest : Nat := 0
theorem BsBlock.roundtrip (depth : Nat) (hd : BsBlock.nest ≤ depth) (m : BsBlock) (h : m.WF) :
    BsBlock.mergeFrom {} depth (BsBlock.encode m) = some m := by
  have hc := (BsBlock.merge_spec depth).consumes
  have hd' : 0 ≤ depth := hd
  obtain ⟨w0, w1⟩ := h
  refine run_append_nil ?_
  simp only [BsBlock.encode, List.append_assoc]
  refine (run_plain hc Scalar.bytes 1 (by omega)
    ⟨fun st => st.pfx, fun st v => { st with pfx := v }, fun _ _ => rfl, fun _ _ _ => rfl, fun _ => rfl⟩
    (fun _ _ => rfl) [] _ m.pfx _ rfl w0).trans ?_
  refine (run_plain hc Scalar.bytes 2 (by omega)
    ⟨fun st => st.data, fun st v => { st with data := v }, fun _ _ => rfl, fun _ _ _ => rfl, fun _ => rfl⟩
    (fun _ _ => rfl) [] _ m.data _ rfl w1).trans ?_
  exact run_done _ _ _ (by cases m; rfl)
theorem BsBlock.decode_encode (depth : Nat) (hd : BsBlock.nest ≤ depth) (m : BsBlock) (h : m.WF) :
    BsBlock.decode depth (BsBlock.encode m) = some m := BsBlock.roundtrip depth hd m h

/-- Static nesting depth of `BsPresence` (recursion budget its decoder needs). -/
def BsPresence.nest : Nat := 0
theorem BsPresence.roundtrip (depth : Nat) (hd : BsPresence.nest ≤ depth) (m : BsPresence) (h : m.WF) :
    BsPresence.mergeFrom {} depth (BsPresence.encode m) = some m := by
  have hc := (BsPresence.merge_spec depth).consumes
  have hd' : 0 ≤ depth := hd
  obtain ⟨w0, w1⟩ := h
  refine run_append_nil ?_
  simp only [BsPresence.encode, List.append_assoc]
  refine (run_plain hc Scalar.bytes 1 (by omega)
    ⟨fun st => st.cid, fun st v => { st with cid := v }, fun _ _ => rfl, fun _ _ _ => rfl, fun _ => rfl⟩
    (fun _ _ => rfl) [] _ m.cid _ rfl w0).trans ?_
  refine (run_plain hc Scalar.int32 2 (by omega)
    ⟨fun st => st.type, fun st v => { st with type := v }, fun _ _ => rfl, fun _ _ _ => rfl, fun _ => rfl⟩
    (fun _ _ => rfl) 0 _ m.type _ rfl w1).trans ?_
  exact run_done _ _ _ (by cases m; rfl)
theorem BsPresence.decode_encode (depth : Nat) (hd : BsPresence.nest ≤ depth) (m : BsPresence) (h : m.WF) :
    BsPresence.decode depth (BsPresence.encode m) = some m := BsPresence.roundtrip depth hd m h

/-- Static nesting depth of `BsMessage` (recursion budget its decoder needs). -/
def BsMessage.nest : Nat := 2
theorem BsMessage.roundtrip (depth : Nat) (hd : BsMessage.nest ≤ depth) (m : BsMessage) (h : m.WF) :
    BsMessage.mergeFrom {} depth (BsMessage.encode m) = some m := by
  have hc := (BsMessage.merge_spec depth).consumes
  have hd' : 2 ≤ depth := hd
  obtain ⟨w0, w1, w2, w3, w4⟩ := h
  refine run_append_nil ?_
  simp only [BsMessage.encode, List.append_assoc]
  refine (run_optmsg hc BsWantlist.mergeFrom BsWantlist.encode BsWantlist.WF {} depth (by omega)
    (fun v hv => BsWantlist.roundtrip (depth - 1) (by unfold BsWantlist.nest; omega) v hv) 1 (by omega)
    ⟨fun st => st.wantlist, fun st v => { st with wantlist := v }, fun _ _ => rfl, fun _ _ _ => rfl, fun _ => rfl⟩
    (fun _ _ => rfl) _ m.wantlist _ rfl w0).trans ?_
  refine (run_rep hc Scalar.bytes 2 (by omega)
    ⟨fun st => st.blocks, fun st v => { st with blocks := v }, fun _ _ => rfl, fun _ _ _ => rfl, fun _ => rfl⟩
    (fun _ _ => rfl) _ m.blocks _ rfl w1).trans ?_
  refine (run_rep hc (Scalar.msg BsBlock.decode BsBlock.encode BsBlock.WF depth (by omega)
    (fun v hv => BsBlock.roundtrip (depth - 1) (by unfold BsBlock.nest; omega) v hv)) 3 (by omega)
    ⟨fun st => st.payload, fun st v => { st with payload := v }, fun _ _ => rfl, fun _ _ _ => rfl, fun _ => rfl⟩
    (fun _ _ => rfl) _ m.payload _ rfl w2).trans ?_
  refine (run_rep hc (Scalar.msg BsPresence.decode BsPresence.encode BsPresence.WF depth (by omega)
    (fun v hv => BsPresence.roundtrip (depth - 1) (by unfold BsPresence.nest; omega) v hv)) 4 (by omega)
    ⟨fun st => st.blockPresences, fun st v => { st with blockPresences := v }, fun _ _ => rfl, fun _ _ _ => rfl, fun _ => rfl⟩
    (fun _ _ => rfl) _ m.blockPresences _ rfl w3).trans ?_
  refine (run_plain hc Scalar.int32 5 (by omega)
    ⟨fun st => st.pendingBytes, fun st v => { st with pendingBytes := v }, fun _ _ => rfl, fun _ _ _ => rfl, fun _ => rfl⟩
    (fun _ _ => rfl) 0 _ m.pendingBytes _ rfl w4).trans ?_
  exact run_done _ _ _ (by cases m; rfl)
theorem BsMessage.decode_encode (m : BsMessage) (h : m.WF) : BsMessage.decode (BsMessage.encode m) = some m :=
  BsMessage.roundtrip recursionLimit (by decide) m h

end Litep2pVerif.Wire
