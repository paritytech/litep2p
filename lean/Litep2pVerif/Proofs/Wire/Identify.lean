import Litep2pVerif.Model.Wire.IdentifyProto
import Litep2pVerif.Proofs.Wire.Sizes
import Litep2pVerif.Proofs.Wire.RoundtripGen
import Litep2pVerif.Proofs.Substream.Roundtrip
/-! Lemmas about the identify handlers (C19): the frame limit bounds everything an event holds on to,
the address filter only keeps addresses of the right peer, and our own message survives the remote
handler. -/
namespace Litep2pVerif.Wire
open Litep2pVerif.Substream

theorem pollNextF_frame_le (m fuel : Nat) (st : RState) (car : Carrier) (h : RInv (.varint (some m)) st) (p : Bytes)
    (ho : (pollNextF (.varint (some m)) fuel st car).1 = .frame p) : p.length ≤ m := by
  simpa [accepts, overMax] using (pollNextF_inv _ fuel st car h).2.2 p ho

theorem identifyRead_spec (steps : List OutStep) (st : RState) (el : Nat) (h : RInv identifyCodec st) :
    (∀ p, identifyRead steps st el = .payload p → p.length ≤ IDENTIFY_PAYLOAD_SIZE) ∧
    ∀ msg, identifyRead steps st el ≠ .panic msg := by
  induction steps generalizing st el with
  | nil => exact ⟨nofun, nofun⟩
  | cons s rest ih =>
    -- the catch-all equation of `identifyRead` unfolds only for a concrete step, to this one `match` in each of the three
    -- cases; `key` is stated for any `o` equal to it, so that it is proved once and applied with `rfl`
    have key (step : OutStep) : ∀ o, o = (match pollNext identifyCodec st (stepCarrier step) with
          | (.frame p, _, _) => ReadOutcome.payload p
          | (.err _, _, _) => .error
          | (.eof, _, _) => .closed
          | (.pending, st', _) => identifyRead rest st' el
          | (.panic m, _, _) => .panic m) →
        (∀ p, o = .payload p → p.length ≤ IDENTIFY_PAYLOAD_SIZE) ∧ ∀ msg, o ≠ .panic msg := by
      have hi := pollNextF_inv identifyCodec (carSize (stepCarrier step) + 1) st (stepCarrier step) h
      have hf := pollNextF_frame_le IDENTIFY_PAYLOAD_SIZE (carSize (stepCarrier step) + 1) st (stepCarrier step) h
      unfold pollNext
      rintro o rfl
      split
      · rename_i p _ _ heq
        exact ⟨fun q hq => by cases hq; exact hf p (congrArg Prod.fst heq), nofun⟩
      · exact ⟨nofun, nofun⟩
      · exact ⟨nofun, nofun⟩
      · rename_i st' _ heq
        rw [heq] at hi
        exact ih st' el hi.2.1
      · rename_i heq
        rw [heq] at hi
        cases hi.1
    cases s with
    | wait secs =>
      simp only [identifyRead]
      split
      · exact ⟨nofun, nofun⟩
      · exact ih st _ h
    | write bs => exact key (.write bs) _ rfl
    | close => exact key .close _ rfl
    | reset => exact key .reset _ rfl

def outcomeOf : Out → ReadOutcome
  | .frame p => .payload p
  | .err _ => .error
  | .eof => .closed
  | .pending => .waiting
  | .panic m => .panic m

theorem stepCarrier_write (c : List Nat) : DataOnly (stepCarrier (.write c)) ∧
    (∀ s ∈ stepCarrier (.write c), s ≠ .pending) ∧ carBytes (stepCarrier (.write c)) = c := by
  cases c with
  | nil => exact ⟨nofun, nofun, rfl⟩
  | cons b t =>
    refine ⟨fun s hs => Or.inr ⟨b :: t, List.mem_singleton.1 hs, nofun⟩, fun s hs => ?_, by simp [stepCarrier, carBytes]⟩
    cases List.mem_singleton.1 hs
    nofun

theorem identifyCodec_ne : identifyCodec ≠ .identity 0 := by simp [identifyCodec]

/-- Whatever the fragmentation of the remote's writes: the outcome of the read is the first result the
frame reader produces on the concatenated bytes. -/
theorem identifyRead_writes (chunks : List (List Nat)) (tail : List OutStep) (st : RState) (el : Nat)
    (h : RInv identifyCodec st) (o : Out) (rest : List Out)
    (hc : (consume identifyCodec st chunks.flatten).1 = o :: rest) :
    identifyRead (chunks.map .write ++ tail) st el = outcomeOf o := by
  induction chunks generalizing st with
  | nil => simp [consume] at hc
  | cons c cs ih =>
    obtain ⟨hdata, hnopend, hbytes⟩ := stepCarrier_write c
    obtain ⟨consumed, hsplit, hconsume, _, _, _, hdrain⟩ :=
      pollNextF_consume identifyCodec identifyCodec_ne (carSize (stepCarrier (.write c)) + 1) st
        (stepCarrier (.write c)) h hdata (by omega)
    have hinv := (pollNextF_inv identifyCodec (carSize (stepCarrier (.write c)) + 1) st (stepCarrier (.write c)) h).2.1
    simp only [List.map_cons, List.cons_append, identifyRead]
    unfold pollNext
    rw [hbytes] at hsplit
    generalize hres : pollNextF identifyCodec (carSize (stepCarrier (.write c)) + 1) st (stepCarrier (.write c)) = res at *
    obtain ⟨out, st', car'⟩ := res
    simp only at hsplit hconsume hinv hdrain
    simp only [List.flatten_cons] at hc
    by_cases hp : out.isPending = true
    · obtain rfl := hdrain hp hnopend
      simp only [carBytes, List.append_nil] at hsplit
      subst hsplit
      rw [if_pos hp] at hconsume
      rw [consume_append, hconsume] at hc
      simp only [List.nil_append] at hc
      have hout : out = .pending := by cases out <;> simp [Out.isPending] at hp ⊢
      subst hout
      exact ih st' hinv hc
    · rw [if_neg hp] at hconsume
      rw [hsplit, List.append_assoc, consume_append, hconsume] at hc
      simp only [List.singleton_append, List.cons.injEq] at hc
      obtain ⟨ho, _⟩ := hc
      subst ho
      cases out with
      | frame p => rfl
      | err e => rfl
      | eof => rfl
      | pending => simp [Out.isPending] at hp
      | panic m => rfl

/-- Number of payload bytes the event keeps (every byte of every string/address, one per list element). -/
def IdEvent.size (e : IdEvent) : Nat :=
  (e.protocolVersion.getD []).length + (e.userAgent.getD []).length + sumLen e.protocols +
    e.observed.length + sumLen e.listen

theorem sumLen_insertCanon (a : List Nat) (l : List (List Nat)) : sumLen (insertCanon a l) ≤ sumLen l + (a.length + 1) := by
  induction l with
  | nil => simp [insertCanon, sumLen]
  | cons b r ih =>
    simp only [insertCanon]
    split
    · omega
    · split
      · simp only [sumLen_cons]; omega
      · simp only [sumLen_cons] at ih ⊢; omega

theorem sumLen_canonSet (l : List (List Nat)) : sumLen (canonSet l) ≤ sumLen l := by
  induction l with
  | nil => simp [canonSet]
  | cons a r ih =>
    have := sumLen_insertCanon a (canonSet r)
    have e : canonSet (a :: r) = insertCanon a (canonSet r) := rfl
    rw [e, sumLen_cons]
    omega

theorem sumLen_filter (p : List Nat → Bool) (l : List (List Nat)) : sumLen (l.filter p) ≤ sumLen l := by
  induction l with
  | nil => simp
  | cons a r ih =>
    simp only [List.filter_cons]
    split
    · simp only [sumLen_cons]; omega
    · simp only [sumLen_cons]; omega

theorem identifyHandle_some {info : List Nat → AddrInfo} {remote localId payload : List Nat} {e : IdEvent}
    (h : identifyHandle info remote localId payload = some e) :
    ∃ m, Identify.decode payload = some m ∧
      e = { peer := remote, protocolVersion := m.protocolVersion, userAgent := m.agentVersion,
            protocols := canonSet m.protocols, observed := (identifyObserved info localId m).getD [],
            listen := identifyListenAddrs info remote m } := by
  unfold identifyHandle at h
  split at h
  · cases h
  · exact ⟨_, ‹_›, (Option.some.inj h).symm⟩

theorem identifyHandle_size (info : List Nat → AddrInfo) (remote localId payload : List Nat) (e : IdEvent)
    (h : identifyHandle info remote localId payload = some e) : e.size ≤ payload.length := by
  obtain ⟨m, hd, rfl⟩ := identifyHandle_some h
  have hs := Identify.decode_size hd
  have h1 := sumLen_canonSet m.protocols
  have h2 := sumLen_filter (identifyKeep info remote) m.listenAddrs
  have h3 : ((identifyObserved info localId m).getD []).length ≤ (m.observedAddr.getD []).length := by
    unfold identifyObserved
    cases m.observedAddr with
    | none => simp
    | some a => simp only []; split <;> simp
  simp only [IdEvent.size, Identify.size, identifyListenAddrs] at hs ⊢
  omega

theorem identifyKeep_true (info : List Nat → AddrInfo) (owner a : List Nat) (h : identifyKeep info owner a = true) :
    info a = .noP2p ∨ info a = .p2p owner := by
  unfold identifyKeep at h
  cases hi : info a with
  | invalid => simp [hi] at h
  | empty => simp [hi] at h
  | noP2p => exact Or.inl rfl
  | p2p id => simp [hi] at h; exact Or.inr (by rw [h])

theorem identifyHandle_identity (info : List Nat → AddrInfo) (remote localId payload : List Nat) (e : IdEvent)
    (h : identifyHandle info remote localId payload = some e) :
    e.peer = remote ∧ (∀ a ∈ e.listen, info a = .noP2p ∨ info a = .p2p remote) ∧
    (e.observed = [] ∨ info e.observed = .noP2p ∨ info e.observed = .p2p localId) := by
  obtain ⟨m, _, rfl⟩ := identifyHandle_some h
  refine ⟨rfl, ?_, ?_⟩
  · intro a ha
    simp only [identifyListenAddrs, List.mem_filter] at ha
    exact identifyKeep_true info remote a ha.2
  · simp only [identifyObserved]
    cases m.observedAddr with
    | none => exact Or.inl rfl
    | some a =>
      simp only []
      by_cases hk : identifyKeep info localId a = true
      · rw [if_pos hk]; exact Or.inr (identifyKeep_true info localId a hk)
      · rw [if_neg hk]; exact Or.inl rfl

theorem identifyOutbound_event {info : List Nat → AddrInfo} {remote localId : List Nat} {steps : List OutStep}
    {e : IdEvent} (h : identifyOutbound info remote localId steps = .event e) :
    ∃ p, identifyRead steps (RState.init identifyCodec) 0 = .payload p ∧
      identifyHandle info remote localId p = some e := by
  unfold identifyOutbound at h
  split at h
  · rename_i p hread
    split at h
    · rename_i hh
      cases h
      exact ⟨p, hread, hh⟩
    · cases h
  · cases h
  · cases h

/-- What the asker must learn from node `cfg`. -/
def ownEvent (info : List Nat → AddrInfo) (cfg : IdLocal) (asker : List Nat) (observed : Option (List Nat)) : IdEvent :=
  { peer := cfg.localId,
    protocolVersion := some cfg.pv,
    userAgent := some (cfg.agent.getD IDENTIFY_DEFAULT_AGENT),
    protocols := canonSet cfg.protocols,
    observed := match observed with
      | some a => if identifyKeep info asker a then a else []
      | none => [],
    listen := (canonSet (cfg.listen ++ cfg.public_)).filter (identifyKeep info cfg.localId) }

theorem identifyRoundtrip_own (info : List Nat → AddrInfo) (cfg : IdLocal) (asker : List Nat) (observed : Option (List Nat))
    (split : Nat) (hwf : (ownIdentify cfg observed).WF)
    (hlen : (Identify.encode (ownIdentify cfg observed)).length ≤ IDENTIFY_PAYLOAD_SIZE) :
    identifyRoundtrip info cfg asker observed split = .event (ownEvent info cfg asker observed) := by
  have hacc : accepts identifyCodec (Identify.encode (ownIdentify cfg observed)) = true := by
    simp only [accepts, identifyCodec, overMax, Bool.not_eq_true', decide_eq_false_iff_not, Nat.not_lt]
    exact hlen
  have h64 : (Identify.encode (ownIdentify cfg observed)).length < 2 ^ 64 :=
    Nat.lt_of_le_of_lt hlen (by decide)
  have hsent : identifyInbound cfg observed (2 ^ 20) [] =
      encodeMsg identifyCodec (Identify.encode (ownIdentify cfg observed)) := by
    simp only [identifyInbound, hacc, if_true, identifySendLoop]
    rw [if_neg (by decide)]
    exact List.take_length
  have hcons := consume_msg identifyCodec identifyCodec_ne (RState.init identifyCodec) (idle_init _)
    (Identify.encode (ownIdentify cfg observed)) ⟨hacc, h64⟩
  unfold identifyRoundtrip identifyOutbound
  simp only [hsent]
  have hread := identifyRead_writes
    [(encodeMsg identifyCodec (Identify.encode (ownIdentify cfg observed))).take split,
     (encodeMsg identifyCodec (Identify.encode (ownIdentify cfg observed))).drop split] [.close]
    (RState.init identifyCodec) 0 (rinv_init _) (.frame (Identify.encode (ownIdentify cfg observed))) []
    (by simp only [List.flatten_cons, List.flatten_nil, List.append_nil, List.take_append_drop]; exact hcons.1)
  simp only [List.map_cons, List.map_nil, List.cons_append, List.nil_append] at hread
  rw [hread]
  simp only [outcomeOf, identifyHandle, Identify.decode_encode _ hwf]
  simp only [ownIdentify, ownEvent, identifyObserved, identifyListenAddrs]
  cases observed with
  | none => rfl
  | some a => simp only []; split <;> rfl

end Litep2pVerif.Wire
