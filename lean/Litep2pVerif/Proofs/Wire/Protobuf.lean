import Litep2pVerif.Model.Wire.KadMessage
/-! The protobuf wire model's readers consume what they return; on top of that, the accounting every generated
decoder shares (`Accounts`): one arm of a `merge_field` and the message loop never let a size measure of the decoded
value outgrow the bytes consumed (instantiated per message in `Proofs/Wire/Sizes.lean`). -/
namespace Litep2pVerif.Wire

theorem readVarintAux_length {c acc : Nat} {bs : List Nat} {v : Nat} {rest : List Nat}
    (h : readVarintAux c acc bs = some (v, rest)) : rest.length < bs.length := by
  fun_induction readVarintAux c acc bs with
  | case1 | case2 | case3 => cases h
  | case4 =>
    obtain ⟨_, rfl⟩ := Prod.mk.inj (Option.some.inj h)
    exact Nat.lt_succ_self _
  | case5 _ _ b bs _ _ _ ih => exact Nat.lt_succ_of_lt (ih h)

theorem readVarint_length {bs : List Nat} {v : Nat} {rest : List Nat}
    (h : readVarint bs = some (v, rest)) : rest.length < bs.length :=
  readVarintAux_length h

theorem readKey_length {bs : List Nat} {tag wt : Nat} {rest : List Nat}
    (h : readKey bs = some (tag, wt, rest)) : rest.length < bs.length := by
  unfold readKey at h
  split at h
  · cases h
  · rename_i key r hv
    split at h
    · cases h
    · split at h
      · cases h
      · split at h
        · cases h
        · simp only [Option.some.injEq, Prod.mk.injEq] at h
          obtain ⟨_, _, rfl⟩ := h
          exact readVarint_length hv

theorem takeExact_spec {n : Nat} {bs a rest : List Nat} (h : takeExact n bs = some (a, rest)) :
    a.length = n ∧ rest.length + n = bs.length := by
  unfold takeExact at h
  split at h
  · cases h
  · simp only [Option.some.injEq, Prod.mk.injEq] at h
    obtain ⟨rfl, rfl⟩ := h
    simp; omega

theorem readLenDelimited_spec {bs p rest : List Nat} (h : readLenDelimited bs = some (p, rest)) :
    p.length + rest.length + 1 ≤ bs.length := by
  unfold readLenDelimited at h
  split at h
  · cases h
  · rename_i len r hv
    have := readVarint_length hv
    have := takeExact_spec h
    omega

theorem fieldBytes_spec {wt : Nat} {bs v rest : List Nat} (h : fieldBytes wt bs = some (v, rest)) :
    v.length + rest.length + 1 ≤ bs.length := by
  unfold fieldBytes at h
  split at h
  · exact readLenDelimited_spec h
  · cases h

theorem fieldString_spec {wt : Nat} {bs v rest : List Nat} (h : fieldString wt bs = some (v, rest)) :
    v.length + rest.length + 1 ≤ bs.length := by
  unfold fieldString at h
  split at h
  · cases h
  · rename_i s r hb
    split at h
    · simp only [Option.some.injEq, Prod.mk.injEq] at h
      obtain ⟨rfl, rfl⟩ := h
      exact fieldBytes_spec hb
    · cases h

theorem fieldVarint_spec {wt : Nat} {bs : List Nat} {v : Nat} {rest : List Nat}
    (h : fieldVarint wt bs = some (v, rest)) : rest.length + 1 ≤ bs.length := by
  unfold fieldVarint at h
  split at h
  · exact readVarint_length h
  · cases h

theorem fieldMessage_spec {τ : Type} {sub : Nat → List Nat → Option τ} {depth wt : Nat} {bs rest : List Nat}
    {v : τ} (h : fieldMessage sub depth wt bs = some (v, rest)) :
    ∃ payload, sub (depth - 1) payload = some v ∧ payload.length + rest.length + 1 ≤ bs.length := by
  unfold fieldMessage at h
  split at h
  · cases h
  · split at h
    · cases h
    · split at h
      · cases h
      · rename_i payload r hl
        split at h
        · cases h
        · rename_i v' hs
          obtain ⟨rfl, rfl⟩ := h
          exact ⟨payload, hs, readLenDelimited_spec hl⟩

theorem map_snd_eq_some {α : Type} {x : Option (α × List Nat)} {rest : List Nat}
    (h : x.map (·.2) = some rest) : ∃ a, x = some (a, rest) := by
  obtain ⟨⟨a, r⟩, hx, rfl⟩ := Option.map_eq_some_iff.1 h
  exact ⟨a, hx⟩

mutual
theorem skipField_length : ∀ (fuel depth wt tag : Nat) (bs rest : List Nat),
    skipField fuel depth wt tag bs = some rest → rest.length ≤ bs.length
  | 0, _, _, _, _, _, h => by simp [skipField] at h
  | fuel + 1, depth, wt, tag, bs, rest, h => by
    unfold skipField at h
    split at h
    · cases h
    · split at h
      · obtain ⟨v, hv⟩ := map_snd_eq_some h
        exact Nat.le_of_lt (readVarint_length hv)
      · obtain ⟨a, hv⟩ := map_snd_eq_some h
        have := takeExact_spec hv; omega
      · obtain ⟨a, hv⟩ := map_snd_eq_some h
        have := readLenDelimited_spec hv; omega
      · exact skipGroup_length fuel depth tag bs rest h
      · obtain ⟨a, hv⟩ := map_snd_eq_some h
        have := takeExact_spec hv; omega
      · cases h
theorem skipGroup_length : ∀ (fuel depth tag : Nat) (bs rest : List Nat),
    skipGroup fuel depth tag bs = some rest → rest.length ≤ bs.length
  | 0, _, _, _, _, h => by simp [skipGroup] at h
  | fuel + 1, depth, tag, bs, rest, h => by
    unfold skipGroup at h
    split at h
    · cases h
    · rename_i itag iwt r hk
      have hk' := readKey_length hk
      split at h
      · split at h
        · simp only [Option.some.injEq] at h; subst h; omega
        · cases h
      · split at h
        · cases h
        · rename_i r' hs
          have h1 := skipField_length fuel (depth - 1) iwt itag r r' hs
          have h2 := skipGroup_length fuel depth tag r' rest h
          omega
end

theorem fieldSkip_spec {σ : Type} {st st' : σ} {depth wt tag : Nat} {bs rest : List Nat}
    (h : fieldSkip st depth wt tag bs = some (st', rest)) : st' = st ∧ rest.length ≤ bs.length := by
  unfold fieldSkip at h
  simp only [Option.map_eq_some_iff, Prod.mk.injEq] at h
  obtain ⟨r, hr, rfl, rfl⟩ := h
  exact ⟨rfl, skipField_length _ _ _ _ _ _ hr⟩

/-! ## Size of what a decoder allocates: every byte of every element, plus one per element -/

def sumLen (l : List (List Nat)) : Nat := (l.map (fun a => a.length + 1)).sum
@[simp] theorem sumLen_nil : sumLen [] = 0 := rfl
theorem sumLen_cons (a : List Nat) (l : List (List Nat)) : sumLen (a :: l) = (a.length + 1) + sumLen l := by
  simp [sumLen]
@[simp] theorem sumLen_append (l : List (List Nat)) (v : List Nat) : sumLen (l ++ [v]) = sumLen l + (v.length + 1) := by
  simp [sumLen]
def sumBy {α : Type} (f : α → Nat) (l : List α) : Nat := (l.map (fun a => f a + 1)).sum
@[simp] theorem sumBy_nil {α : Type} (f : α → Nat) : sumBy f [] = 0 := rfl
@[simp] theorem sumBy_append {α : Type} (f : α → Nat) (l : List α) (v : α) : sumBy f (l ++ [v]) = sumBy f l + (f v + 1) := by
  simp [sumBy]

/-- What one `merge_field` step may do to a size measure `μ`: it returns no more bytes than it got, and `μ` grows by at
most the bytes consumed. -/
def Step {σ : Type} (μ : σ → Nat) (m : σ) (bs : List Nat) (m' : σ) (rest : List Nat) : Prop :=
  rest.length ≤ bs.length ∧ μ m' + rest.length ≤ μ m + bs.length

/-- Every successful step of `mg` accounts for what it stores. -/
def Accounts {σ : Type} (μ : σ → Nat) (mg : σ → Nat → Nat → List Nat → Option (σ × List Nat)) : Prop :=
  ∀ st tag wt bs st' rest, mg st tag wt bs = some (st', rest) → Step μ st bs st' rest

/-! Every arm of a generated `merge_field` for a known tag is `(rd wt bs).map f`, where `f (v, r) = (upd v, r)` stores
what the reader `rd` returned: hence the shape of the arm lemmas, one per reader. -/

section Arm
variable {σ τ : Type} {μ : σ → Nat} {m m' : σ} {wt : Nat} {bs rest : List Nat}

theorem arm_spec {β : Type} {f : β × List Nat → σ × List Nat} {upd : β → σ} {rd : Option (β × List Nat)}
    (h : rd.map f = some (m', rest)) (hf : ∀ v r, f (v, r) = (upd v, r))
    (hrd : ∀ v r, rd = some (v, r) → ∃ p, μ (upd v) ≤ μ m + p + 1 ∧ p + r.length + 1 ≤ bs.length) :
    Step μ m bs m' rest := by
  obtain ⟨⟨v, r⟩, hv, e⟩ := Option.map_eq_some_iff.1 h
  obtain ⟨rfl, rfl⟩ := Prod.mk.inj ((hf v r).symm.trans e)
  obtain ⟨p, h1, h2⟩ := hrd v r hv
  exact ⟨by omega, by omega⟩

theorem fieldVarint_arm {f : Nat × List Nat → σ × List Nat} {upd : Nat → σ}
    (h : (fieldVarint wt bs).map f = some (m', rest)) (hf : ∀ v r, f (v, r) = (upd v, r))
    (hupd : ∀ v, μ (upd v) = μ m) : Step μ m bs m' rest :=
  arm_spec h hf fun v _ hv => ⟨0, by rw [hupd v]; omega, by have := fieldVarint_spec hv; omega⟩

theorem fieldBytes_arm {f : List Nat × List Nat → σ × List Nat} {upd : List Nat → σ}
    (h : (fieldBytes wt bs).map f = some (m', rest)) (hf : ∀ v r, f (v, r) = (upd v, r))
    (hupd : ∀ v, μ (upd v) ≤ μ m + v.length + 1) : Step μ m bs m' rest :=
  arm_spec h hf fun v _ hv => ⟨v.length, hupd v, by have := fieldBytes_spec hv; omega⟩

theorem fieldString_arm {f : List Nat × List Nat → σ × List Nat} {upd : List Nat → σ}
    (h : (fieldString wt bs).map f = some (m', rest)) (hf : ∀ v r, f (v, r) = (upd v, r))
    (hupd : ∀ v, μ (upd v) ≤ μ m + v.length + 1) : Step μ m bs m' rest :=
  arm_spec h hf fun v _ hv => ⟨v.length, hupd v, by have := fieldString_spec hv; omega⟩

/-- A singular message field: `sub` merges the payload into the value the message holds, of measure `c`. -/
theorem fieldMessage_arm {ν : τ → Nat} {c : Nat} {f : τ × List Nat → σ × List Nat} {upd : τ → σ}
    {sub : Nat → List Nat → Option τ} {depth : Nat}
    (h : (fieldMessage sub depth wt bs).map f = some (m', rest)) (hf : ∀ v r, f (v, r) = (upd v, r))
    (hsub : ∀ {d p v}, sub d p = some v → ν v ≤ c + p.length)
    (hupd : ∀ v, μ (upd v) + c ≤ μ m + ν v + 1) : Step μ m bs m' rest :=
  arm_spec h hf fun v _ hv => by
    obtain ⟨p, hs, hl⟩ := fieldMessage_spec hv
    exact ⟨p.length, by have := hsub hs; have := hupd v; omega, hl⟩

/-- An element of a repeated message field: `sub` decodes the payload from the default value. -/
theorem fieldElement_arm {ν : τ → Nat} {f : τ × List Nat → σ × List Nat} {upd : τ → σ}
    {sub : Nat → List Nat → Option τ} {depth : Nat}
    (h : (fieldMessage sub depth wt bs).map f = some (m', rest)) (hf : ∀ v r, f (v, r) = (upd v, r))
    (hsub : ∀ {d p v}, sub d p = some v → ν v ≤ p.length)
    (hupd : ∀ v, μ (upd v) ≤ μ m + ν v + 1) : Step μ m bs m' rest :=
  fieldMessage_arm (c := 0) h hf (fun hs => Nat.le_trans (hsub hs) (Nat.le_add_left _ 0)) hupd

theorem fieldSkip_arm {depth tag : Nat} (h : fieldSkip m depth wt tag bs = some (m', rest)) : Step μ m bs m' rest := by
  obtain ⟨rfl, hl⟩ := fieldSkip_spec h
  exact ⟨hl, Nat.add_le_add_left hl _⟩

end Arm

theorem Accounts.loop {σ : Type} {merge : σ → Nat → Nat → List Nat → Option (σ × List Nat)} {μ : σ → Nat}
    (hm : Accounts μ merge) {fuel : Nat} {st st' : σ} {bs : List Nat} (h : decodeLoop merge fuel st bs = some st') :
    μ st' ≤ μ st + bs.length := by
  fun_induction decodeLoop merge fuel st bs with
  | case1 => cases h; exact Nat.le_add_right _ _
  | case2 | case3 | case4 => cases h
  | case5 fuel st b bs tag wt rest hk st1 rest1 hm1 ih =>
    have := readKey_length hk
    have := (hm _ _ _ _ _ _ hm1).2
    have := ih h
    omega

theorem Accounts.loop_zero {σ : Type} {merge : σ → Nat → Nat → List Nat → Option (σ × List Nat)} {μ : σ → Nat}
    (hm : Accounts μ merge) {fuel : Nat} {st st' : σ} {bs : List Nat} (h0 : μ st = 0)
    (h : decodeLoop merge fuel st bs = some st') : μ st' ≤ bs.length := by
  have := hm.loop h
  omega

end Litep2pVerif.Wire
