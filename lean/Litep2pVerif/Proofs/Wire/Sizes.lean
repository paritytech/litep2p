import Litep2pVerif.Proofs.Wire.Protobuf
/-! GENERATED by tools/proto2lean.py from the `.proto` files of /repo — do not edit.
Size measures of the decoded messages. `X.merge_spec`: `X.merge` accounts for `X.size` (`Accounts`: one step
returns no more bytes than it got and grows the measure by at most the bytes it consumed) — one arm lemma of
`Proofs/Wire/Protobuf.lean` per field; hence `decode bs = some m → m.size ≤ bs.length` for every schema.
`size` counts every byte of every bytes/string field plus one per repeated element. -/
namespace Litep2pVerif.Wire

def PublicKeyPb.size (m : PublicKeyPb) : Nat :=
  m.data.length
theorem PublicKeyPb.merge_spec (depth : Nat) : Accounts PublicKeyPb.size (PublicKeyPb.merge depth) := fun _ _ _ _ _ _ h => by
  unfold PublicKeyPb.merge at h
  split at h
  · exact fieldVarint_arm h (fun _ _ => rfl) fun _ => rfl
  · exact fieldBytes_arm h (fun _ _ => rfl) fun v => by simp only [PublicKeyPb.size]; omega
  · exact fieldSkip_arm h
theorem PublicKeyPb.mergeFrom_size {init m : PublicKeyPb} {depth : Nat} {bs : List Nat}
    (h : PublicKeyPb.mergeFrom init depth bs = some m) : m.size ≤ init.size + bs.length :=
  (PublicKeyPb.merge_spec depth).loop h
theorem PublicKeyPb.decode_size {m : PublicKeyPb} {bs : List Nat}
    (h : PublicKeyPb.decode bs = some m) : m.size ≤ bs.length :=
  (PublicKeyPb.merge_spec _).loop_zero rfl h

def PrivateKeyPb.size (m : PrivateKeyPb) : Nat :=
  m.data.length
theorem PrivateKeyPb.merge_spec (depth : Nat) : Accounts PrivateKeyPb.size (PrivateKeyPb.merge depth) := fun _ _ _ _ _ _ h => by
  unfold PrivateKeyPb.merge at h
  split at h
  · exact fieldVarint_arm h (fun _ _ => rfl) fun _ => rfl
  · exact fieldBytes_arm h (fun _ _ => rfl) fun v => by simp only [PrivateKeyPb.size]; omega
  · exact fieldSkip_arm h
theorem PrivateKeyPb.mergeFrom_size {init m : PrivateKeyPb} {depth : Nat} {bs : List Nat}
    (h : PrivateKeyPb.mergeFrom init depth bs = some m) : m.size ≤ init.size + bs.length :=
  (PrivateKeyPb.merge_spec depth).loop h
theorem PrivateKeyPb.decode_size {m : PrivateKeyPb} {bs : List Nat}
    (h : PrivateKeyPb.decode bs = some m) : m.size ≤ bs.length :=
  (PrivateKeyPb.merge_spec _).loop_zero rfl h

def NoiseExchange.size (m : NoiseExchange) : Nat :=
  (m.id.getD []).length + (m.pubkey.getD []).length
theorem NoiseExchange.merge_spec (depth : Nat) : Accounts NoiseExchange.size (NoiseExchange.merge depth) := fun _ _ _ _ _ _ h => by
  unfold NoiseExchange.merge at h
  split at h
  · exact fieldBytes_arm h (fun _ _ => rfl) fun v => by simp only [NoiseExchange.size, Option.getD_some]; omega
  · exact fieldBytes_arm h (fun _ _ => rfl) fun v => by simp only [NoiseExchange.size, Option.getD_some]; omega
  · exact fieldSkip_arm h
theorem NoiseExchange.mergeFrom_size {init m : NoiseExchange} {depth : Nat} {bs : List Nat}
    (h : NoiseExchange.mergeFrom init depth bs = some m) : m.size ≤ init.size + bs.length :=
  (NoiseExchange.merge_spec depth).loop h
theorem NoiseExchange.decode_size {m : NoiseExchange} {bs : List Nat}
    (h : NoiseExchange.decode bs = some m) : m.size ≤ bs.length :=
  (NoiseExchange.merge_spec _).loop_zero rfl h

def NoiseExtensions.size (m : NoiseExtensions) : Nat :=
  sumLen m.webtransportCerthashes + sumLen m.streamMuxers
theorem NoiseExtensions.merge_spec (depth : Nat) : Accounts NoiseExtensions.size (NoiseExtensions.merge depth) := fun _ _ _ _ _ _ h => by
  unfold NoiseExtensions.merge at h
  split at h
  · exact fieldBytes_arm h (fun _ _ => rfl) fun v => by simp only [NoiseExtensions.size, sumLen_append]; omega
  · exact fieldString_arm h (fun _ _ => rfl) fun v => by simp only [NoiseExtensions.size, sumLen_append]; omega
  · exact fieldSkip_arm h
theorem NoiseExtensions.mergeFrom_size {init m : NoiseExtensions} {depth : Nat} {bs : List Nat}
    (h : NoiseExtensions.mergeFrom init depth bs = some m) : m.size ≤ init.size + bs.length :=
  (NoiseExtensions.merge_spec depth).loop h
theorem NoiseExtensions.decode_size {m : NoiseExtensions} {depth : Nat} {bs : List Nat}
    (h : NoiseExtensions.decode depth bs = some m) : m.size ≤ bs.length :=
  (NoiseExtensions.merge_spec _).loop_zero rfl h

def NoisePayload.size (m : NoisePayload) : Nat :=
  (m.identityKey.getD []).length + (m.identitySig.getD []).length + (m.extensions.getD {}).size
theorem NoisePayload.merge_spec (depth : Nat) : Accounts NoisePayload.size (NoisePayload.merge depth) := fun _ _ _ _ _ _ h => by
  unfold NoisePayload.merge at h
  split at h
  · exact fieldBytes_arm h (fun _ _ => rfl) fun v => by simp only [NoisePayload.size, Option.getD_some]; omega
  · exact fieldBytes_arm h (fun _ _ => rfl) fun v => by simp only [NoisePayload.size, Option.getD_some]; omega
  · exact fieldMessage_arm h (fun _ _ => rfl) NoiseExtensions.mergeFrom_size
      fun v => by simp only [NoisePayload.size, Option.getD_some]; omega
  · exact fieldSkip_arm h
theorem NoisePayload.mergeFrom_size {init m : NoisePayload} {depth : Nat} {bs : List Nat}
    (h : NoisePayload.mergeFrom init depth bs = some m) : m.size ≤ init.size + bs.length :=
  (NoisePayload.merge_spec depth).loop h
theorem NoisePayload.decode_size {m : NoisePayload} {bs : List Nat}
    (h : NoisePayload.decode bs = some m) : m.size ≤ bs.length :=
  (NoisePayload.merge_spec _).loop_zero rfl h

def WebRtcMessage.size (m : WebRtcMessage) : Nat :=
  (m.message.getD []).length
theorem WebRtcMessage.merge_spec (depth : Nat) : Accounts WebRtcMessage.size (WebRtcMessage.merge depth) := fun _ _ _ _ _ _ h => by
  unfold WebRtcMessage.merge at h
  split at h
  · exact fieldVarint_arm h (fun _ _ => rfl) fun _ => rfl
  · exact fieldBytes_arm h (fun _ _ => rfl) fun v => by simp only [WebRtcMessage.size, Option.getD_some]; omega
  · exact fieldSkip_arm h
theorem WebRtcMessage.mergeFrom_size {init m : WebRtcMessage} {depth : Nat} {bs : List Nat}
    (h : WebRtcMessage.mergeFrom init depth bs = some m) : m.size ≤ init.size + bs.length :=
  (WebRtcMessage.merge_spec depth).loop h
theorem WebRtcMessage.decode_size {m : WebRtcMessage} {bs : List Nat}
    (h : WebRtcMessage.decode bs = some m) : m.size ≤ bs.length :=
  (WebRtcMessage.merge_spec _).loop_zero rfl h

def Identify.size (m : Identify) : Nat :=
  (m.protocolVersion.getD []).length + (m.agentVersion.getD []).length + (m.publicKey.getD []).length + sumLen m.listenAddrs + (m.observedAddr.getD []).length + sumLen m.protocols
theorem Identify.merge_spec (depth : Nat) : Accounts Identify.size (Identify.merge depth) := fun _ _ _ _ _ _ h => by
  unfold Identify.merge at h
  split at h
  · exact fieldString_arm h (fun _ _ => rfl) fun v => by simp only [Identify.size, Option.getD_some]; omega
  · exact fieldString_arm h (fun _ _ => rfl) fun v => by simp only [Identify.size, Option.getD_some]; omega
  · exact fieldBytes_arm h (fun _ _ => rfl) fun v => by simp only [Identify.size, Option.getD_some]; omega
  · exact fieldBytes_arm h (fun _ _ => rfl) fun v => by simp only [Identify.size, sumLen_append]; omega
  · exact fieldBytes_arm h (fun _ _ => rfl) fun v => by simp only [Identify.size, Option.getD_some]; omega
  · exact fieldString_arm h (fun _ _ => rfl) fun v => by simp only [Identify.size, sumLen_append]; omega
  · exact fieldSkip_arm h
theorem Identify.mergeFrom_size {init m : Identify} {depth : Nat} {bs : List Nat}
    (h : Identify.mergeFrom init depth bs = some m) : m.size ≤ init.size + bs.length :=
  (Identify.merge_spec depth).loop h
theorem Identify.decode_size {m : Identify} {bs : List Nat}
    (h : Identify.decode bs = some m) : m.size ≤ bs.length :=
  (Identify.merge_spec _).loop_zero rfl h

def KRecord.size (m : KRecord) : Nat :=
  m.key.length + m.value.length + m.timeReceived.length + m.publisher.length
theorem KRecord.merge_spec (depth : Nat) : Accounts KRecord.size (KRecord.merge depth) := fun _ _ _ _ _ _ h => by
  unfold KRecord.merge at h
  split at h
  · exact fieldBytes_arm h (fun _ _ => rfl) fun v => by simp only [KRecord.size]; omega
  · exact fieldBytes_arm h (fun _ _ => rfl) fun v => by simp only [KRecord.size]; omega
  · exact fieldString_arm h (fun _ _ => rfl) fun v => by simp only [KRecord.size]; omega
  · exact fieldBytes_arm h (fun _ _ => rfl) fun v => by simp only [KRecord.size]; omega
  · exact fieldVarint_arm h (fun _ _ => rfl) fun _ => rfl
  · exact fieldSkip_arm h
theorem KRecord.mergeFrom_size {init m : KRecord} {depth : Nat} {bs : List Nat}
    (h : KRecord.mergeFrom init depth bs = some m) : m.size ≤ init.size + bs.length :=
  (KRecord.merge_spec depth).loop h
theorem KRecord.decode_size {m : KRecord} {depth : Nat} {bs : List Nat}
    (h : KRecord.decode depth bs = some m) : m.size ≤ bs.length :=
  (KRecord.merge_spec _).loop_zero rfl h

def KPeer.size (m : KPeer) : Nat :=
  m.id.length + sumLen m.addrs
theorem KPeer.merge_spec (depth : Nat) : Accounts KPeer.size (KPeer.merge depth) := fun _ _ _ _ _ _ h => by
  unfold KPeer.merge at h
  split at h
  · exact fieldBytes_arm h (fun _ _ => rfl) fun v => by simp only [KPeer.size]; omega
  · exact fieldBytes_arm h (fun _ _ => rfl) fun v => by simp only [KPeer.size, sumLen_append]; omega
  · exact fieldVarint_arm h (fun _ _ => rfl) fun _ => rfl
  · exact fieldSkip_arm h
theorem KPeer.mergeFrom_size {init m : KPeer} {depth : Nat} {bs : List Nat}
    (h : KPeer.mergeFrom init depth bs = some m) : m.size ≤ init.size + bs.length :=
  (KPeer.merge_spec depth).loop h
theorem KPeer.decode_size {m : KPeer} {depth : Nat} {bs : List Nat}
    (h : KPeer.decode depth bs = some m) : m.size ≤ bs.length :=
  (KPeer.merge_spec _).loop_zero rfl h

def KMessage.size (m : KMessage) : Nat :=
  m.key.length + (m.record.getD {}).size + sumBy KPeer.size m.closerPeers + sumBy KPeer.size m.providerPeers
theorem KMessage.merge_spec (depth : Nat) : Accounts KMessage.size (KMessage.merge depth) := fun _ _ _ _ _ _ h => by
  unfold KMessage.merge at h
  split at h
  · exact fieldVarint_arm h (fun _ _ => rfl) fun _ => rfl
  · exact fieldVarint_arm h (fun _ _ => rfl) fun _ => rfl
  · exact fieldBytes_arm h (fun _ _ => rfl) fun v => by simp only [KMessage.size]; omega
  · exact fieldMessage_arm h (fun _ _ => rfl) KRecord.mergeFrom_size
      fun v => by simp only [KMessage.size, Option.getD_some]; omega
  · exact fieldElement_arm h (fun _ _ => rfl) KPeer.decode_size
      fun v => by simp only [KMessage.size, sumBy_append]; omega
  · exact fieldElement_arm h (fun _ _ => rfl) KPeer.decode_size
      fun v => by simp only [KMessage.size, sumBy_append]; omega
  · exact fieldSkip_arm h
theorem KMessage.mergeFrom_size {init m : KMessage} {depth : Nat} {bs : List Nat}
    (h : KMessage.mergeFrom init depth bs = some m) : m.size ≤ init.size + bs.length :=
  (KMessage.merge_spec depth).loop h
theorem KMessage.decode_size {m : KMessage} {bs : List Nat}
    (h : KMessage.decode bs = some m) : m.size ≤ bs.length :=
  (KMessage.merge_spec _).loop_zero rfl h

def BsEntry.size (m : BsEntry) : Nat :=
  m.block.length
theorem BsEntry.merge_spec (depth : Nat) : Accounts BsEntry.size (BsEntry.merge depth) := fun _ _ _ _ _ _ h => by
  unfold BsEntry.merge at h
  split at h
  · exact fieldBytes_arm h (fun _ _ => rfl) fun v => by simp only [BsEntry.size]; omega
  · exact fieldVarint_arm h (fun _ _ => rfl) fun _ => rfl
  · exact fieldVarint_arm h (fun _ _ => rfl) fun _ => rfl
  · exact fieldVarint_arm h (fun _ _ => rfl) fun _ => rfl
  · exact fieldVarint_arm h (fun _ _ => rfl) fun _ => rfl
  · exact fieldSkip_arm h
theorem BsEntry.mergeFrom_size {init m : BsEntry} {depth : Nat} {bs : List Nat}
    (h : BsEntry.mergeFrom init depth bs = some m) : m.size ≤ init.size + bs.length :=
  (BsEntry.merge_spec depth).loop h
theorem BsEntry.decode_size {m : BsEntry} {depth : Nat} {bs : List Nat}
    (h : BsEntry.decode depth bs = some m) : m.size ≤ bs.length :=
  (BsEntry.merge_spec _).loop_zero rfl h

def BsWantlist.size (m : BsWantlist) : Nat :=
  sumBy BsEntry.size m.entries
theorem BsWantlist.merge_spec (depth : Nat) : Accounts BsWantlist.size (BsWantlist.merge depth) := fun _ _ _ _ _ _ h => by
  unfold BsWantlist.merge at h
  split at h
  · exact fieldElement_arm h (fun _ _ => rfl) BsEntry.decode_size
      fun v => by simp only [BsWantlist.size, sumBy_append]; omega
  · exact fieldVarint_arm h (fun _ _ => rfl) fun _ => rfl
  · exact fieldSkip_arm h
theorem BsWantlist.mergeFrom_size {init m : BsWantlist} {depth : Nat} {bs : List Nat}
    (h : BsWantlist.mergeFrom init depth bs = some m) : m.size ≤ init.size + bs.length :=
  (BsWantlist.merge_spec depth).loop h
theorem BsWantlist.decode_size {m : BsWantlist} {depth : Nat} {bs : List Nat}
    (h : BsWantlist.decode depth bs = some m) : m.size ≤ bs.length :=
  (BsWantlist.merge_spec _).loop_zero rfl h

def BsBlock.size (m : BsBlock) : Nat :=
  m.pfx.length + m.data.length
theorem BsBlock.merge_spec (depth : Nat) : Accounts BsBlock.size (BsBlock.merge depth) := fun _ _ _ _ _ _ h => by
  unfold BsBlock.merge at h
  split at h
  · exact fieldBytes_arm h (fun _ _ => rfl) fun v => by simp only [BsBlock.size]; omega
  · exact fieldBytes_arm h (fun _ _ => rfl) fun v => by simp only [BsBlock.size]; omega
  · exact fieldSkip_arm h
theorem BsBlock.mergeFrom_size {init m : BsBlock} {depth : Nat} {bs : List Nat}
    (h : BsBlock.mergeFrom init depth bs = some m) : m.size ≤ init.size + bs.length :=
  (BsBlock.merge_spec depth).loop h
theorem BsBlock.decode_size {m : BsBlock} {depth : Nat} {bs : List Nat}
    (h : BsBlock.decode depth bs = some m) : m.size ≤ bs.length :=
  (BsBlock.merge_spec _).loop_zero rfl h

def BsPresence.size (m : BsPresence) : Nat :=
  m.cid.length
theorem BsPresence.merge_spec (depth : Nat) : Accounts BsPresence.size (BsPresence.merge depth) := fun _ _ _ _ _ _ h => by
  unfold BsPresence.merge at h
  split at h
  · exact fieldBytes_arm h (fun _ _ => rfl) fun v => by simp only [BsPresence.size]; omega
  · exact fieldVarint_arm h (fun _ _ => rfl) fun _ => rfl
  · exact fieldSkip_arm h
theorem BsPresence.mergeFrom_size {init m : BsPresence} {depth : Nat} {bs : List Nat}
    (h : BsPresence.mergeFrom init depth bs = some m) : m.size ≤ init.size + bs.length :=
  (BsPresence.merge_spec depth).loop h
theorem BsPresence.decode_size {m : BsPresence} {depth : Nat} {bs : List Nat}
    (h : BsPresence.decode depth bs = some m) : m.size ≤ bs.length :=
  (BsPresence.merge_spec _).loop_zero rfl h

def BsMessage.size (m : BsMessage) : Nat :=
  (m.wantlist.getD {}).size + sumLen m.blocks + sumBy BsBlock.size m.payload + sumBy BsPresence.size m.blockPresences
theorem BsMessage.merge_spec (depth : Nat) : Accounts BsMessage.size (BsMessage.merge depth) := fun _ _ _ _ _ _ h => by
  unfold BsMessage.merge at h
  split at h
  · exact fieldMessage_arm h (fun _ _ => rfl) BsWantlist.mergeFrom_size
      fun v => by simp only [BsMessage.size, Option.getD_some]; omega
  · exact fieldBytes_arm h (fun _ _ => rfl) fun v => by simp only [BsMessage.size, sumLen_append]; omega
  · exact fieldElement_arm h (fun _ _ => rfl) BsBlock.decode_size
      fun v => by simp only [BsMessage.size, sumBy_append]; omega
  · exact fieldElement_arm h (fun _ _ => rfl) BsPresence.decode_size
      fun v => by simp only [BsMessage.size, sumBy_append]; omega
  · exact fieldVarint_arm h (fun _ _ => rfl) fun _ => rfl
  · exact fieldSkip_arm h
theorem BsMessage.mergeFrom_size {init m : BsMessage} {depth : Nat} {bs : List Nat}
    (h : BsMessage.mergeFrom init depth bs = some m) : m.size ≤ init.size + bs.length :=
  (BsMessage.merge_spec depth).loop h
theorem BsMessage.decode_size {m : BsMessage} {bs : List Nat}
    (h : BsMessage.decode bs = some m) : m.size ≤ bs.length :=
  (BsMessage.merge_spec _).loop_zero rfl h

end Litep2pVerif.Wire
