import Litep2pVerif.Model.ReqResp.Ledger
import Litep2pVerif.Proofs.Common.List
/-!
Lemmas for the association lists, sets and counters of the request-response ledger.
-/
namespace Litep2pVerif.ReqResp

variable {β : Type}

def alSum (w : β → Nat) (l : List (Nat × β)) : Nat := (l.map (fun e => w e.2)).sum

def keys (l : List (Nat × β)) : List Nat := l.map Prod.fst

@[simp] theorem alSum_nil (w : β → Nat) : alSum w [] = 0 := rfl
@[simp] theorem alSum_cons (w : β → Nat) (e : Nat × β) (l : List (Nat × β)) :
    alSum w (e :: l) = w e.2 + alSum w l := by simp [alSum]

theorem weight_le_alSum (w : β → Nat) (l : List (Nat × β)) (e : Nat × β) (he : e ∈ l) : w e.2 ≤ alSum w l :=
  le_sum_map_of_mem (fun e => w e.2) l e he

theorem alSum_sublist (w : β → Nat) {l' l : List (Nat × β)} (h : l'.Sublist l) : alSum w l' ≤ alSum w l := by
  induction h with
  | slnil => exact Nat.le_refl _
  | cons a _ ih => simp only [alSum_cons]; omega
  | cons_cons a _ ih => simp only [alSum_cons]; omega

theorem alSum_eq_zero (w : β → Nat) (l : List (Nat × β)) (h : ∀ e ∈ l, w e.2 = 0) : alSum w l = 0 :=
  List.sum_eq_zero_iff_forall_eq_nat.2 (List.forall_mem_map.2 h)

theorem alFind_cons_ne (k k' : Nat) (v : β) (l : List (Nat × β)) (h : k ≠ k') :
    alFind k' ((k, v) :: l) = alFind k' l := by
  simp [alFind, h]

theorem alFind_eq_none (k : Nat) (l : List (Nat × β)) : alFind k l = none ↔ k ∉ keys l := by
  induction l with
  | nil => simp [alFind, keys]
  | cons e rest ih =>
    obtain ⟨q, v⟩ := e
    by_cases hq : q = k
    · simp [alFind, keys, hq]
    · simp only [alFind, hq, if_false, ih, keys, List.map_cons, List.mem_cons, not_or]
      exact ⟨fun h => ⟨Ne.symm hq, h⟩, fun h => h.2⟩

theorem alFind_none_of_not_mem (k : Nat) (l : List (Nat × β)) (h : k ∉ keys l) : alFind k l = none :=
  (alFind_eq_none k l).mpr h

theorem key_ne_of_find_none (k : Nat) (l : List (Nat × β)) (h : alFind k l = none) (e : Nat × β) (he : e ∈ l) :
    e.1 ≠ k :=
  fun hk => (alFind_eq_none k l).mp h (hk ▸ List.mem_map_of_mem he)

theorem alTake_fst (k : Nat) (l : List (Nat × β)) : (alTake k l).1 = alFind k l := by
  induction l with
  | nil => rfl
  | cons e rest ih =>
    obtain ⟨q, v⟩ := e
    simp only [alTake, alFind]
    split <;> simp [ih]

/-- Reading off a `match alTake k l with | (o, rest) => …`. -/
theorem alTake_eq {k : Nat} {l rest : List (Nat × β)} {o : Option β} (h : alTake k l = (o, rest)) :
    alFind k l = o ∧ rest = (alTake k l).2 := by
  rw [← alTake_fst, h]; exact ⟨rfl, rfl⟩

theorem take_sublist (k : Nat) (l : List (Nat × β)) : (alTake k l).2.Sublist l := by
  induction l with
  | nil => exact List.Sublist.refl _
  | cons x rest ih =>
    obtain ⟨q, v⟩ := x
    simp only [alTake]
    split
    · exact List.sublist_cons_self _ _
    · exact List.Sublist.cons_cons _ ih

theorem take_perm {k : Nat} {l : List (Nat × β)} {v : β} (h : alFind k l = some v) :
    l.Perm ((k, v) :: (alTake k l).2) := by
  induction l with
  | nil => simp [alFind] at h
  | cons x rest ih =>
    obtain ⟨q, v'⟩ := x
    by_cases hq : q = k
    · simp only [alFind, hq, if_true, Option.some.injEq] at h
      simp only [alTake, hq, if_true, h]
      exact List.Perm.refl _
    · simp only [alFind, hq, if_false] at h
      simp only [alTake, hq, if_false]
      exact ((ih h).cons _).trans (List.Perm.swap ..)

theorem alTake_of_find_none (k : Nat) (l : List (Nat × β)) (h : alFind k l = none) :
    (alTake k l).2 = l := by
  induction l with
  | nil => rfl
  | cons e rest ih =>
    obtain ⟨q, v⟩ := e
    simp only [alFind] at h
    split at h
    · cases h
    · rename_i hq
      simp [alTake, hq, ih h]

theorem mem_of_find (k : Nat) (l : List (Nat × β)) (v : β) (h : alFind k l = some v) : (k, v) ∈ l :=
  (take_perm h).mem_iff.mpr (List.mem_cons_self ..)

theorem find_of_mem_nodup (l : List (Nat × β)) (h : (keys l).Nodup) (e : Nat × β) (he : e ∈ l) :
    alFind e.1 l = some e.2 := by
  cases hf : alFind e.1 l with
  | none => exact absurd rfl (key_ne_of_find_none e.1 l hf e he)
  | some v => rw [← eq_of_nodup_map Prod.fst l h _ (mem_of_find e.1 l v hf) e he rfl]

theorem alSum_take (w : β → Nat) {k : Nat} {l : List (Nat × β)} {v : β} (h : alFind k l = some v) :
    alSum w l = w v + alSum w (alTake k l).2 :=
  ((take_perm h).map _).sum_nat.trans (alSum_cons w (k, v) _)

theorem countP_take (q : Nat × β → Bool) {k : Nat} {l : List (Nat × β)} {v : β} (h : alFind k l = some v) :
    l.countP q = (if q (k, v) then 1 else 0) + (alTake k l).2.countP q := by
  rw [(take_perm h).countP_eq q, List.countP_cons]; omega

theorem alFind_take_ne (k k' : Nat) (h : k' ≠ k) (l : List (Nat × β)) :
    alFind k' (alTake k l).2 = alFind k' l := by
  induction l with
  | nil => rfl
  | cons e rest ih =>
    obtain ⟨q, v⟩ := e
    simp only [alTake]
    by_cases hq : q = k
    · subst hq
      have : ¬ q = k' := fun h' => h h'.symm
      simp [alFind, this]
    · simp only [hq, if_false, alFind, ih]

theorem key_ne_of_mem_take (k : Nat) (l : List (Nat × β)) (h : (keys l).Nodup) (e : Nat × β)
    (he : e ∈ (alTake k l).2) : e.1 ≠ k := by
  cases hf : alFind k l with
  | none => exact key_ne_of_find_none k l hf e ((take_sublist k l).subset he)
  | some v =>
    have hk : k ∉ keys (alTake k l).2 := (List.nodup_cons.mp (((take_perm hf).map Prod.fst).nodup_iff.mp h)).1
    have hm : e.1 ∈ keys (alTake k l).2 := List.mem_map_of_mem he
    exact fun h => hk (h ▸ hm)

theorem alFind_modify (k k' : Nat) (f : β → β) (l : List (Nat × β)) :
    alFind k' (alModify k f l) = if k' = k then (alFind k' l).map f else alFind k' l := by
  induction l with
  | nil => simp [alModify, alFind]
  | cons e rest ih =>
    obtain ⟨q, v⟩ := e
    simp only [alModify]
    by_cases hq : q = k
    · subst hq
      simp only [if_true, alFind]
      by_cases hk : q = k'
      · subst hk; simp
      · simp [hk, Ne.symm hk]
    · simp only [hq, if_false, alFind]
      by_cases hk : q = k'
      · subst hk; simp [hq]
      · simp only [hk, if_false, ih]

theorem keys_modify (k : Nat) (f : β → β) (l : List (Nat × β)) : keys (alModify k f l) = keys l := by
  induction l with
  | nil => rfl
  | cons e rest ih =>
    obtain ⟨q, v⟩ := e
    simp only [alModify]
    split
    · simp [keys]
    · simp only [keys, List.map_cons] at ih ⊢; rw [ih]

theorem alSum_modify (w : β → Nat) (f : β → β) {k : Nat} {l : List (Nat × β)} {v : β} (h : alFind k l = some v) :
    alSum w (alModify k f l) + w v = alSum w l + w (f v) := by
  induction l with
  | nil => simp [alFind] at h
  | cons e rest ih =>
    obtain ⟨q, v'⟩ := e
    by_cases hq : q = k
    · simp only [alFind, hq, if_true, Option.some.injEq] at h
      subst h
      simp only [alModify, hq, if_true, alSum_cons]; omega
    · simp only [alFind, hq, if_false] at h
      have := ih h
      simp only [alModify, hq, if_false, alSum_cons]; omega

theorem mem_modify (k : Nat) (f : β → β) (l : List (Nat × β)) (h : (keys l).Nodup) (e : Nat × β)
    (he : e ∈ alModify k f l) : (e.1 ≠ k ∧ e ∈ l) ∨ (e.1 = k ∧ ∃ v, (k, v) ∈ l ∧ e.2 = f v) := by
  have hf := find_of_mem_nodup _ (by rw [keys_modify]; exact h) e he
  rw [alFind_modify] at hf
  split at hf
  · rename_i hk
    obtain ⟨v, hv, hfv⟩ := Option.map_eq_some_iff.mp hf
    exact Or.inr ⟨hk, v, hk ▸ mem_of_find _ _ _ hv, hfv.symm⟩
  · rename_i hk
    exact Or.inl ⟨hk, mem_of_find _ _ _ hf⟩

theorem keys_pushDial (p : Peer) (c : Ctx) (l : List (Peer × List Ctx)) :
    keys (pushDial p c l) = if p ∈ keys l then keys l else keys l ++ [p] := by
  induction l with
  | nil => simp [pushDial, keys]
  | cons x rest ih =>
    obtain ⟨q, cs⟩ := x
    simp only [keys, List.map_cons, List.mem_cons] at ih ⊢
    by_cases hq : q = p
    · simp [pushDial, hq]
    · have : ¬ p = q := fun h => hq h.symm
      simp only [pushDial, hq, if_false, List.map_cons, ih, this, false_or]
      split <;> simp [*]

theorem key_mem_pushDial (p : Peer) (c : Ctx) (l : List (Peer × List Ctx)) : p ∈ keys (pushDial p c l) := by
  rw [keys_pushDial]; split <;> simp [*]

theorem nodup_pushDial (p : Peer) (c : Ctx) (l : List (Peer × List Ctx)) (h : (keys l).Nodup) :
    (keys (pushDial p c l)).Nodup := by
  rw [keys_pushDial]
  split
  · exact h
  · rename_i hp
    exact List.nodup_append.mpr ⟨h, by simp, fun a ha b hb => by simp at hb; exact hb ▸ fun e => hp (e ▸ ha)⟩

theorem forall_pushDial {Q : Peer → Ctx → Prop} {p : Peer} {c : Ctx} {l : List (Peer × List Ctx)}
    (hl : ∀ e ∈ l, ∀ c' ∈ e.2, Q e.1 c') (hc : Q p c) : ∀ e ∈ pushDial p c l, ∀ c' ∈ e.2, Q e.1 c' := by
  induction l with
  | nil =>
    intro e he c' hc'
    rw [List.mem_singleton.mp he] at hc' ⊢
    rw [List.mem_singleton.mp hc']; exact hc
  | cons x rest ih =>
    have ih := ih (fun e he => hl e (List.mem_cons_of_mem _ he))
    have hx := hl x (List.mem_cons_self ..)
    obtain ⟨q, cs⟩ := x
    simp only [pushDial]
    split
    · rename_i hq
      subst hq
      simp only [List.forall_mem_cons, List.mem_append, List.mem_singleton]
      exact ⟨fun c' hc' => hc'.elim (hx c') (fun h => h ▸ hc), fun e he => hl e (List.mem_cons_of_mem _ he)⟩
    · simp only [List.forall_mem_cons]
      exact ⟨hx, ih⟩

theorem terminals_append (log : List Event) (l : List Event) (r : Rid) :
    terminals (log ++ l) r = terminals log r + terminals l r := by
  simp [terminals, List.countP_append]

theorem terminals_failed (p : Peer) (rid : Rid) (e : RrError) (r : Rid) :
    terminals [Event.requestFailed p rid e] r = if rid == r then 1 else 0 := by
  simp [terminals, Event.terminalFor]

theorem terminals_response (p : Peer) (rid : Rid) (pl : Payload) (r : Rid) :
    terminals [Event.responseReceived p rid pl] r = if rid == r then 1 else 0 := by
  simp [terminals, Event.terminalFor]

theorem terminals_received (p : Peer) (rid : Rid) (pl : Payload) (r : Rid) :
    terminals [Event.requestReceived p rid pl] r = 0 := rfl

theorem terminals_map_failed {α : Type} (peer : Peer) (g : α → Rid) (err : α → RrError) (l : List α) (r : Rid) :
    terminals (l.map (fun x => Event.requestFailed peer (g x) (err x))) r = l.countP (fun x => g x == r) := by
  simp only [terminals, List.countP_map]; rfl

theorem ctxCount_cons (r : Rid) (c : Ctx) (l : List Ctx) :
    ctxCount r (c :: l) = ctxCount r l + (if c.rid == r then 1 else 0) := by
  simp [ctxCount, List.countP_cons]

theorem ctxCount_snoc (r : Rid) (l : List Ctx) (c : Ctx) :
    ctxCount r (l ++ [c]) = ctxCount r l + (if c.rid == r then 1 else 0) := by
  simp [ctxCount, List.countP_append, List.countP_cons]

theorem issuedCount_snoc (s : State) (c : Ctx) (r : Rid) :
    ctxCount r (s.issued ++ [c]) = issuedCount s r + (if c.rid == r then 1 else 0) := by
  simp [issuedCount, ctxCount_snoc]

theorem pairCount_append (r : Rid) (l l' : List (Sid × Ctx)) :
    pairCount r (l ++ l') = pairCount r l + pairCount r l' := by
  simp [pairCount, List.countP_append]

theorem pairCount_cons (r : Rid) (o : Sid × Ctx) (l : List (Sid × Ctx)) :
    pairCount r (o :: l) = pairCount r l + (if o.2.rid == r then 1 else 0) := by
  simp [pairCount, List.countP_cons]

def outCount (s : State) (r : Rid) : Nat := s.pendingOutbound.countP (fun e => e.2.rid == r)

/-- Request futures (live or orphaned by a closed connection). -/
def futCount (s : State) (r : Rid) : Nat := s.pendingInbound.countP (fun f => f.rid == r)

theorem dialCount_def (s : State) (r : Rid) : dialCount s r = alSum (ctxCount r) s.pendingDials := rfl
theorem activeCount_def (s : State) (r : Rid) :
    activeCount s r = alSum (fun pc => pc.active.count r) s.peers := rfl

theorem dialCount_take {s : State} {peer : Peer} {ctxs : List Ctx} (hfind : alFind peer s.pendingDials = some ctxs)
    (r : Rid) : dialCount s r = ctxCount r ctxs + alSum (ctxCount r) (alTake peer s.pendingDials).2 :=
  alSum_take (ctxCount r) hfind

theorem dialSum_pushDial (r : Rid) (p : Peer) (c : Ctx) (l : List (Peer × List Ctx)) :
    alSum (ctxCount r) (pushDial p c l) = alSum (ctxCount r) l + (if c.rid == r then 1 else 0) := by
  induction l with
  | nil => simp [pushDial, ctxCount, List.countP_cons]
  | cons e rest ih =>
    obtain ⟨q, cs⟩ := e
    simp only [pushDial]
    split
    · simp only [alSum_cons, ctxCount_snoc]; omega
    · simp only [alSum_cons, ih, Nat.add_assoc]

theorem count_setInsert (r x : Rid) (l : List Rid) (h : x ∉ l) :
    (setInsert x l).count r = l.count r + (if x == r then 1 else 0) := by
  simp only [setInsert, h, if_false, List.count_cons]

theorem mem_setInsert (x y : Rid) (l : List Rid) : y ∈ setInsert x l ↔ y = x ∨ y ∈ l :=
  mem_insert_unless x y l

theorem count_erase (x r : Rid) (l : List Rid) (h : x ∈ l) :
    (l.erase x).count r + (if x == r then 1 else 0) = l.count r :=
  countP_erase_add (· == r) l x h

theorem not_mem_erase_self_of_count_le (l : List Rid) (r : Rid) (h : l.count r ≤ 1) : r ∉ l.erase r := by
  intro hm
  have h1 := List.count_pos_iff.mpr hm
  have h2 := List.count_erase_self (a := r) (l := l)
  omega

theorem countP_le_one_unique {α : Type} [BEq α] [LawfulBEq α] (p : α → Bool) (l : List α) (h : l.countP p ≤ 1)
    (a b : α) (ha : a ∈ l) (hb : b ∈ l) (pa : p a = true) (pb : p b = true) : a = b := by
  apply Classical.byContradiction
  intro hab
  have h1 := countP_erase_add p l a ha
  have : 0 < (l.erase a).countP p :=
    List.countP_pos_iff.mpr ⟨b, (List.mem_erase_of_ne (Ne.symm hab)).mpr hb, pb⟩
  simp only [pa, if_true] at h1
  omega

end Litep2pVerif.ReqResp
