import Litep2pVerif.Model.ReqResp.Env
import Litep2pVerif.Proofs.ReqResp.Inbound
/-!
The observer invariant: every peer with a queue in `pending_dials` is owed the conclusion of a dial
by the transport manager. Hence a state in which the environment owes nothing has no parked request
(`envQuiescent_quiescent`), which is what `reach_exactly_one` of `Steps.lean` asks of a quiescent state.
-/
namespace Litep2pVerif.ReqResp

theorem reachE_reach (m : Option Nat) (e : EnvState) (h : ReachE m e) : Reach m e.s := by
  induction h with
  | init => exact Reach.init
  | step i _ hp ha ih => exact Reach.step i ih hp ha

/-- An event that concludes the dial of `p` takes the queue of `p` out of `pending_dials`, unless the
`debug_assert!` of `on_connection_established` fires (then nothing else changes). -/
theorem concl_dials (s : State) (i : Input) (p : Peer) (hc : i.concludesDial = some p) :
    ((step s i).panicked = s.panicked ∧ (step s i).pendingDials = (alTake p s.pendingDials).2) ∨
    ((step s i).panicked = true ∧ (step s i).pendingDials = s.pendingDials) := by
  cases i with
  | connectionEstablished peer openAns =>
    cases hc
    simp only [step, onConnectionEstablished]
    split
    · exact Or.inr ⟨rfl, rfl⟩
    · split
      · rename_i hx
        exact Or.inl ⟨rfl, (alTake_of_find_none _ _ (alTake_eq hx).1).symm⟩
      · rename_i hx
        rw [reportFailures_eq, (alTake_eq hx).2]
        split <;> exact Or.inl ⟨rfl, rfl⟩
  | dialFailure peer =>
    cases hc
    simp only [step, onDialFailure]
    split
    · rename_i hx
      exact Or.inl ⟨rfl, (alTake_of_find_none _ _ (alTake_eq hx).1).symm⟩
    · rename_i hx
      rw [failDials_eq, (alTake_eq hx).2]
      exact Or.inl ⟨rfl, rfl⟩
  | _ => cases hc

theorem dialOks_single_ok (p : Peer) : dialOks [.dial p (.ok ())] = [p] := rfl

structure DialOwed (e : EnvState) : Prop where
  nodup : (keys e.s.pendingDials).Nodup
  /-- every queue of parked requests waits for a dial the transport manager still owes -/
  owed : ∀ p ∈ keys e.s.pendingDials, p ∈ e.dialsOwed

theorem DialOwed.init (m : Option Nat) : DialOwed (initE m) := by
  constructor <;> simp [initE, ReqResp.init, keys]

theorem dialOwed_step (e : EnvState) (i : Input) (h : DialOwed e) (hp : e.s.panicked = false) :
    DialOwed (stepE e i) := by
  cases hc : i.concludesDial with
  | some p =>
    rcases concl_dials e.s i p hc with ⟨h1, h2⟩ | ⟨h1, h2⟩
    · refine ⟨h2 ▸ List.Nodup.sublist (List.Sublist.map _ (take_sublist p _)) h.nodup, fun k hm => ?_⟩
      obtain ⟨d, hd, rfl⟩ := List.mem_map.mp (show k ∈ keys (step e.s i).pendingDials from hm)
      rw [h2] at hd
      show d.1 ∈ (stepE e i).dialsOwed
      simp only [stepE, hc, h1, hp]
      refine List.mem_append_left _ (List.mem_filter.mpr
        ⟨h.owed d.1 (List.mem_map_of_mem ((take_sublist p _).subset hd)), ?_⟩)
      simpa using key_ne_of_mem_take p _ h.nodup d hd
    · refine ⟨h2 ▸ h.nodup, fun k hm => ?_⟩
      show k ∈ (stepE e i).dialsOwed
      simp only [stepE, hc, h1, if_true]
      exact List.mem_append_left _ (h.owed k (h2 ▸ hm))
  | none =>
    have keepAll : ∀ p ∈ e.dialsOwed, p ∈ (stepE e i).dialsOwed := by
      intro p hm
      simp only [stepE, hc]
      exact List.mem_append_left _ hm
    have hd := (step_frame e.s i).2.1
    cases i with
    | send peer req opts dialAns openAns =>
      rcases hd with hd | ⟨hd, hcalls⟩
      · exact ⟨hd ▸ h.nodup, fun p hm => keepAll p (h.owed p (hd ▸ hm))⟩
      · refine ⟨hd ▸ nodup_pushDial _ _ _ h.nodup, fun p hm => ?_⟩
        have hm' : p ∈ keys (pushDial peer ⟨peer, e.s.nextRid, req⟩ e.s.pendingDials) := hd ▸ hm
        rw [keys_pushDial] at hm'
        split at hm'
        · exact keepAll p (h.owed p hm')
        · rcases List.mem_append.mp hm' with h1 | h1
          · exact keepAll p (h.owed p h1)
          · show p ∈ (stepE e _).dialsOwed
            simp only [stepE, Input.concludesDial, hcalls, List.drop_left, dialOks_single_ok]
            exact List.mem_append_right _ h1
    | connectionEstablished peer openAns => cases hc
    | dialFailure peer => cases hc
    | _ => exact ⟨hd ▸ h.nodup, fun p hm => keepAll p (h.owed p (hd ▸ hm))⟩

theorem reachE_dialOwed (m : Option Nat) (e : EnvState) (h : ReachE m e) : DialOwed e := by
  induction h with
  | init => exact DialOwed.init m
  | step i _ hp _ ih => exact dialOwed_step _ i ih hp

theorem envQuiescent_quiescent (m : Option Nat) (e : EnvState) (h : ReachE m e) (hq : EnvQuiescent e) :
    Quiescent e.s := by
  refine ⟨List.eq_nil_iff_forall_not_mem.mpr fun d hd => ?_, hq.2.1, hq.2.2⟩
  have := (reachE_dialOwed m e h).owed d.1 (List.mem_map_of_mem hd)
  rw [hq.1] at this
  cases this

end Litep2pVerif.ReqResp
