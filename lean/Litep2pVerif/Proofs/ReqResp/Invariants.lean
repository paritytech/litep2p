import Litep2pVerif.Proofs.ReqResp.Frame
/-!
The invariants of the outbound path and the lemmas that carry them from a state to one that differs from it in a
controlled way.

* `Sub`, the history of substreams and payloads: the substreams opened, waited for and used per request id are counted
  against one another (with `Inv.issuedLe` this gives at most one substream per request id), and every
  `ResponseReceived` in the log carries a payload the responder wrote on that substream.
* `Inv`, the ledger: every issued request is in exactly one place.
* `Own`, the owner invariant: every request id registered in a peer's `active` set is waited for by a pending substream
  opened to that very peer or by a request future filed under that very peer.
-/
namespace Litep2pVerif.ReqResp

structure Sub (s : State) : Prop where
  outSub : ∀ o ∈ s.pendingOutbound, o ∈ s.opened
  sentSub : ∀ o ∈ s.sentOn, o ∈ s.opened
  openedIssued : ∀ o ∈ s.opened, o.2 ∈ s.issued
  dialIssued : ∀ e ∈ s.pendingDials, ∀ c ∈ e.2, c ∈ s.issued
  /-- substream ids are never reused -/
  openedNodup : (keys s.opened).Nodup
  openedCnt : ∀ r, dialCount s r + openedCount s r ≤ issuedCount s r
  sentCnt : ∀ r, outCount s r + sentCount s r ≤ openedCount s r
  futCnt : ∀ r, futCount s r ≤ sentCount s r
  futSent : ∀ f ∈ s.pendingInbound, ∃ c, (f.sid, c) ∈ s.sentOn ∧ c.rid = f.rid ∧ c.peer = f.peer
  respOk : ∀ p r pl, Event.responseReceived p r pl ∈ s.log →
    ∃ sid c, (sid, c) ∈ s.sentOn ∧ c.rid = r ∧ c.peer = p ∧ (sid, pl) ∈ s.wire

theorem Sub.init (m : Option Nat) : Sub (init m) := by
  constructor <;>
    simp [ReqResp.init, keys, dialCount, openedCount, issuedCount, outCount, futCount, sentCount, pairCount, ctxCount]

def RespFrom (s s' : State) : Prop :=
  ∀ p r pl, Event.responseReceived p r pl ∈ s'.log → Event.responseReceived p r pl ∈ s.log ∨
    ∃ sid c, (sid, c) ∈ s.sentOn ∧ c.rid = r ∧ c.peer = p ∧ (sid, pl) ∈ s.wire

/-- For the steps that open no substream and start no future. -/
theorem Sub.congr {s s' : State} (h : Sub s)
    (ho : s'.pendingOutbound.Sublist s.pendingOutbound) (hs : s'.sentOn = s.sentOn) (hop : s'.opened = s.opened)
    (hi : s.issued.Sublist s'.issued) (hd : s'.pendingDials.Sublist s.pendingDials)
    (hf : s'.pendingInbound.Sublist s.pendingInbound) (hl : RespFrom s s')
    (hw : ∀ x ∈ s.wire, x ∈ s'.wire) : Sub s' := by
  constructor
  · intro o ho'; rw [hop]; exact h.outSub o (ho.subset ho')
  · rw [hs, hop]; exact h.sentSub
  · intro o ho'; rw [hop] at ho'; exact hi.subset (h.openedIssued o ho')
  · intro e he c hc; exact hi.subset (h.dialIssued e (hd.subset he) c hc)
  · rw [hop]; exact h.openedNodup
  · intro r
    have h1 := h.openedCnt r; have h2 := hi.countP_le (p := fun c => c.rid == r); have h3 := alSum_sublist (ctxCount r) hd
    simp only [openedCount, issuedCount, ctxCount, dialCount_def, hop] at h1 h2 h3 ⊢
    omega
  · intro r
    have h1 := h.sentCnt r; have h2 := ho.countP_le (p := fun e : Sid × Ctx => e.2.rid == r)
    simp only [openedCount, sentCount, outCount, hop, hs] at h1 h2 ⊢
    omega
  · intro r
    have h1 := h.futCnt r; have h2 := hf.countP_le (p := fun f : Fut => f.rid == r)
    simp only [sentCount, futCount, hs] at h1 h2 ⊢
    omega
  · intro f hf'
    rw [hs]; exact h.futSent f (hf.subset hf')
  · intro p r pl hm
    rw [hs]
    rcases hl p r pl hm with hm | ⟨sid, c, h1, h2, h3, h4⟩
    · obtain ⟨sid, c, h1, h2, h3, h4⟩ := h.respOk p r pl hm
      exact ⟨sid, c, h1, h2, h3, hw _ h4⟩
    · exact ⟨sid, c, h1, h2, h3, hw _ h4⟩

theorem Sub.quiet {s s' : State} (h : Sub s) (hv : subView s' = subView s) (hl : RespFrom s s') : Sub s' := by
  simp only [subView, Prod.mk.injEq] at hv
  obtain ⟨e1, e2, e3, e4, e5, e6, e7⟩ := hv
  exact h.congr (e1 ▸ .refl _) e2 e3 (e4 ▸ .refl _) (e5 ▸ .refl _) (e6 ▸ .refl _) hl (e7 ▸ fun _ x => x)

theorem respFrom_step (s : State) (i : Input) (hni : ∀ f p, i ≠ .futureDone f (.response p)) :
    RespFrom s (step s i) := by
  intro p r pl hm
  rcases resp_step s i p r pl hm with h1 | ⟨f, hf, _⟩
  · exact Or.inl h1
  · exact absurd hf (hni f _)

structure Inv (s : State) : Prop where
  /-- every issued request is waiting for a dial, registered as active, finished with one terminal
  event, or silently finished by an effective cancel — exactly one of the four -/
  ledger : ∀ r, terminals s.log r + dialCount s r + activeCount s r + s.cancelDone.count r = issuedCount s r
  fresh : ∀ r, s.nextRid ≤ r → issuedCount s r = 0 ∧ outCount s r = 0 ∧ futCount s r = 0
  issuedLe : ∀ r, issuedCount s r ≤ 1
  excl : ∀ r, dialCount s r + outCount s r + futCount s r ≤ 1
  owned : ∀ e ∈ s.pendingOutbound, ∃ pc, alFind e.2.peer s.peers = some pc ∧ e.2.rid ∈ pc.active
  dialPeer : ∀ e ∈ s.pendingDials, ∀ c ∈ e.2, c.peer = e.1
  cancelSub : ∀ r, r ∈ s.cancelDone → r ∈ s.cancelSent

theorem alModify_erase_noop (l : List (Peer × PeerCtx)) (k : Peer) (x : Rid)
    (h : alSum (fun pc => pc.active.count x) l = 0) :
    alModify k (fun c => { c with active := c.active.erase x }) l = l := by
  induction l with
  | nil => rfl
  | cons e rest ih =>
    obtain ⟨q, v⟩ := e
    simp only [alSum_cons] at h
    simp only [alModify]
    split
    · have : x ∉ v.active := fun hm => by
        have := List.count_pos_iff.mpr hm
        omega
      simp [List.erase_of_not_mem this]
    · rw [ih (by omega)]

/-- A request waiting for a dial is not active, so `on_dial_failure` leaves `peers` as it is. -/
theorem eraseAll_noop (peer : Peer) (l : List Ctx) (P : List (Peer × PeerCtx))
    (h : ∀ c ∈ l, alSum (fun pc => pc.active.count c.rid) P = 0) : eraseAll peer l P = P := by
  induction l with
  | nil => rfl
  | cons x rest ih =>
    simp only [eraseAll, List.foldl_cons]
    rw [alModify_erase_noop _ _ _ (h x (List.mem_cons_self ..))]
    exact ih (fun c hc => h c (List.mem_cons_of_mem _ hc))

theorem keys_actives (P : List (Peer × PeerCtx)) : keys (actives P) = keys P := by
  simp [keys, actives, List.map_map, Function.comp_def]

theorem alSum_actives (r : Rid) (P : List (Peer × PeerCtx)) :
    alSum (fun a => a.count r) (actives P) = alSum (fun pc => pc.active.count r) P := by
  simp [alSum, actives, List.map_map, Function.comp_def]

theorem alFind_actives (k : Nat) (P : List (Peer × PeerCtx)) :
    alFind k (actives P) = (alFind k P).map (·.active) := by
  induction P with
  | nil => rfl
  | cons e rest ih =>
    obtain ⟨q, v⟩ := e
    simp only [actives, List.map_cons, alFind] at ih ⊢
    split
    · rfl
    · exact ih

/-- The components the ledger invariant reads, apart from the log, `cancelSent` and `nextRid`. -/
def invView (s : State) :=
  (s.pendingDials, actives s.peers, s.cancelDone, s.issued, s.pendingOutbound, s.pendingInbound)

theorem Inv.congr {s s' : State} (h : Inv s) (hv : invView s' = invView s)
    (hlog : ∀ r, terminals s'.log r = terminals s.log r)
    (hcs : ∀ r, r ∈ s.cancelSent → r ∈ s'.cancelSent) (hn : s.nextRid ≤ s'.nextRid) : Inv s' := by
  simp only [invView, Prod.mk.injEq] at hv
  obtain ⟨hd, hp, hcd, hi, ho, hf⟩ := hv
  have hsum : ∀ r, activeCount s' r = activeCount s r := fun r => by
    rw [activeCount_def, activeCount_def, ← alSum_actives, ← alSum_actives, hp]
  constructor
  · intro r; have := h.ledger r
    simp only [dialCount, issuedCount, hlog, hd, hsum, hcd, hi] at this ⊢; exact this
  · intro r hr; have := h.fresh r (Nat.le_trans hn hr)
    simpa only [issuedCount, outCount, futCount, hi, ho, hf] using this
  · intro r; have := h.issuedLe r; simpa only [issuedCount, hi] using this
  · intro r; have := h.excl r; simpa only [dialCount, outCount, futCount, hd, ho, hf] using this
  · intro e he
    rw [ho] at he
    obtain ⟨pc, hpc, hm⟩ := h.owned e he
    have := alFind_actives e.2.peer s'.peers
    rw [hp, alFind_actives, hpc] at this
    obtain ⟨pc', hx, ha⟩ := Option.map_eq_some_iff.mp this.symm
    exact ⟨pc', hx, ha ▸ hm⟩
  · rw [hd]; exact h.dialPeer
  · intro r hr; rw [hcd] at hr; exact hcs r (h.cancelSub r hr)

theorem Inv.init (m : Option Nat) : Inv (init m) := by
  constructor <;> simp [ReqResp.init, terminals, dialCount, activeCount, issuedCount, ctxCount, outCount, futCount]

/-- Freshness of the id allocated next, as one linear fact about its indicator. -/
theorem Inv.next_ind {s : State} (h : Inv s) (r : Rid) :
    (if s.nextRid == r then 1 else 0) + issuedCount s r ≤ 1 := by
  have := h.issuedLe r
  split
  · rename_i hr
    have := h.fresh r (Nat.le_of_eq (by simpa using hr))
    omega
  · omega

theorem Sub.places_le {s : State} (b : Sub s) (r : Rid) :
    dialCount s r + outCount s r + futCount s r ≤ issuedCount s r := by
  have := b.openedCnt r; have := b.sentCnt r; have := b.futCnt r
  omega

/-- Given `Sub`, `excl` and the part of `fresh` about pending substreams and futures are consequences
of the facts about `issued`. -/
theorem Inv.of_sub {s : State} (b : Sub s)
    (ledger : ∀ r, terminals s.log r + dialCount s r + activeCount s r + s.cancelDone.count r = issuedCount s r)
    (fresh : ∀ r, s.nextRid ≤ r → issuedCount s r = 0) (issuedLe : ∀ r, issuedCount s r ≤ 1)
    (owned : ∀ e ∈ s.pendingOutbound, ∃ pc, alFind e.2.peer s.peers = some pc ∧ e.2.rid ∈ pc.active)
    (dialPeer : ∀ e ∈ s.pendingDials, ∀ c ∈ e.2, c.peer = e.1)
    (cancelSub : ∀ r, r ∈ s.cancelDone → r ∈ s.cancelSent) : Inv s := by
  refine ⟨ledger, fun r hr => ?_, issuedLe, fun r => ?_, owned, dialPeer, cancelSub⟩
  · have := fresh r hr; have := b.places_le r; omega
  · have := issuedLe r; have := b.places_le r; omega

theorem Inv.of_sub_same {s s' : State} (h : Inv s) (b : Sub s') (hn : s'.nextRid = s.nextRid)
    (hi : s'.issued = s.issued)
    (ledger : ∀ r, terminals s'.log r + dialCount s' r + activeCount s' r + s'.cancelDone.count r = issuedCount s' r)
    (owned : ∀ e ∈ s'.pendingOutbound, ∃ pc, alFind e.2.peer s'.peers = some pc ∧ e.2.rid ∈ pc.active)
    (dialPeer : ∀ e ∈ s'.pendingDials, ∀ c ∈ e.2, c.peer = e.1)
    (cancelSub : ∀ r, r ∈ s'.cancelDone → r ∈ s'.cancelSent) : Inv s' := by
  refine Inv.of_sub b ledger (fun r hr => ?_) (fun r => ?_) owned dialPeer cancelSub
  · have := (h.fresh r (hn ▸ hr)).1; simpa only [issuedCount, hi] using this
  · have := h.issuedLe r; simpa only [issuedCount, hi] using this

theorem Inv.finish {s s' : State} (h : Inv s) (b : Sub s') {k : Peer} {pc : PeerCtx} {x : Rid}
    (hf : alFind k s.peers = some pc) (hm : x ∈ pc.active)
    (hp : s'.peers = alModify k (fun c => { c with active := c.active.erase x }) s.peers)
    (hn : s'.nextRid = s.nextRid) (hi : s'.issued = s.issued) (hd : s'.pendingDials = s.pendingDials)
    (ho : ∀ e ∈ s'.pendingOutbound, e ∈ s.pendingOutbound ∧ e.2.rid ≠ x)
    (hl : ∀ r, terminals s'.log r + s'.cancelDone.count r =
      terminals s.log r + s.cancelDone.count r + (if x == r then 1 else 0))
    (hcs : ∀ r ∈ s'.cancelDone, r ∈ s'.cancelSent) : Inv s' := by
  refine h.of_sub_same b hn hi (fun r => ?_) (fun e he => ?_) (by rw [hd]; exact h.dialPeer) hcs
  · have h1 := h.ledger r; have h2 := hl r
    have h3 := alSum_modify (fun pc => pc.active.count r) (fun c => { c with active := c.active.erase x }) hf
    have h4 := count_erase x r pc.active hm
    simp only [activeCount_def, dialCount_def, issuedCount, hp, hd, hi] at h1 h2 h3 ⊢
    omega
  · obtain ⟨he, hx⟩ := ho e he
    obtain ⟨pc', hpc, hm'⟩ := h.owned e he
    rw [hp, alFind_modify]
    split
    · exact ⟨_, by rw [hpc]; rfl, (List.mem_erase_of_ne hx).mpr hm'⟩
    · exact ⟨pc', hpc, hm'⟩

theorem dial_active_zero (s : State) (h : Inv s) (peer : Peer) (ctxs : List Ctx)
    (hfind : alFind peer s.pendingDials = some ctxs) :
    ∀ c ∈ ctxs, alSum (fun pc => pc.active.count c.rid) s.peers = 0 := by
  intro c hc
  have := h.ledger c.rid; have := h.issuedLe c.rid; have := dialCount_take hfind c.rid
  have : 0 < ctxCount c.rid ctxs := List.countP_pos_iff.mpr ⟨c, hc, by simp⟩
  simp only [activeCount_def] at *
  omega

theorem ind_of_lt {x r : Nat} (h : x < r) : (if x == r then 1 else 0) = 0 :=
  if_neg (by simp only [beq_iff_eq]; omega)

theorem activeSum_insert {l : List (Peer × PeerCtx)} {k : Peer} {pc : PeerCtx} (hf : alFind k l = some pc)
    {x : Rid} (hm : x ∉ pc.active) (r : Rid) :
    alSum (fun pc => pc.active.count r) (alModify k (fun c => { c with active := setInsert x c.active }) l) =
      alSum (fun pc => pc.active.count r) l + (if x == r then 1 else 0) := by
  have := alSum_modify (fun pc => pc.active.count r) (fun c => { c with active := setInsert x c.active }) hf
  simp only [count_setInsert r x pc.active hm] at this
  omega

structure Own (s : State) : Prop where
  nodup : (keys s.peers).Nodup
  owned : ∀ e ∈ s.peers, ∀ r ∈ e.2.active,
    (∃ o ∈ s.pendingOutbound, o.2.peer = e.1 ∧ o.2.rid = r) ∨
    (∃ f ∈ s.pendingInbound, f.peer = e.1 ∧ f.rid = r)

theorem Own.init (m : Option Nat) : Own (init m) := by
  constructor <;> simp [ReqResp.init, keys]

theorem Own.mono {s s' : State} (h : Own s) (hv : ownView s' = ownView s) : Own s' := by
  simp only [ownView, Prod.mk.injEq] at hv
  obtain ⟨hp, ho, hf⟩ := hv
  constructor
  · rw [← keys_actives, hp, keys_actives]; exact h.nodup
  · intro e he r hr
    have hm : (e.1, e.2.active) ∈ actives s'.peers := List.mem_map_of_mem (f := fun e => (e.1, e.2.active)) he
    rw [hp] at hm
    obtain ⟨e', he', heq⟩ := List.mem_map.mp hm
    simp only [Prod.mk.injEq] at heq
    rw [← heq.1, ho, hf]
    exact h.owned e' he' r (heq.2 ▸ hr)

theorem Inv.active_count_le {s : State} (h : Inv s) (e : Peer × PeerCtx) (he : e ∈ s.peers) (r : Rid) :
    e.2.active.count r ≤ 1 := by
  have h1 := weight_le_alSum (fun pc => pc.active.count r) s.peers e he
  have h2 := h.ledger r; have h3 := h.issuedLe r
  simp only [activeCount_def] at h2
  omega

theorem Own.mem_erase {s : State} (hi : Inv s) (h : Own s) (k : Peer) (x : Rid) (e : Peer × PeerCtx)
    (he : e ∈ alModify k (fun c => { c with active := c.active.erase x }) s.peers) (r : Rid) (hr : r ∈ e.2.active) :
    ∃ e' ∈ s.peers, e'.1 = e.1 ∧ r ∈ e'.2.active ∧ ¬ (e'.1 = k ∧ r = x) := by
  rcases mem_modify _ _ s.peers h.nodup e he with ⟨h1, h2⟩ | ⟨h1, v, h2, h3⟩
  · exact ⟨e, h2, rfl, hr, fun hc => h1 hc.1⟩
  · rw [h3] at hr
    refine ⟨(k, v), h2, h1.symm, List.mem_of_mem_erase hr, ?_⟩
    rintro ⟨_, hc⟩
    rw [hc] at hr
    exact not_mem_erase_self_of_count_le _ _ (hi.active_count_le _ h2 x) hr

/-- The three invariants are carried through one induction: the ledger of a new state rests on its substream history
(`Inv.of_sub`), the owner invariant on the ledger of the old state. -/
structure Good (s : State) : Prop where
  sub : Sub s
  inv : Inv s
  own : Own s

theorem Good.of {s : State} (b : Sub s) (i : Sub s → Inv s) (o : Own s) : Good s := ⟨b, i b, o⟩

theorem Good.init (m : Option Nat) : Good (init m) := ⟨.init m, .init m, .init m⟩

theorem Good.panicked {s : State} (h : Good s) : Good { s with panicked := true } :=
  ⟨h.sub.quiet rfl (fun _ _ _ hm => Or.inl hm), h.inv.congr rfl (fun _ => rfl) (fun _ hr => hr) (Nat.le_refl _),
    h.own.mono rfl⟩

end Litep2pVerif.ReqResp
