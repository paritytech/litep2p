import Litep2pVerif.Model.ReqResp.Handle
import Litep2pVerif.Proofs.ReqResp.Lists
/-!
The user-facing translation layer: every internal outcome of a request becomes at most one user
event (none exactly for `Canceled`), the handle's stream is a field-preserving one-to-one image of
the protocol's event stream (it never panics), and the handle's own bookkeeping (request ids,
command channel, pending responses).
-/
namespace Litep2pVerif.ReqResp

theorem result_canceled_iff (o : FutOutcome) : o.result = .error .canceled ↔ o = .canceled := by
  cases o <;> simp [FutOutcome.result]

theorem terminalEvents_nil_iff (peer : Peer) (rid : Rid) (res : FutResult) :
    terminalEvents peer rid res = [] ↔ res = .error .canceled := by
  cases res with
  | response p => simp [terminalEvents]
  | error e => cases e <;> simp [terminalEvents]

theorem terminalEvents_length (peer : Peer) (rid : Rid) (res : FutResult) :
    (terminalEvents peer rid res).length ≤ 1 := by
  cases res with
  | response p => simp [terminalEvents]
  | error e => cases e <;> simp [terminalEvents]

theorem terminalEvents_terminal (peer : Peer) (rid : Rid) (res : FutResult) :
    ∀ ev ∈ terminalEvents peer rid res, Event.terminalFor rid ev = true := by
  cases res with
  | response p => simp [terminalEvents, Event.terminalFor]
  | error e => cases e <;> simp [terminalEvents, Event.terminalFor]

theorem substreamEvent_log (s : State) (f : Fut) (res : FutResult) :
    (onSubstreamEvent s f res).log =
      match alFind f.peer s.peers with
      | some pc => if f.rid ∈ pc.active then s.log ++ terminalEvents f.peer f.rid res else s.log
      | none => s.log := by
  simp only [onSubstreamEvent]
  cases hf : alFind f.peer s.peers with
  | none => rfl
  | some pc =>
    simp only []
    by_cases hm : f.rid ∈ pc.active
    · simp only [hm, if_true]
      cases res with
      | response p => simp [terminalEvents, emit]
      | error e => cases e <;> simp [terminalEvents, emit]
    · simp only [hm, if_false]

theorem ofSubErr_eq (e : SubErr) :
    RejectReason.ofSubErr e = if e.isNotConnected then .connectionClosed else .substreamOpenError e := by
  cases e <;> rfl

theorem openFailureError_eq (e : SubErr) :
    openFailureError e = if e = .unsupported then .unsupportedProtocol else .rejected (.ofSubErr e) := by
  cases e <;> rfl

theorem substreamOpenFailure_log (s : State) (sid : Sid) (error : SubErr) (ctx : Ctx)
    (h : alFind sid s.pendingOutbound = some ctx) :
    (onSubstreamOpenFailure s sid error).log =
      s.log ++ [.requestFailed ctx.peer ctx.rid (openFailureError error)] := by
  simp only [onSubstreamOpenFailure]
  split
  all_goals
    rename_i hx
    have := (alTake_eq hx).1
    rw [h] at this
    cases this
  cases error <;> rfl

def InnerEvent.toUser : InnerEvent → UserEvent
  | .requestReceived p fb r req => .requestReceived p fb r req
  | .responseReceived p fb r resp => .responseReceived p r fb resp
  | .requestFailed p r e => .requestFailed p r e

theorem poll_event (h : Handle) (ev : InnerEvent) : (h.poll ev).2 = some ev.toUser := by
  cases ev <;> rfl

theorem pollAll_events (h : Handle) (evs : List InnerEvent) :
    (h.pollAll evs).2 = evs.map (fun ev => some ev.toUser) := by
  induction evs generalizing h with
  | nil => rfl
  | cons ev rest ih => simp only [Handle.pollAll, List.map_cons, poll_event, ih]

theorem toUser_terminalFor (r : Rid) (ev : InnerEvent) :
    UserEvent.terminalFor r ev.toUser = InnerEvent.terminalFor r ev := by
  cases ev <;> rfl

theorem toInner_terminalFor (r : Rid) (fb : Option Nat) (ev : Event) :
    InnerEvent.terminalFor r (ev.toInner fb) = Event.terminalFor r ev := by
  cases ev <;> rfl

/-- Terminal events the user receives for request `r` out of the model's log, whatever fallback
protocols the substreams were negotiated with. -/
def userTerminals (h : Handle) (log : List Event) (fb : Event → Option Nat) (r : Rid) : Nat :=
  ((h.pollAll (log.map fun ev => ev.toInner (fb ev))).2.filterMap id).countP (UserEvent.terminalFor r)

theorem userTerminals_eq (h : Handle) (log : List Event) (fb : Event → Option Nat) (r : Rid) :
    userTerminals h log fb r = terminals log r := by
  simp only [userTerminals, pollAll_events, terminals]
  induction log with
  | nil => rfl
  | cons ev rest ih =>
    simp only [List.map_cons, List.filterMap_cons, id, List.countP_cons, toUser_terminalFor,
      toInner_terminalFor] at ih ⊢
    rw [ih]

theorem trySend_spec (h : Handle) (n : Nat) (mk : Rid → Command) :
    (h.trySend n mk).2.1 = n + 1 ∧
    (h.queue.length < h.capacity →
      (h.trySend n mk).2.2 = some n ∧ (h.trySend n mk).1.queue = h.queue ++ [mk n]) ∧
    (¬ h.queue.length < h.capacity → (h.trySend n mk).2.2 = none ∧ (h.trySend n mk).1 = h) := by
  simp only [Handle.trySend]
  split <;> simp_all

theorem trySendMany_spec (h : Handle) (n : Nat) (mk : Rid → Command) (k : Nat) :
    (h.trySendMany n mk k).2.1 = n + k ∧
    (h.trySendMany n mk k).2.2 = min k (h.capacity - h.queue.length) := by
  induction k generalizing h n with
  | zero => simp [Handle.trySendMany]
  | succ k ih =>
    simp only [Handle.trySendMany, Handle.trySend]
    split
    · have := ih { h with queue := h.queue ++ [mk n] } (n + 1)
      simp only [List.length_append, List.length_singleton, Option.isSome_some, if_true] at this ⊢
      omega
    · have := ih h (n + 1)
      simp only [Option.isSome_none, Bool.false_eq_true, if_false]
      omega

theorem nodup_poll (h : Handle) (ev : InnerEvent) (hn : h.pendingResponses.Nodup) :
    (h.poll ev).1.pendingResponses.Nodup := by
  cases ev with
  | requestReceived p fb r req =>
    simp only [Handle.poll, List.nodup_cons]
    exact ⟨hn.not_mem_erase, List.Nodup.erase _ hn⟩
  | responseReceived p fb r resp => exact hn
  | requestFailed p r e => exact hn

theorem sendResponse_consumes (h : Handle) (rid : Rid) (hn : h.pendingResponses.Nodup) :
    (h.sendResponse rid).1.pendingResponses.Nodup ∧ rid ∉ (h.sendResponse rid).1.pendingResponses ∨
    (h.sendResponse rid).2 = false := by
  simp only [Handle.sendResponse]
  split
  · exact Or.inl ⟨List.Nodup.erase _ hn, hn.not_mem_erase⟩
  · exact Or.inr rfl

theorem rejectRequest_consumes (h : Handle) (rid : Rid) (hn : h.pendingResponses.Nodup) :
    (h.rejectRequest rid).1.pendingResponses.Nodup ∧ rid ∉ (h.rejectRequest rid).1.pendingResponses ∨
    (h.rejectRequest rid).2 = false := by
  simp only [Handle.rejectRequest]
  split
  · exact Or.inl ⟨List.Nodup.erase _ hn, hn.not_mem_erase⟩
  · exact Or.inr rfl

/-- Once an inbound request has been answered or rejected, a further answer or rejection of it has
no effect: the `oneshot` of an inbound request is used at most once. -/
theorem answer_once (h : Handle) (rid : Rid) (hn : h.pendingResponses.Nodup) :
    ((h.sendResponse rid).1.sendResponse rid).2 = false ∧
    ((h.sendResponse rid).1.rejectRequest rid).2 = false ∧
    ((h.rejectRequest rid).1.sendResponse rid).2 = false ∧
    ((h.rejectRequest rid).1.rejectRequest rid).2 = false := by
  have e : rid ∉ h.pendingResponses.erase rid := hn.not_mem_erase
  by_cases hm : rid ∈ h.pendingResponses <;>
    simp [Handle.sendResponse, Handle.rejectRequest, hm, e]

end Litep2pVerif.ReqResp
