import Litep2pVerif.Proofs.ReqResp.Invariants
/-!
Every allowed input keeps `Good`: one lemma per input that touches the outbound path, in which the handler is unfolded
once and each of its branches is checked against the three invariants. Then what they give on reachable states: at most
one terminal event, the response matches, exactly one terminal event at quiescence, and the cancel window.
-/
namespace Litep2pVerif.ReqResp

theorem good_send (s : State) (peer : Peer) (request : Request) (opts : DialOptions)
    (dialAns : Except DialErr Unit) (openAns : Except SubErr Sid) (h : Good s)
    (ha : ∀ sid, openAns = .ok sid → alFind sid s.pendingOutbound = none ∧ ∀ e ∈ s.opened, e.1 ≠ sid) :
    Good (step s (.send peer request opts dialAns openAns)) := by
  have hl := respFrom_step s (.send peer request opts dialAns openAns) nofun
  have hfresh : ∀ r, s.nextRid + 1 ≤ r → ctxCount r (s.issued ++ [⟨peer, s.nextRid, request⟩]) = 0 := by
    intro r hr
    have h1 := h.inv.fresh r (by omega); have := ind_of_lt (x := s.nextRid) (r := r) (by omega)
    simp only [issuedCount, ctxCount_snoc] at h1 ⊢
    omega
  have hissued : ∀ r, ctxCount r (s.issued ++ [⟨peer, s.nextRid, request⟩]) ≤ 1 := by
    intro r
    have h1 := h.inv.next_ind r
    simp only [issuedCount, ctxCount_snoc] at h1 ⊢
    omega
  -- the paths on which the request fails at once
  have fail : ∀ (err : RrError) (calls : List Call) (s' : State),
      s' = emit { s with nextRid := s.nextRid + 1, issued := s.issued ++ [⟨peer, s.nextRid, request⟩],
                         calls := calls } (.requestFailed peer s.nextRid err) → RespFrom s s' → Good s' := by
    intro err calls s' hs' hl
    subst hs'
    refine .of (h.sub.congr (.refl _) rfl rfl (List.sublist_append_left ..) (.refl _) (.refl _) hl (fun _ x => x))
      (fun b => Inv.of_sub b (fun r => ?_) hfresh hissued h.inv.owned h.inv.dialPeer h.inv.cancelSub) (h.own.mono rfl)
    have h1 := h.inv.ledger r
    simp only [emit, terminals_append, terminals_failed, activeCount_def, dialCount_def, issuedCount,
      ctxCount_snoc] at h1 ⊢
    omega
  revert hl
  simp only [step, onSendRequest]
  split
  · split
    · exact fail _ _ _ rfl
    · split
      · -- dial accepted: the request joins the peer's queue
        refine fun _ => .of ⟨h.sub.outSub, h.sub.sentSub, fun o ho => List.mem_append_left _ (h.sub.openedIssued o ho),
            forall_pushDial (Q := fun _ c => c ∈ _)
              (fun e he c hc => List.mem_append_left _ (h.sub.dialIssued e he c hc))
              (List.mem_append_right _ (List.mem_singleton.mpr rfl)),
            h.sub.openedNodup, fun r => ?_, h.sub.sentCnt, h.sub.futCnt, h.sub.futSent, h.sub.respOk⟩
          (fun b => Inv.of_sub b (fun r => ?_) hfresh hissued h.inv.owned
            (forall_pushDial (Q := fun k c => c.peer = k) h.inv.dialPeer rfl) h.inv.cancelSub) (h.own.mono rfl)
        · have := h.sub.openedCnt r
          simp only [dialCount_def, dialSum_pushDial, openedCount, issuedCount, ctxCount_snoc] at this ⊢
          omega
        · have h1 := h.inv.ledger r
          simp only [activeCount_def, dialCount_def, issuedCount, ctxCount_snoc, dialSum_pushDial] at h1 ⊢
          omega
      · exact fail _ _ _ rfl
  · rename_i ctx hctx
    split
    · rename_i sid
      split
      · -- `debug_assert!(unique_request_id)` cannot fire: the id is fresh
        rename_i hmem
        exfalso
        have h0 := weight_le_alSum (fun pc => pc.active.count s.nextRid) _ _ (mem_of_find peer _ ctx hctx)
        have := List.count_pos_iff.mpr hmem
        have := (h.inv.fresh s.nextRid (Nat.le_refl _)).1; have h1 := h.inv.ledger s.nextRid
        simp only [activeCount_def] at h0 h1
        omega
      · -- a substream is opened for the request
        rename_i hmem
        have hact := activeSum_insert hctx hmem
        simp only [alTake_of_find_none sid _ (ha sid rfl).1]
        refine fun _ => .of ⟨fun o ho => ?_, fun o ho => List.mem_append_left _ (h.sub.sentSub o ho), fun o ho => ?_,
            fun e he c hc => List.mem_append_left _ (h.sub.dialIssued e he c hc), ?_, fun r => ?_, fun r => ?_,
            h.sub.futCnt, h.sub.futSent, h.sub.respOk⟩
          (fun b => Inv.of_sub b (fun r => ?_) hfresh hissued (fun e he => ?_) h.inv.dialPeer h.inv.cancelSub)
          ⟨by simp only [keys_modify]; exact h.own.nodup, fun e he r hr => ?_⟩
        · rcases List.mem_cons.mp ho with ho | ho
          · rw [ho]; exact List.mem_append_right _ (List.mem_singleton.mpr rfl)
          · exact List.mem_append_left _ (h.sub.outSub o ho)
        · rcases List.mem_append.mp ho with ho | ho
          · exact List.mem_append_left _ (h.sub.openedIssued o ho)
          · rw [List.mem_singleton.mp ho]; simp
        · simp only [keys, List.map_append, List.map_cons, List.map_nil]
          refine List.nodup_append.mpr ⟨h.sub.openedNodup, by simp, fun a ha' b hb => ?_⟩
          obtain ⟨e, he, hk⟩ := List.mem_map.mp ha'
          rw [List.mem_singleton.mp hb, ← hk]
          exact (ha sid rfl).2 e he
        · have := h.sub.openedCnt r
          simp only [dialCount_def, openedCount, pairCount, List.countP_append, List.countP_cons,
            List.countP_nil, issuedCount, ctxCount_snoc] at this ⊢
          omega
        · have := h.sub.sentCnt r
          simp only [outCount, sentCount, openedCount, pairCount, List.countP_append, List.countP_cons,
            List.countP_nil] at this ⊢
          omega
        · have h1 := h.inv.ledger r; have := hact r
          simp only [activeCount_def, dialCount_def, issuedCount, ctxCount_snoc] at h1 ⊢
          omega
        · rw [alFind_modify]
          rcases List.mem_cons.mp he with he | he
          · subst he
            simp only [if_true, hctx, Option.map_some]
            exact ⟨_, rfl, (mem_setInsert _ _ _).mpr (Or.inl rfl)⟩
          · obtain ⟨pc, hpc, hm⟩ := h.inv.owned e he
            split
            · exact ⟨_, by rw [hpc]; rfl, (mem_setInsert _ _ _).mpr (Or.inr hm)⟩
            · exact ⟨pc, hpc, hm⟩
        · -- the new id is waited for by the new entry, every other by what waited for it before
          rcases mem_modify _ _ s.peers h.own.nodup e he with ⟨_, h2⟩ | ⟨h1, v, h2, h3⟩
          · exact (h.own.owned e h2 r hr).imp (fun ⟨o, h4, h5⟩ => ⟨o, List.mem_cons_of_mem _ h4, h5⟩) id
          · rw [h3] at hr
            rw [h1]
            rcases (mem_setInsert _ _ _).mp hr with hr | hr
            · exact Or.inl ⟨_, List.mem_cons_self .., rfl, hr.symm⟩
            · exact (h.own.owned (peer, v) h2 r hr).imp (fun ⟨o, h4, h5⟩ => ⟨o, List.mem_cons_of_mem _ h4, h5⟩) id
    · exact fail _ _ _ rfl

theorem good_connectionEstablished (s : State) (peer : Peer) (openAns : Nat → Except SubErr Sid) (h : Good s)
    (hfresh : ∀ i sid, openAns i = .ok sid →
      alFind sid s.pendingOutbound = none ∧ ∀ e ∈ s.opened, e.1 ≠ sid)
    (hinj : ∀ i j sid, openAns i = .ok sid → openAns j = .ok sid → i = j) :
    Good (step s (.connectionEstablished peer openAns)) := by
  have hl := respFrom_step s (.connectionEstablished peer openAns) nofun
  revert hl
  simp only [step]
  rcases connectionEstablished_cases s peer openAns (fun i sid hs => (hfresh i sid hs).1) hinj with
    he | ⟨hnone, hcases⟩
  · rw [he]; exact fun _ => h.panicked
  -- entries waiting for a substream belong to other peers
  have hold : ∀ (pc' : PeerCtx), ∀ e ∈ s.pendingOutbound,
      ∃ pc, alFind e.2.peer ((peer, pc') :: s.peers) = some pc ∧ e.2.rid ∈ pc.active := by
    intro pc' e he
    obtain ⟨pc, hpc, hm⟩ := h.inv.owned e he
    have hne : peer ≠ e.2.peer := fun heq => by rw [← heq, hnone] at hpc; cases hpc
    exact ⟨pc, by rw [alFind_cons_ne _ _ _ _ hne]; exact hpc, hm⟩
  have hnk : ∀ pc : PeerCtx, (keys ((peer, pc) :: s.peers)).Nodup :=
    fun _ => List.nodup_cons.mpr ⟨(alFind_eq_none peer _).mp hnone, h.own.nodup⟩
  rcases hcases with he | ⟨ctxs, act, fl, calls', hfind, hact, hfl, he⟩
  · -- no request waits for this peer
    rw [he]
    refine fun hl => .of (h.sub.quiet rfl hl)
      (fun b => h.inv.of_sub_same b rfl rfl (fun r => ?_) (hold _) h.inv.dialPeer h.inv.cancelSub)
      ⟨hnk _, fun e he r hr => ?_⟩
    · have := h.inv.ledger r
      simpa only [activeCount_def, dialCount_def, issuedCount, alSum_cons, List.count_nil, Nat.zero_add] using this
    · rcases List.mem_cons.mp he with he | he
      · subst he; simp at hr
      · exact h.own.owned e he r hr
  · rw [he]
    obtain ⟨h3, h4⟩ := openedBy_spec openAns hinj ctxs 0
    have hD := dialCount_take hfind
    -- each id registered as active is that of one substream opened to this peer
    have hact := hact (fun r => by have := h.inv.excl r; have := hD r; omega)
    have hpeer : ∀ o ∈ openedBy openAns ctxs 0, o.2.peer = peer := fun o ho =>
      h.inv.dialPeer (peer, ctxs) (mem_of_find peer _ ctxs hfind) _ (h3 o ho).1
    have hold' : ∀ e ∈ s.peers, ∀ r ∈ e.2.active,
        (∃ o ∈ (openedBy openAns ctxs 0).reverse ++ s.pendingOutbound, o.2.peer = e.1 ∧ o.2.rid = r) ∨
        (∃ f ∈ s.pendingInbound, f.peer = e.1 ∧ f.rid = r) := fun e he r hr =>
      (h.own.owned e he r hr).imp (fun ⟨o, h5, h6⟩ => ⟨o, List.mem_append_right _ h5, h6⟩) id
    refine fun hl => .of ⟨fun o ho => ?_, fun o ho => List.mem_append_left _ (h.sub.sentSub o ho), fun o ho => ?_,
        fun e he c hc => h.sub.dialIssued e ((take_sublist peer _).subset he) c hc, ?_, fun r => ?_, fun r => ?_,
        h.sub.futCnt, h.sub.futSent, fun p r pl hm => (hl p r pl hm).elim (h.sub.respOk p r pl) id⟩
      (fun b => h.inv.of_sub_same b rfl rfl (fun r => ?_) (fun e he => ?_)
        (fun e he => h.inv.dialPeer e ((take_sublist peer _).subset he)) h.inv.cancelSub) ?_
    · rcases List.mem_append.mp ho with hm | hm
      · exact List.mem_append_right _ (List.mem_reverse.mp hm)
      · exact List.mem_append_left _ (h.sub.outSub o hm)
    · rcases List.mem_append.mp ho with hm | hm
      · exact h.sub.openedIssued o hm
      · exact h.sub.dialIssued (peer, ctxs) (mem_of_find peer _ ctxs hfind) _ (h3 o hm).1
    · simp only [keys, List.map_append]
      refine List.nodup_append.mpr ⟨h.sub.openedNodup, h4, fun a ha b hb => ?_⟩
      obtain ⟨e, he, hk⟩ := List.mem_map.mp ha
      obtain ⟨o, ho, hk'⟩ := List.mem_map.mp hb
      obtain ⟨_, j, _, hj⟩ := h3 o ho
      rw [← hk, ← hk']
      exact (hfresh j o.1 hj).2 e he
    · have h1 := h.sub.openedCnt r; have h2 := hD r; have h3 := hfl r
      simp only [dialCount_def, openedCount, pairCount_append, issuedCount] at h1 h2 h3 ⊢
      omega
    · have h1 := h.sub.sentCnt r
      simp only [outCount, sentCount, openedCount, pairCount, List.countP_append, List.countP_reverse] at h1 ⊢
      omega
    · have := h.inv.ledger r; have := hD r; have := hfl r; have := hact r
      have := terminals_map_failed peer Prod.fst (fun x => .rejected (.ofSubErr x.2)) fl r
      have : alSum (fun pc => pc.active.count r)
          (if act.isEmpty then s.peers else (peer, { active := act }) :: s.peers) =
          alSum (fun pc => pc.active.count r) s.peers + act.count r := by
        split
        · rename_i hemp; rw [List.isEmpty_iff.mp hemp]; rfl
        · simp only [alSum_cons]; omega
      simp only [terminals_append, activeCount_def, dialCount_def, issuedCount] at *
      omega
    · show ∃ pc, alFind e.2.peer (if act.isEmpty then s.peers else (peer, { active := act }) :: s.peers) = some pc ∧ _
      rcases List.mem_append.mp he with he | he
      · have he := List.mem_reverse.mp he
        have hm : e.2.rid ∈ act :=
          List.count_pos_iff.mp (by rw [hact]; exact List.countP_pos_iff.mpr ⟨e, he, by simp⟩)
        rw [if_neg (fun hemp => by rw [List.isEmpty_iff.mp hemp] at hm; cases hm), hpeer e he]
        exact ⟨{ active := act }, by simp [alFind], hm⟩
      · split
        · exact h.inv.owned e he
        · exact hold _ e he
    · split
      · exact ⟨h.own.nodup, hold'⟩
      · refine ⟨hnk _, fun e he r hr => ?_⟩
        rcases List.mem_cons.mp he with he | he
        · subst he
          obtain ⟨o, ho, hor⟩ := List.countP_pos_iff.mp
            (show 0 < pairCount r (openedBy openAns ctxs 0) by rw [← hact]; exact List.count_pos_iff.mpr hr)
          exact Or.inl ⟨o, List.mem_append_left _ (List.mem_reverse.mpr ho), hpeer o ho, by simpa using hor⟩
        · exact hold' e he r hr

theorem good_connectionClosed (s : State) (peer : Peer) (h : Good s) : Good (step s (.connectionClosed peer)) := by
  have hl := respFrom_step s (.connectionClosed peer) nofun
  have keep : ∀ e : Peer × PeerCtx, e.1 ≠ peer → ∀ o ∈ s.pendingOutbound, o.2.peer = e.1 →
      o ∈ s.pendingOutbound.filter (fun e => e.2.peer != peer) := fun e hne o ho hp =>
    List.mem_filter.mpr ⟨ho, by simp only [bne_iff_ne, ne_eq]; rw [hp]; exact hne⟩
  revert hl
  simp only [step, onConnectionClosed]
  split
  · rename_i x hx
    refine fun hl => .of (h.sub.congr List.filter_sublist rfl rfl (.refl _) (.refl _) (.refl _) hl (fun _ x => x))
      (fun b => h.inv.of_sub_same b rfl rfl h.inv.ledger
        (fun e he => h.inv.owned e (List.mem_filter.mp he).1) h.inv.dialPeer h.inv.cancelSub)
      ⟨h.own.nodup, fun e he r hr => ?_⟩
    have hne := key_ne_of_find_none peer _ (alTake_eq hx).1 e he
    exact (h.own.owned e he r hr).imp (fun ⟨o, h3, h4⟩ => ⟨o, keep e hne o h3 h4.1, h4⟩) id
  · rename_i ctx peers hx
    obtain ⟨hfind, rfl⟩ := alTake_eq hx
    rw [failAll_eq]
    refine fun hl => .of (h.sub.congr List.filter_sublist rfl rfl (.refl _) (.refl _) (.refl _) hl (fun _ x => x))
      (fun b => h.inv.of_sub_same b rfl rfl (fun r => ?_) (fun e he => ?_) h.inv.dialPeer h.inv.cancelSub)
      ⟨List.Nodup.sublist (List.Sublist.map _ (take_sublist peer _)) h.own.nodup, fun e he r hr => ?_⟩
    · have h1 := h.inv.ledger r
      have h2 := alSum_take (fun pc => pc.active.count r) hfind
      have h3 := terminals_map_failed peer id (fun _ => .rejected .connectionClosed) ctx.active r
      simp only [terminals_append, activeCount_def, dialCount_def, issuedCount, List.count, id] at h1 h2 h3 ⊢
      omega
    · have hm := List.mem_filter.mp he
      obtain ⟨pc, hpc, hmem⟩ := h.inv.owned e hm.1
      have hne : e.2.peer ≠ peer := by simpa using hm.2
      exact ⟨pc, by rw [alFind_take_ne peer e.2.peer hne]; exact hpc, hmem⟩
    · have hne := key_ne_of_mem_take peer _ h.own.nodup e he
      exact (h.own.owned e ((take_sublist peer _).subset he) r hr).imp
        (fun ⟨o, h3, h4⟩ => ⟨o, keep e hne o h3 h4.1, h4⟩) id

theorem good_dialFailure (s : State) (peer : Peer) (h : Good s) : Good (step s (.dialFailure peer)) := by
  have hl := respFrom_step s (.dialFailure peer) nofun
  revert hl
  simp only [step, onDialFailure]
  split
  · exact fun _ => h
  · rename_i ctxs dials hx
    obtain ⟨hfind, rfl⟩ := alTake_eq hx
    rw [failDials_eq, eraseAll_noop peer ctxs _ (dial_active_zero s h.inv peer ctxs hfind)]
    refine fun hl => .of (h.sub.congr (.refl _) rfl rfl (.refl _) (take_sublist peer _) (.refl _) hl (fun _ x => x))
      (fun b => h.inv.of_sub_same b rfl rfl (fun r => ?_) h.inv.owned
        (fun e he => h.inv.dialPeer e ((take_sublist peer _).subset he)) h.inv.cancelSub) (h.own.mono rfl)
    have h1 := h.inv.ledger r; have h2 := dialCount_take hfind r
    have h3 := terminals_map_failed peer Ctx.rid (fun _ => .rejected (.dialFailed none)) ctxs r
    simp only [terminals_append, activeCount_def, dialCount_def, issuedCount, ctxCount] at h1 h2 h3 ⊢
    omega

theorem good_outboundSubstream (s : State) (peer : Peer) (sid : Sid) (fb : Option Nat) (h : Good s)
    (ha : ∀ ctx, alFind sid s.pendingOutbound = some ctx → ctx.peer = peer) :
    Good (step s (.outboundSubstream peer sid fb)) := by
  simp only [step, onOutboundSubstream]
  split
  · exact h.panicked
  · rename_i ctx outbound hx
    obtain ⟨hfind, rfl⟩ := alTake_eq hx
    obtain rfl := ha ctx hfind
    refine .of ?_ (fun b => h.inv.of_sub_same b rfl rfl h.inv.ledger
      (fun e he => h.inv.owned e ((take_sublist sid _).subset he)) h.inv.dialPeer h.inv.cancelSub)
      ⟨h.own.nodup, fun e he r hr => ?_⟩
    · refine ⟨fun o ho => h.sub.outSub o ((take_sublist sid _).subset ho), fun o ho => ?_, h.sub.openedIssued,
        h.sub.dialIssued, h.sub.openedNodup, h.sub.openedCnt, fun r => ?_, fun r => ?_, fun f hf => ?_,
        fun p r pl hm => ?_⟩
      · rcases List.mem_append.mp ho with ho | ho
        · exact h.sub.sentSub o ho
        · rw [List.mem_singleton.mp ho]; exact h.sub.outSub _ (mem_of_find sid _ ctx hfind)
      · have h1 := h.sub.sentCnt r; have h2 := countP_take (fun e : Sid × Ctx => e.2.rid == r) hfind
        simp only [outCount, sentCount, openedCount, pairCount, List.countP_append, List.countP_cons,
          List.countP_nil] at h1 h2 ⊢
        omega
      · have h1 := h.sub.futCnt r
        simp only [futCount, sentCount, pairCount, List.countP_append, List.countP_cons, List.countP_nil] at h1 ⊢
        omega
      · rcases List.mem_append.mp hf with hf | hf
        · obtain ⟨c, h1, h2⟩ := h.sub.futSent f hf
          exact ⟨c, List.mem_append_left _ h1, h2⟩
        · rw [List.mem_singleton.mp hf]
          exact ⟨ctx, List.mem_append_right _ (List.mem_singleton.mpr rfl), rfl, rfl⟩
      · obtain ⟨sid', c, h1, h2⟩ := h.sub.respOk p r pl hm
        exact ⟨sid', c, List.mem_append_left _ h1, h2⟩
    · -- the witness of an active id moves with its request from the pending substream to the future
      rcases h.own.owned e he r hr with ⟨o, h3, h4⟩ | ⟨f, h3, h4⟩
      · rcases List.mem_cons.mp ((take_perm hfind).mem_iff.mp h3) with hm | hm
        · subst hm
          exact Or.inr ⟨⟨ctx.peer, ctx.rid, sid⟩, List.mem_append_right _ (List.mem_singleton.mpr rfl), h4⟩
        · exact Or.inl ⟨o, hm, h4⟩
      · exact Or.inr ⟨f, List.mem_append_left _ h3, h4⟩

theorem good_substreamOpenFailure (s : State) (sid : Sid) (error : SubErr) (h : Good s) :
    Good (step s (.substreamOpenFailure sid error)) := by
  have hl := respFrom_step s (.substreamOpenFailure sid error) nofun
  revert hl
  simp only [step, onSubstreamOpenFailure]
  split
  · exact fun _ => h.panicked
  · rename_i ctx outbound hx
    obtain ⟨hfind, rfl⟩ := alTake_eq hx
    obtain ⟨pc, hpc, hm⟩ := h.inv.owned _ (mem_of_find sid _ ctx hfind)
    refine fun hl => .of (h.sub.congr (take_sublist sid _) rfl rfl (.refl _) (.refl _) (.refl _) hl (fun _ x => x))
      (fun b => h.inv.finish b hpc hm rfl rfl rfl rfl (fun e he => ⟨(take_sublist sid _).subset he, fun heq => ?_⟩)
        (fun r => ?_) h.inv.cancelSub)
      ⟨by simp only [emit, keys_modify]; exact h.own.nodup, fun e he r hr => ?_⟩
    · -- no other entry waits for the same request
      have h1 := countP_take (fun e : Sid × Ctx => e.2.rid == ctx.rid) hfind; have h2 := h.inv.excl ctx.rid
      have : 0 < (alTake sid s.pendingOutbound).2.countP (fun e : Sid × Ctx => e.2.rid == ctx.rid) :=
        List.countP_pos_iff.mpr ⟨e, he, beq_iff_eq.mpr heq⟩
      simp only [outCount, beq_self_eq_true, if_true] at h1 h2
      omega
    · simp only [emit, terminals_append, terminals_failed]; omega
    · obtain ⟨e', he', hk, hr', hne⟩ := h.own.mem_erase h.inv ctx.peer ctx.rid e he r hr
      rw [← hk]
      rcases h.own.owned e' he' r hr' with ⟨o, h3, h4⟩ | ⟨f, h3, h4⟩
      · rcases List.mem_cons.mp ((take_perm hfind).mem_iff.mp h3) with hm | hm
        · subst hm
          exact absurd ⟨h4.1.symm, h4.2.symm⟩ hne
        · exact Or.inl ⟨o, hm, h4⟩
      · exact Or.inr ⟨f, h3, h4⟩

theorem good_futureDone (s : State) (f : Fut) (res : FutResult) (h : Good s) (hf : f ∈ s.pendingInbound)
    (hc : res = .error .canceled → f.rid ∈ s.cancelSent) (hw : ∀ p, res = .response p → (f.sid, p) ∈ s.wire) :
    Good (step s (.futureDone f res)) := by
  have hl : RespFrom s (step s (.futureDone f res)) := by
    intro p r pl hm
    rcases resp_step s _ p r pl hm with h1 | ⟨f', hf', rfl, rfl⟩
    · exact Or.inl h1
    · cases hf'
      obtain ⟨c, h1, h2, h3⟩ := h.sub.futSent f hf
      exact Or.inr ⟨f.sid, c, h1, h2, h3, hw pl rfl⟩
  -- only the future goes, as far as the history is concerned
  have sub : ∀ s' : State, RespFrom s s' →
      subView s' = subView { s with pendingInbound := s.pendingInbound.erase f } → Sub s' := by
    intro s' hl hv
    simp only [subView, Prod.mk.injEq] at hv
    obtain ⟨e1, e2, e3, e4, e5, e6, e7⟩ := hv
    exact h.sub.congr (e1 ▸ .refl _) e2 e3 (e4 ▸ .refl _) (e5 ▸ .refl _) (e6 ▸ List.erase_sublist) hl
      (e7 ▸ fun _ x => x)
  have keep : ∀ f' ∈ s.pendingInbound, f' ≠ f → f' ∈ s.pendingInbound.erase f :=
    fun f' hf' hne => (List.mem_erase_of_ne hne).mpr hf'
  revert hl
  simp only [step, onSubstreamEvent]
  split
  · rename_i hnone
    refine fun hl => .of (sub _ hl rfl)
      (fun b => h.inv.of_sub_same b rfl rfl h.inv.ledger h.inv.owned h.inv.dialPeer h.inv.cancelSub)
      ⟨h.own.nodup, fun e he r hr => ?_⟩
    have hne := key_ne_of_find_none f.peer _ hnone e he
    exact (h.own.owned e he r hr).imp id
      (fun ⟨f', h3, h4⟩ => ⟨f', keep f' h3 (fun hc => hne (by rw [← h4.1, hc])), h4⟩)
  · rename_i ctx hctx
    split
    · rename_i hmem
      have ho : ∀ e ∈ s.pendingOutbound, e ∈ s.pendingOutbound ∧ e.2.rid ≠ f.rid := by
        refine fun e he => ⟨he, fun heq => ?_⟩
        have : 0 < outCount s f.rid := List.countP_pos_iff.mpr ⟨e, he, beq_iff_eq.mpr heq⟩
        have : 0 < futCount s f.rid := List.countP_pos_iff.mpr ⟨f, hf, by simp⟩
        have := h.inv.excl f.rid
        omega
      have own : Own { s with
          pendingInbound := s.pendingInbound.erase f
          pendingCancels := s.pendingCancels.erase f.rid
          peers := alModify f.peer (fun c => { c with active := c.active.erase f.rid }) s.peers } := by
        refine ⟨by simp only [keys_modify]; exact h.own.nodup, fun e he r hr => ?_⟩
        obtain ⟨e', he', hk, hr', hne⟩ := h.own.mem_erase h.inv f.peer f.rid e he r hr
        rw [← hk]
        exact (h.own.owned e' he' r hr').imp id
          (fun ⟨f', h3, h4⟩ => ⟨f', keep f' h3 (fun hc => hne ⟨by rw [← h4.1, hc], by rw [← h4.2, hc]⟩), h4⟩)
      split
      · refine fun hl => .of (sub _ hl rfl)
          (fun b => h.inv.finish b hctx hmem rfl rfl rfl rfl ho (fun r => ?_) h.inv.cancelSub) (own.mono rfl)
        simp only [emit, terminals_append, terminals_response]; omega
      · refine fun hl => .of (sub _ hl rfl)
          (fun b => h.inv.finish b hctx hmem rfl rfl rfl rfl ho (fun r => ?_) (fun r hr => ?_)) (own.mono rfl)
        · simp only [List.count_append, List.count_cons, List.count_nil]; omega
        · rcases List.mem_append.mp hr with hr | hr
          · exact h.inv.cancelSub r hr
          · exact List.mem_singleton.mp hr ▸ hc rfl
      · refine fun hl => .of (sub _ hl rfl)
          (fun b => h.inv.finish b hctx hmem rfl rfl rfl rfl ho (fun r => ?_) h.inv.cancelSub) (own.mono rfl)
        simp only [emit, terminals_append, terminals_failed]; omega
    · rename_i hnot
      refine fun hl => .of (sub _ hl rfl)
        (fun b => h.inv.of_sub_same b rfl rfl h.inv.ledger h.inv.owned h.inv.dialPeer h.inv.cancelSub)
        ⟨h.own.nodup, fun e he r hr => ?_⟩
      refine (h.own.owned e he r hr).imp id (fun ⟨f', h3, h4⟩ => ⟨f', keep f' h3 (fun hc => ?_), h4⟩)
      have hfind := find_of_mem_nodup s.peers h.own.nodup e he
      rw [← h4.1, hc, hctx] at hfind
      cases hfind
      exact hnot (by rw [← hc, h4.2]; exact hr)

theorem good_step (s : State) (i : Input) (h : Good s) (ha : Allowed s i) : Good (step s i) := by
  have hl := respFrom_step s i
  obtain ⟨_, _, _, hv, _⟩ := step_frame s i
  cases i with
  | send peer request opts dialAns openAns =>
    exact good_send s peer request opts dialAns openAns h (fun sid hs => ⟨(ha sid hs).1, (ha sid hs).2.2⟩)
  | connectionEstablished peer openAns =>
    exact good_connectionEstablished s peer openAns h (fun i sid hs => ⟨(ha.1 i sid hs).1, (ha.1 i sid hs).2.2⟩) ha.2
  | connectionClosed peer => exact good_connectionClosed s peer h
  | dialFailure peer => exact good_dialFailure s peer h
  | outboundSubstream peer sid fb => exact good_outboundSubstream s peer sid fb h ha
  | substreamOpenFailure sid error => exact good_substreamOpenFailure s sid error h
  | futureDone f res => exact good_futureDone s f res h ha.1 ha.2.1 ha.2.2
  | responderWrites sid response =>
    exact ⟨h.sub.congr (.refl _) rfl rfl (.refl _) (.refl _) (.refl _) (hl nofun) (fun x hx => List.mem_append_left _ hx),
      h.inv.congr rfl (fun _ => rfl) (fun _ hr => hr) (Nat.le_refl _), h.own.mono rfl⟩
  | _ =>
    -- a cancel, the inbound path and a clogged channel leave the outbound path alone: of what the ledger reads only
    -- `cancelSent` and `nextRid` can grow, and the log by a `RequestReceived`
    refine ⟨h.sub.quiet hv.1 (hl nofun), ?_, h.own.mono hv.2⟩
    simp only [step, onCancelRequest, onInboundSubstream, onInboundRequest, onResponseDone]
    repeat' split
    all_goals first
      | exact h.inv
      | exact h.inv.congr (by simp only [invView, emit, actives_modify])
          (fun r => by simp only [emit, terminals_append, terminals_received, Nat.add_zero])
          (fun _ hr => by first | exact hr | exact List.mem_append_left _ hr)
          (by first | exact Nat.le_refl _ | exact Nat.le_succ _)

theorem reach_good (m : Option Nat) (s : State) (h : Reach m s) : Good s := by
  induction h with
  | init => exact .init m
  | step i _ _ ha ih => exact good_step _ i ih ha

theorem reach_sub (m : Option Nat) (s : State) (h : Reach m s) : Sub s := (reach_good m s h).sub

theorem reach_inv (m : Option Nat) (s : State) (h : Reach m s) : Inv s := (reach_good m s h).inv

theorem reach_own (m : Option Nat) (s : State) (h : Reach m s) : Own s := (reach_good m s h).own

theorem Inv.terminals_le_one {s : State} (h : Inv s) (r : Rid) : terminals s.log r ≤ 1 := by
  have := h.ledger r; have := h.issuedLe r; omega

theorem reach_opened_le_one (m : Option Nat) (s : State) (h : Reach m s) (r : Rid) : openedCount s r ≤ 1 := by
  have := (reach_sub m s h).openedCnt r
  have := (reach_inv m s h).issuedLe r
  omega

theorem reach_response_matches (m : Option Nat) (s : State) (h : Reach m s) (p : Peer) (r : Rid) (pl : Payload)
    (hm : Event.responseReceived p r pl ∈ s.log) :
    ∃ sid req, (sid, (⟨p, r, req⟩ : Ctx)) ∈ s.opened ∧ (sid, (⟨p, r, req⟩ : Ctx)) ∈ s.sentOn ∧
      (⟨p, r, req⟩ : Ctx) ∈ s.issued ∧ (sid, pl) ∈ s.wire ∧
      (∀ o ∈ s.opened, o.2.rid = r → o = (sid, ⟨p, r, req⟩)) ∧
      (∀ o ∈ s.opened, o.1 = sid → o = (sid, ⟨p, r, req⟩)) := by
  have hs := reach_sub m s h
  obtain ⟨sid, ⟨cp, cr, creq⟩, h1, rfl, rfl, h4⟩ := hs.respOk p r pl hm
  have hop := hs.sentSub _ h1
  refine ⟨sid, creq, hop, h1, hs.openedIssued _ hop, h4, fun o ho hr => ?_, fun o ho hk => ?_⟩
  · exact countP_le_one_unique (fun e : Sid × Ctx => e.2.rid == cr) s.opened (reach_opened_le_one m s h cr) o _
      ho hop (by simpa using hr) (by simp)
  · exact eq_of_nodup_map Prod.fst s.opened hs.openedNodup o ho _ hop hk

theorem Own.quiescent_active_zero {s : State} (h : Own s) (hq : Quiescent s) (r : Rid) : activeCount s r = 0 := by
  refine alSum_eq_zero (fun pc : PeerCtx => pc.active.count r) _ (fun e he => List.count_eq_zero.mpr (fun hm => ?_))
  rcases h.owned e he r hm with ⟨o, h1, _⟩ | ⟨f, h1, _⟩
  · rw [hq.2.1] at h1; cases h1
  · rw [hq.2.2] at h1; cases h1

/-- In a reachable quiescent state every issued request has its one terminal event, unless a cancel
that took effect finished it silently. -/
theorem reach_exactly_one (m : Option Nat) (s : State) (h : Reach m s) (hq : Quiescent s) (r : Rid)
    (hi : issuedCount s r = 1) :
    ((terminals s.log r = 1 ∧ s.cancelDone.count r = 0) ∨
     (terminals s.log r = 0 ∧ s.cancelDone.count r = 1 ∧ r ∈ s.cancelSent)) ∧
    (r ∉ s.cancelSent → terminals s.log r = 1) := by
  have i := reach_inv m s h
  have h1 := i.ledger r
  have h2 := (reach_own m s h).quiescent_active_zero hq r
  have h3 : dialCount s r = 0 := by simp [dialCount, hq.1]
  by_cases hc : s.cancelDone.count r = 0
  · exact ⟨Or.inl ⟨by omega, hc⟩, fun _ => by omega⟩
  · have hs := i.cancelSub r (List.count_pos_iff.mp (by omega))
    exact ⟨Or.inr ⟨by omega, by omega, hs⟩, fun hn => absurd hs hn⟩

theorem cancel_noop (s : State) (rid : Rid) (h : rid ∉ s.pendingCancels) : onCancelRequest s rid = s := by
  simp [onCancelRequest, h]

theorem cancel_effective (s : State) (rid : Rid) (h : rid ∈ s.pendingCancels) :
    onCancelRequest s rid =
      { s with pendingCancels := s.pendingCancels.erase rid, cancelSent := s.cancelSent ++ [rid] } := by
  simp [onCancelRequest, h]

theorem canceled_no_event (s : State) (f : Fut) :
    (onSubstreamEvent s f (.error .canceled)).log = s.log := by
  simp only [onSubstreamEvent]
  repeat' split
  all_goals rfl

end Litep2pVerif.ReqResp
