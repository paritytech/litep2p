import Litep2pVerif.Proofs.ReqResp.Steps
/-!
* `Inb`: every inbound request id is handed to the user at most once (`RequestReceived`), never while
  it is still being read, never collides with an outbound request id, and the user is asked for an
  answer only for requests it has seen; the number of inbound requests in flight stays within the limit.
* `Wr`: exactly one payload per started future, on the future's substream, and it is the request's main
  payload or its fallback payload.
-/
namespace Litep2pVerif.ReqResp

structure Inb (s : State) : Prop where
  fresh2 : ∀ r, s.nextRid ≤ r → inReadCount s r = 0 ∧ receivedCount s.log r = 0
  once : ∀ r, receivedCount s.log r + inReadCount s r + issuedCount s r ≤ 1
  await : ∀ r, awaitCount s r ≤ receivedCount s.log r
  bound : ∀ n, s.maxInbound = some n → s.pendingInboundRequests.length + s.pendingOutboundResponses.length ≤ n

theorem Inb.init (m : Option Nat) : Inb (init m) := by
  constructor <;> simp [ReqResp.init, inReadCount, receivedCount, issuedCount, ctxCount, awaitCount]

theorem Inb.congr {s s' : State} (h : Inb s) (hn : s.nextRid ≤ s'.nextRid)
    (hq : s'.pendingInboundRequests = s.pendingInboundRequests)
    (hlog : ∀ r, receivedCount s'.log r = receivedCount s.log r) (hi : s'.issued = s.issued)
    (hw : s'.pendingOutboundResponses.Sublist s.pendingOutboundResponses) (hm : s'.maxInbound = s.maxInbound) :
    Inb s' := by
  constructor
  · intro r hr
    have := h.fresh2 r (Nat.le_trans hn hr)
    simpa only [inReadCount, hq, hlog] using this
  · intro r
    have := h.once r
    simpa only [inReadCount, issuedCount, hq, hlog, hi] using this
  · intro r
    have := h.await r; have := hw.countP_le (p := fun f : InFut => f.rid == r)
    simp only [awaitCount, hlog] at *; omega
  · intro n hn
    have := h.bound n (hm ▸ hn); have := hw.length_le
    rw [hq]; omega

/-- A fresh id starts being read (`on_inbound_substream`) or is issued (`send`): what the invariant
needs is that it occurs nowhere yet. -/
theorem Inb.next_ind {s : State} (hi : Inv s) (h : Inb s) (r : Rid) :
    (if s.nextRid == r then 1 else 0) + inReadCount s r + receivedCount s.log r + issuedCount s r ≤ 1 := by
  have := h.once r
  split
  · rename_i hr
    have hr : s.nextRid ≤ r := Nat.le_of_eq (by simpa using hr)
    have := h.fresh2 r hr; have := hi.fresh r hr
    omega
  · omega

theorem inb_step (s : State) (i : Input) (hi : Inv s) (h : Inb s) (ha : Allowed s i) : Inb (step s i) := by
  have hf := (step_frame s i).2.2.1
  cases i with
  | send peer request opts dialAns openAns =>
    have hlog := received_step s (.send peer request opts dialAns openAns) nofun
    simp only [inbView, Prod.mk.injEq] at hf
    obtain ⟨e1, e2, e3, e4, e5⟩ := hf
    refine ⟨fun r hr => ?_, fun r => ?_, fun r => ?_, fun n hn => ?_⟩
    · have := h.fresh2 r (by omega)
      simpa only [inReadCount, e2, hlog] using this
    · have := h.next_ind hi r
      simp only [inReadCount, issuedCount, e2, e4, hlog, ctxCount_snoc] at this ⊢
      omega
    · have := h.await r
      simpa only [awaitCount, e3, hlog] using this
    · rw [e2, e3]; exact h.bound n (e5 ▸ hn)
  | inboundSubstream peer =>
    -- the substream is accepted: a fresh id starts being read
    have accept : (∀ n, s.maxInbound = some n →
          s.pendingInboundRequests.length + s.pendingOutboundResponses.length < n) →
        ∀ P : List (Peer × PeerCtx), Inb { s with
          peers := P, pendingInboundRequests := s.pendingInboundRequests ++ [⟨peer, s.nextRid⟩],
          nextRid := s.nextRid + 1 } := by
      intro hroom P
      refine ⟨fun r hr => ?_, fun r => ?_, h.await, fun n hn => ?_⟩
      · have h1 := h.fresh2 r (Nat.le_of_succ_le hr); have := ind_of_lt (x := s.nextRid) (r := r) hr
        simp only [inReadCount, List.countP_append, List.countP_cons, List.countP_nil] at h1 ⊢
        omega
      · have := h.next_ind hi r
        simp only [inReadCount, issuedCount, List.countP_append, List.countP_cons, List.countP_nil] at this ⊢
        omega
      · have := hroom n hn
        simp only [List.length_append, List.length_singleton]
        omega
    simp only [step, onInboundSubstream]
    repeat' split
    all_goals first
      | exact h
      | exact h.congr (Nat.le_succ _) rfl (fun _ => rfl) rfl (.refl _) rfl
      -- the substream was not refused, so there is room
      | exact accept (fun n hn => by simp_all) _
  | inboundRead f request =>
    have hf : f ∈ s.pendingInboundRequests := ha
    have hcnt := fun r => countP_erase_add (fun x : InFut => x.rid == r) _ _ hf
    have hlen := (List.perm_cons_erase hf).length_eq
    -- the paths on which nothing is handed to the user
    have drop : ∀ s' : State, s'.nextRid = s.nextRid →
        s'.pendingInboundRequests = s.pendingInboundRequests.erase f → s'.log = s.log →
        s'.issued = s.issued → s'.pendingOutboundResponses = s.pendingOutboundResponses →
        s'.maxInbound = s.maxInbound → Inb s' := by
      intro s' e1 e2 e3 e4 e5 e6
      refine ⟨fun r hr => ?_, fun r => ?_, fun r => ?_, fun n hn => ?_⟩
      · have := h.fresh2 r (by omega); have := hcnt r
        simp only [inReadCount, e2, e3] at *
        omega
      · have := h.once r; have := hcnt r
        simp only [inReadCount, issuedCount, e2, e3, e4] at *
        omega
      · have := h.await r
        simpa only [awaitCount, e5, e3] using this
      · have := h.bound n (e6 ▸ hn)
        simp only [e2, e5, List.length_cons] at *
        omega
    simp only [step, onInboundRequest]
    split
    · exact drop _ rfl rfl rfl rfl rfl rfl
    · split
      · split
        · exact drop _ rfl rfl rfl rfl rfl rfl
        · rename_i req
          have hrc : ∀ r, receivedCount (s.log ++ [Event.requestReceived f.peer f.rid req]) r =
              receivedCount s.log r + (if f.rid == r then 1 else 0) := by
            intro r
            simp [receivedCount, List.countP_append, List.countP_cons, Event.receivedFor]
          refine ⟨fun r hr => ?_, fun r => ?_, fun r => ?_, fun n hn => ?_⟩
          · have := h.fresh2 r hr; have := hcnt r
            simp only [emit, inReadCount, hrc] at *
            omega
          · have := h.once r; have := hcnt r
            simp only [emit, inReadCount, issuedCount, hrc] at *
            omega
          · have := h.await r
            simp only [emit, awaitCount, hrc, List.countP_append, List.countP_cons, List.countP_nil] at *
            omega
          · have := h.bound n hn
            simp only [emit, List.length_append, List.length_cons, List.length_nil] at *
            omega
      · exact drop _ rfl rfl rfl rfl rfl rfl
  | responseDone f => exact h.congr (Nat.le_refl _) rfl (fun _ => rfl) rfl List.erase_sublist rfl
  | clogged => exact h.congr (Nat.le_succ _) rfl (fun _ => rfl) rfl (.refl _) rfl
  | _ =>
    simp only [inbView, Prod.mk.injEq] at hf
    obtain ⟨e1, e2, e3, e4, e5⟩ := hf
    exact h.congr (Nat.le_of_eq e1.symm) e2 (received_step s _ nofun) e4 (e3 ▸ .refl _) e5

theorem reach_inb (m : Option Nat) (s : State) (h : Reach m s) : Inb s ∧ s.maxInbound = m := by
  induction h with
  | init => exact ⟨Inb.init m, rfl⟩
  | step i hr _ ha ih => exact ⟨inb_step _ i (reach_inv m _ hr) ih.1 ha, (step_frame _ i).2.2.2.2.1.trans ih.2⟩

structure Wr (s : State) : Prop where
  keys : s.written.map Prod.fst = s.sentOn.map Prod.fst
  ok : ∀ w ∈ s.written, ∃ c fb, (w.1, c) ∈ s.sentOn ∧ w.2 = c.request.payloadFor fb

theorem Wr.init (m : Option Nat) : Wr (init m) := by
  constructor <;> simp [ReqResp.init]

theorem wr_step (s : State) (i : Input) (h : Wr s) : Wr (step s i) := by
  have hf := (step_frame s i).1
  cases i with
  | outboundSubstream peer sid fb =>
    simp only [step, onOutboundSubstream]
    split
    · exact ⟨h.keys, h.ok⟩
    · refine ⟨by simp only [List.map_append, List.map_cons, List.map_nil, h.keys], fun w hw => ?_⟩
      rcases List.mem_append.mp hw with hw | hw
      · obtain ⟨c, fb', h1, h2⟩ := h.ok w hw
        exact ⟨c, fb', List.mem_append_left _ h1, h2⟩
      · rw [List.mem_singleton.mp hw]
        exact ⟨_, fb, List.mem_append_right _ (List.mem_singleton.mpr rfl), rfl⟩
  | _ =>
    simp only [wrView, Prod.mk.injEq] at hf
    exact ⟨by rw [hf.1, hf.2]; exact h.keys, by rw [hf.1, hf.2]; exact h.ok⟩

theorem reach_wr (m : Option Nat) (s : State) (h : Reach m s) : Wr s := by
  induction h with
  | init => exact Wr.init m
  | step i _ _ _ ih => exact wr_step _ i ih

end Litep2pVerif.ReqResp
