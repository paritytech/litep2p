import Litep2pVerif.Proofs.ReqResp.Lists
/-!
The handlers seen from outside: their loops in closed form, and the frame table `Frame` / `step_frame`: per input,
which components of the state a step leaves alone and which events it can append to the log, from one pass over the
handlers.
-/
namespace Litep2pVerif.ReqResp

theorem failAll_eq (peer : Peer) (l : List Rid) (s : State) :
    failAll peer l s =
      { s with log := s.log ++ l.map (fun rid => Event.requestFailed peer rid (.rejected .connectionClosed)) } := by
  induction l generalizing s with
  | nil => simp [failAll]
  | cons x rest ih => simp [failAll, ih, emit, List.append_assoc]

theorem reportFailures_eq (peer : Peer) (l : List (Rid × SubErr)) (s : State) :
    reportFailures peer l s =
      { s with log := s.log ++ l.map (fun x => Event.requestFailed peer x.1 (.rejected (.ofSubErr x.2))) } := by
  induction l generalizing s with
  | nil => simp [reportFailures]
  | cons x rest ih => obtain ⟨rid, e⟩ := x; simp [reportFailures, ih, emit, List.append_assoc]

/-- What `on_dial_failure` does to `peers`. -/
def eraseAll (peer : Peer) (l : List Ctx) (P : List (Peer × PeerCtx)) : List (Peer × PeerCtx) :=
  l.foldl (fun P c => alModify peer (fun pc => { pc with active := pc.active.erase c.rid }) P) P

theorem failDials_eq (peer : Peer) (l : List Ctx) (s : State) :
    failDials peer l s = { s with
      peers := eraseAll peer l s.peers
      log := s.log ++ l.map (fun c => Event.requestFailed peer c.rid (.rejected (.dialFailed none))) } := by
  induction l generalizing s with
  | nil => simp [failDials, eraseAll]
  | cons x rest ih => simp [failDials, ih, emit, eraseAll, List.append_assoc]

theorem openedBy_spec (openAns : Nat → Except SubErr Sid)
    (hinj : ∀ i j sid, openAns i = .ok sid → openAns j = .ok sid → i = j) (ctxs : List Ctx) : ∀ i,
    (∀ o ∈ openedBy openAns ctxs i, o.2 ∈ ctxs ∧ ∃ j, i ≤ j ∧ openAns j = .ok o.1) ∧
    (keys (openedBy openAns ctxs i)).Nodup := by
  induction ctxs with
  | nil => intro i; simp [openedBy, keys]
  | cons c rest ih =>
    intro i
    obtain ⟨h1, h2⟩ := ih (i + 1)
    have old : ∀ o ∈ openedBy openAns rest (i + 1), o.2 ∈ c :: rest ∧ ∃ j, i ≤ j ∧ openAns j = .ok o.1 :=
      fun o ho => ((h1 o ho).imp (List.mem_cons_of_mem _)) (fun ⟨j, hj, hs⟩ => ⟨j, by omega, hs⟩)
    simp only [openedBy]
    split
    · rename_i sid hsid
      refine ⟨fun o ho => ?_, ?_⟩
      · rcases List.mem_cons.mp ho with ho | ho
        · subst ho; exact ⟨List.mem_cons_self .., i, Nat.le_refl _, hsid⟩
        · exact old o ho
      · simp only [keys, List.map_cons, List.nodup_cons]
        refine ⟨fun hm => ?_, h2⟩
        obtain ⟨o, ho, hk⟩ := List.mem_map.mp hm
        obtain ⟨_, j, hj, hs⟩ := h1 o ho
        rw [hk] at hs
        have := hinj i j sid hsid hs
        omega
    · exact ⟨old, h2⟩

/-- With fresh substream ids the loop of `on_connection_established` overwrites nothing, and every parked context is opened
or reported failed, never both (the counting conjunct, which the ledger lemmas of `Steps.lean` live on). -/
theorem openAll_eq (peer : Peer) (openAns : Nat → Except SubErr Sid) (ctxs : List Ctx)
    (hinj : ∀ i j sid, openAns i = .ok sid → openAns j = .ok sid → i = j) :
    ∀ (i : Nat) (active : List Rid) (outbound : List (Sid × Ctx)) (failed : List (Rid × SubErr))
      (calls : List Call), (∀ j sid, i ≤ j → openAns j = .ok sid → alFind sid outbound = none) →
    ∃ fl calls', openAll peer openAns ctxs i active outbound failed calls =
        ((openedBy openAns ctxs i).foldl (fun a o => setInsert o.2.rid a) active,
          (openedBy openAns ctxs i).reverse ++ outbound, failed ++ fl, calls') ∧
      ∀ r, fl.countP (fun x => x.1 == r) + pairCount r (openedBy openAns ctxs i) = ctxCount r ctxs := by
  induction ctxs with
  | nil =>
    intro i active outbound failed calls _
    exact ⟨[], calls, by simp [openAll, openedBy], fun r => rfl⟩
  | cons c rest ih =>
    intro i active outbound failed calls hfresh
    cases hsid : openAns i with
    | ok sid =>
      obtain ⟨fl, calls', he, hc⟩ := ih (i + 1) (setInsert c.rid active) ((sid, c) :: outbound) failed
        (calls ++ [.openSubstream peer (.ok sid)]) (fun j sid' hj hs => by
          have hne : sid ≠ sid' := fun heq => by
            have := hinj i j sid hsid (heq ▸ hs)
            omega
          rw [alFind_cons_ne _ _ _ _ hne]
          exact hfresh j sid' (by omega) hs)
      refine ⟨fl, calls', ?_, fun r => ?_⟩
      · simp only [openAll, openedBy, hsid, alTake_of_find_none sid _ (hfresh i sid (Nat.le_refl _) hsid), he,
          List.foldl_cons, List.reverse_cons, List.append_assoc, List.singleton_append]
      · have := hc r
        simp only [openedBy, hsid, pairCount_cons, ctxCount_cons]
        omega
    | error e =>
      obtain ⟨fl, calls', he, hc⟩ := ih (i + 1) active outbound (failed ++ [(c.rid, e)])
        (calls ++ [.openSubstream peer (.error e)]) (fun j sid hj hs => hfresh j sid (by omega) hs)
      refine ⟨(c.rid, e) :: fl, calls', ?_, fun r => ?_⟩
      · simp only [openAll, openedBy, hsid, he, List.append_assoc, List.singleton_append]
      · have := hc r
        simp only [openedBy, hsid, List.countP_cons, ctxCount_cons]
        omega

theorem count_foldl_setInsert (ob : List (Sid × Ctx)) : ∀ active : List Rid,
    (∀ r, active.count r + pairCount r ob ≤ 1) → ∀ r,
    (ob.foldl (fun a o => setInsert o.2.rid a) active).count r = active.count r + pairCount r ob := by
  induction ob with
  | nil => intro active _ r; rfl
  | cons o rest ih =>
    intro active hd r
    have hnot : o.2.rid ∉ active := fun hm => by
      have := List.count_pos_iff.mpr hm
      have := hd o.2.rid
      simp only [pairCount_cons, beq_self_eq_true, if_true] at this
      omega
    have hcnt := fun r => count_setInsert r o.2.rid active hnot
    rw [List.foldl_cons, ih _ (fun r => by have := hd r; simp only [hcnt r, pairCount_cons] at this ⊢; omega) r,
      hcnt r, pairCount_cons]
    omega

/-- `on_connection_established`: the peer exists already (`debug_assert!`); or nothing is parked for it and it is registered;
or the parked contexts are taken from the dial queue and each is opened or reported failed. The active set counts every
opened request once only if no request id is parked twice, which is a clause of `Inv`: hence the guard. -/
theorem connectionEstablished_cases (s : State) (peer : Peer) (openAns : Nat → Except SubErr Sid)
    (hfresh : ∀ i sid, openAns i = .ok sid → alFind sid s.pendingOutbound = none)
    (hinj : ∀ i j sid, openAns i = .ok sid → openAns j = .ok sid → i = j) :
    onConnectionEstablished s peer openAns = { s with panicked := true } ∨
    alFind peer s.peers = none ∧
    (onConnectionEstablished s peer openAns = { s with peers := (peer, {}) :: s.peers } ∨
     ∃ (ctxs : List Ctx) (act : List Rid) (fl : List (Rid × SubErr)) (calls' : List Call),
      alFind peer s.pendingDials = some ctxs ∧
      ((∀ r, ctxCount r ctxs ≤ 1) → ∀ r, act.count r = pairCount r (openedBy openAns ctxs 0)) ∧
      (∀ r, fl.countP (fun x => x.1 == r) + pairCount r (openedBy openAns ctxs 0) = ctxCount r ctxs) ∧
      onConnectionEstablished s peer openAns = { s with
        pendingDials := (alTake peer s.pendingDials).2
        pendingOutbound := (openedBy openAns ctxs 0).reverse ++ s.pendingOutbound
        calls := calls'
        opened := s.opened ++ openedBy openAns ctxs 0
        peers := if act.isEmpty then s.peers else (peer, { active := act }) :: s.peers
        log := s.log ++ fl.map (fun x => Event.requestFailed peer x.1 (.rejected (.ofSubErr x.2))) }) := by
  simp only [onConnectionEstablished]
  split
  · exact Or.inl rfl
  · rename_i hp
    refine Or.inr ⟨hp, ?_⟩
    split
    · exact Or.inl rfl
    · rename_i ctxs dials hx
      obtain ⟨hd, rfl⟩ := alTake_eq hx
      obtain ⟨fl, calls', he, hfl⟩ := openAll_eq peer openAns ctxs hinj 0 [] s.pendingOutbound [] s.calls
        (fun j sid _ hs => hfresh j sid hs)
      refine Or.inr ⟨ctxs, (openedBy openAns ctxs 0).foldl (fun a o => setInsert o.2.rid a) [], fl, calls',
        hd, fun h1 r => ?_, hfl, ?_⟩
      · have := count_foldl_setInsert (openedBy openAns ctxs 0) [] (fun r => by
          have := h1 r; have := hfl r
          simp only [List.count_nil]
          omega) r
        simpa only [List.count_nil, Nat.zero_add] using this
      · rw [he, reportFailures_eq]
        simp only [List.nil_append]
        split <;> rfl

/-- The components the inbound bound talks about. -/
def inboundView (s : State) : List InFut × List InFut × Option Nat × Nat :=
  (s.pendingInboundRequests, s.pendingOutboundResponses, s.maxInbound, s.nextRid)

@[simp] theorem inboundView_emit (s : State) (e : Event) : inboundView (emit s e) = inboundView s := rfl

/-- The components of the inbound path other than the log. -/
def inbView (s : State) :=
  (s.nextRid, s.pendingInboundRequests, s.pendingOutboundResponses, s.issued, s.maxInbound)

def wrView (s : State) := (s.written, s.sentOn)

/-- The components the substream history reads, apart from the log. -/
def subView (s : State) :=
  (s.pendingOutbound, s.sentOn, s.opened, s.issued, s.pendingDials, s.pendingInbound, s.wire)

/-- What the invariants read of `peers`. -/
def actives (P : List (Peer × PeerCtx)) : List (Peer × List Rid) := P.map (fun e => (e.1, e.2.active))

theorem actives_modify (k : Nat) (g : PeerCtx → List Rid) (l : List (Peer × PeerCtx)) :
    actives (alModify k (fun c => { c with activeInbound := g c }) l) = actives l := by
  induction l with
  | nil => rfl
  | cons e rest ih =>
    obtain ⟨q, v⟩ := e
    simp only [alModify]
    split
    · simp [actives]
    · simp only [actives, List.map_cons] at ih ⊢; rw [ih]

/-- The components the owner invariant reads. -/
def ownView (s : State) := (actives s.peers, s.pendingOutbound, s.pendingInbound)

def EvFrom (i : Input) : Event → Prop
  | .requestFailed _ _ _ => True
  | .responseReceived p r pl => ∃ f, i = .futureDone f (.response pl) ∧ f.peer = p ∧ f.rid = r
  | .requestReceived p r req => ∃ f, i = .inboundRead f (some req) ∧ f.peer = p ∧ f.rid = r

/-- The frame table, per input: what a step `s → s'` can change (`True` where the row says nothing: the two inputs that
conclude dials are analysed in `concl_dials`; a `send` that dials also records the call); the log is only appended to, and
only by events `EvFrom i`. It is stated over a named `s'`: with `step s i` written into every conjunct, unfolding and splitting the
handlers would work through the step term once per occurrence. -/
def Frame (s : State) (i : Input) (s' : State) : Prop :=
  (match i with
    | .outboundSubstream .. => True
    | _ => wrView s' = wrView s) ∧
  (match i with
    | .send peer request .. => s'.pendingDials = s.pendingDials ∨
        s'.pendingDials = pushDial peer ⟨peer, s.nextRid, request⟩ s.pendingDials ∧
          s'.calls = s.calls ++ [.dial peer (.ok ())]
    | .connectionEstablished .. | .dialFailure _ => True
    | _ => s'.pendingDials = s.pendingDials) ∧
  (match i with
    | .send peer request .. => inbView s' = (s.nextRid + 1, s.pendingInboundRequests,
        s.pendingOutboundResponses, s.issued ++ [⟨peer, s.nextRid, request⟩], s.maxInbound)
    | .inboundSubstream _ | .inboundRead .. | .responseDone _ | .clogged => True
    | _ => inbView s' = inbView s) ∧
  (match i with
    | .cancel _ | .inboundSubstream _ | .inboundRead .. | .responseDone _ | .clogged =>
      subView s' = subView s ∧ ownView s' = ownView s
    | _ => True) ∧
  s'.maxInbound = s.maxInbound ∧
  s'.log = s.log ++ s'.log.drop s.log.length ∧ ∀ e ∈ s'.log.drop s.log.length, EvFrom i e

theorem step_frame (s : State) (i : Input) : Frame s i (step s i) := by
  cases i
  all_goals
    simp only [step, onSendRequest, onCancelRequest, onConnectionEstablished, onConnectionClosed, onDialFailure,
      onOutboundSubstream, onSubstreamOpenFailure, onInboundSubstream, onSubstreamEvent, onInboundRequest,
      onResponseDone, failAll_eq, reportFailures_eq, failDials_eq, emit]
    repeat' split
    all_goals
      delta Frame
      -- a row of the table is `True`, holds by `rfl` on the branch's state, or (dial queues after `send`) is one of the
      -- two alternatives by `rfl`; the owner view needs `actives_modify` where `activeInbound` was touched
      refine ⟨by first | trivial | rfl, by first | trivial | rfl | exact Or.inl rfl | exact Or.inr ⟨rfl, rfl⟩,
        by first | trivial | rfl,
        by first | trivial | exact ⟨rfl, by first | rfl | simp only [ownView, actives_modify]⟩, rfl, ?_⟩
      -- the appended list is named (`drop`), so rewriting computes it: nothing or only failures (closed by `simp`), the
      -- one response or request event (its source is the input), or a `map` of failures
      simp only [List.drop_left, List.drop_length, List.append_nil, List.not_mem_nil, List.mem_singleton,
        List.mem_map, false_imp_iff, implies_true, forall_eq, true_and, and_true, EvFrom] <;> first
        | exact ⟨_, rfl, rfl, rfl⟩
        | (rintro _ ⟨_, _, rfl⟩; trivial)

theorem resp_step (s : State) (i : Input) (p : Peer) (r : Rid) (pl : Payload)
    (h : Event.responseReceived p r pl ∈ (step s i).log) :
    Event.responseReceived p r pl ∈ s.log ∨ ∃ f, i = .futureDone f (.response pl) ∧ f.peer = p ∧ f.rid = r := by
  obtain ⟨hl, hev⟩ := (step_frame s i).2.2.2.2.2
  rw [hl] at h
  rcases List.mem_append.mp h with h | h
  · exact Or.inl h
  · exact Or.inr (hev _ h)

theorem received_step (s : State) (i : Input) (hni : ∀ f req, i ≠ .inboundRead f req) (r : Rid) :
    receivedCount (step s i).log r = receivedCount s.log r := by
  obtain ⟨hl, hev⟩ := (step_frame s i).2.2.2.2.2
  rw [hl]
  simp only [receivedCount, List.countP_append]
  have : ((step s i).log.drop s.log.length).countP (Event.receivedFor r) = 0 := by
    apply List.countP_eq_zero.mpr
    intro e he
    have := hev e he
    cases e with
    | requestReceived p r' req =>
      obtain ⟨f, hf, _⟩ := this
      exact absurd hf (hni f _)
    | _ => simp [Event.receivedFor]
  omega

end Litep2pVerif.ReqResp
