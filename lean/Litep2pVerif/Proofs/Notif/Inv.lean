import Litep2pVerif.Proofs.Notif.Shape
/-! The invariant behind the user-channel grammar theorems of C11: `Inv1` (the grammar state is "a task exists", at most
one task, a running unsignalled task belongs to the `Open` slot); a handler keeps it given the shape of its effects
(`handler_inv`), so do the tasks' own steps (`inv_step`). -/
namespace Litep2pVerif.Notif

/-- Two systems agree on what the grammar invariant looks at. -/
def Sim (a b : PeerSys) : Prop := a.tasks = b.tasks ∧ grammar a.log = grammar b.log ∧ a.slot = b.slot

/-- The log entries an output that is not `relevant` may append do not move the grammar. -/
theorem sim_applyOut {a b : PeerSys} (h : Sim a b) (o : Out) :
    Sim (applyOut a o) (if relevant o = true then applyOut b o else b) := by
  obtain ⟨ht, hg, hs⟩ := h
  cases o <;> simp_all [applyOut, Sim, grammar_append, relevant]
  all_goals (cases grammar b.log with | none => rfl | some x => cases x <;> rfl)

theorem sim_fold (outs : List Out) : ∀ (a b : PeerSys), Sim a b →
    Sim (outs.foldl applyOut a) ((outs.filter relevant).foldl applyOut b) := by
  induction outs with
  | nil => intro a b h; simpa using h
  | cons o rest ih =>
    intro a b h
    have h' := sim_applyOut h o
    rw [List.foldl_cons, List.filter_cons]
    split
    · rename_i hr
      rw [if_pos hr] at h'
      exact ih _ _ h'
    · rename_i hr
      rw [if_neg hr] at h'
      exact ih _ _ h'

theorem shape_nonopn (slot : Slot) (r : Res) (nt : Tid) (hs : isOpn slot = false)
    (h : shapeOk slot r nt = true) :
    (r.2.filter relevant = [] ∨ ∃ e, r.2.filter relevant = [.fail e]) ∨
    (∃ pi po d hs, r.1 = some (.opn nt) ∧ r.2.filter relevant = [.spawn nt pi po, .opened d hs nt]) := by
  have key : shapeRest r nt = true := by
    unfold shapeOk at h
    split at h
    · cases hs
    · exact h
  simp only [shapeRest, Bool.or_eq_true, Bool.and_eq_true, Bool.not_eq_true'] at key
  generalize r.2.filter relevant = g at key
  rcases key with ⟨-, h2⟩ | h2
  · refine .inl ?_
    split at h2
    · exact .inl rfl
    · exact .inr ⟨_, rfl⟩
    · cases h2
  · refine .inr ?_
    split at h2
    · simp only [Bool.and_eq_true, beq_iff_eq] at h2
      obtain ⟨⟨rfl, rfl⟩, rfl⟩ := h2
      exact ⟨_, _, _, _, by assumption, rfl⟩
    · cases h2

structure Inv1 (s : PeerSys) : Prop where
  g : grammar s.log = some (!s.tasks.isEmpty)
  len : s.tasks.length ≤ 1
  run : ∀ k ∈ s.tasks, k.phase = .running → k.signalled = false → s.slot = some (.opn k.id)

theorem Inv1.of_sim {a b : PeerSys} (h : Sim a b) (hb : Inv1 b) : Inv1 a := by
  obtain ⟨h1, h2, h3⟩ := h
  exact ⟨by rw [h2, h1]; exact hb.g, by rw [h1]; exact hb.len, by rw [h1, h3]; exact hb.run⟩

theorem grammar_request (l : List UEv) : grammar (l ++ [.request]) = grammar l := by
  rw [grammar_append]; cases grammar l <;> simp [gstep]

theorem runHandler_sim (s : PeerSys) (ev : Ev) :
    Sim (runHandler s ev)
      (((handle s.slot ev).2.filter relevant).foldl applyOut { s with slot := (handle s.slot ev).1 }) := by
  unfold runHandler
  simp only []
  apply sim_fold
  split
  · exact ⟨rfl, grammar_request _, rfl⟩
  · exact ⟨rfl, rfl, rfl⟩

theorem Inv1.single {s : PeerSys} (h : Inv1 s) {k : Task} (hk : k ∈ s.tasks) : s.tasks = [k] := by
  have hl := h.len
  match hs : s.tasks with
  | [] => rw [hs] at hk; cases hk
  | [k1] => rw [hs, List.mem_singleton] at hk; rw [hk]
  | _ :: _ :: _ => rw [hs] at hl; simp at hl

/-- Leaving `Open` by firing the oneshot of its task: every other task is already about to close. -/
theorem Inv1.shutdown {s : PeerSys} (h : Inv1 s) {t : Tid} (hst : s.slot = some (.opn t)) (sl : Slot) :
    Inv1 (applyOut { s with slot := sl } (.shutdown t)) := by
  refine ⟨?_, ?_, ?_⟩
  · simp only [applyOut, signalTask]; rw [h.g]; cases s.tasks <;> simp
  · simp only [applyOut, signalTask, List.length_map]; exact h.len
  · intro k hk hp hsig
    simp only [applyOut, signalTask, List.mem_map] at hk
    obtain ⟨k0, hk0, rfl⟩ := hk
    exfalso
    by_cases hid : k0.id = t
    · simp [hid] at hsig
    · simp only [hid, if_false] at hp hsig
      have := h.run k0 hk0 hp hsig
      rw [hst] at this
      injection this with this
      injection this with this
      exact hid this.symm

theorem notice_quiet (slot : Slot) : quietOuts (handle slot .notice).2 = true := by
  rcases slot with _ | st
  · rfl
  · cases st <;> rfl

/-- An open failure or a new stream is reported from a slot that is not `Open`, and needs that no task is left; a quiet
handler reports neither (`hq`). -/
theorem handler_inv {s : PeerSys} (ev : Ev) (h : Inv1 s) (sh : shapeOk s.slot (handle s.slot ev) (evTask ev) = true)
    (hq : isOpn s.slot = false → s.tasks = [] ∨ quietOuts (handle s.slot ev).2 = true) : Inv1 (runHandler s ev) := by
  refine Inv1.of_sim (runHandler_sim s ev) ?_
  generalize handle s.slot ev = r at sh hq
  by_cases ho : isOpn s.slot = true
  · obtain ⟨t, hst⟩ : ∃ t, s.slot = some (.opn t) := by
      rcases hsl : s.slot with _ | st
      · simp [hsl, isOpn] at ho
      · cases st <;> simp_all [isOpn]
    simp only [hst, shapeOk, Bool.or_eq_true, Bool.and_eq_true, beq_iff_eq, Bool.not_eq_true'] at sh
    rcases sh with ⟨h1, h2⟩ | ⟨-, h2⟩
    · rw [h2, h1, ← hst]
      exact h
    · rw [h2]
      exact h.shutdown hst _
  · have ho' : isOpn s.slot = false := by simpa using ho
    -- a report among the outputs: the handler is not quiet, so no task is left
    have noTask : ∀ o ∈ r.2.filter relevant, quietOuts [o] = false → s.tasks = [] := fun o hm ho =>
      (hq ho').resolve_right fun hall => by
        have := List.all_eq_true.mp hall o (List.mem_filter.mp hm).1
        simp only [quietOuts, List.all_cons, List.all_nil, Bool.and_true] at ho
        rw [ho] at this
        cases this
    rcases shape_nonopn s.slot r _ ho' sh with (h2 | ⟨e, h2⟩) | ⟨pi, po, d, hs', h1, h2⟩
    · rw [h2]
      refine ⟨h.g, h.len, fun k hk hp hns => ?_⟩
      rw [h.run k hk hp hns] at ho'
      cases ho'
    · have ht := noTask (.fail e) (by rw [h2]; exact List.mem_singleton.2 rfl) rfl
      rw [h2]; simp only [List.foldl_cons, List.foldl_nil, applyOut]
      refine ⟨?_, h.len, fun k hk => by simp [ht] at hk⟩
      simp only []; rw [grammar_append, h.g, ht]; rfl
    · have ht := noTask (.opened d hs' (evTask ev)) (by rw [h2]; simp) rfl
      rw [h2]; simp only [List.foldl_cons, List.foldl_nil, applyOut, ht, List.nil_append]
      refine ⟨?_, by simp, ?_⟩
      · simp only [List.find?_cons, decide_true, List.isEmpty_cons, Bool.not_false]
        rw [grammar_append, h.g, ht]; rfl
      · intro k hk _ _
        simp at hk; subst hk; exact h1

theorem setPhase_inv {s : PeerSys} (t : Tid) (ph : TaskPhase) (hph : ph ≠ .running) (n : Nat) (h : Inv1 s) :
    Inv1 { s with tasks := setPhase t ph s.tasks, notices := n } := by
  refine ⟨?_, ?_, ?_⟩
  · simp only [setPhase]; rw [h.g]; cases s.tasks <;> simp
  · simp only [setPhase, List.length_map]; exact h.len
  · intro k hk hp hsig
    simp only [setPhase, List.mem_map] at hk
    obtain ⟨k0, hk0, rfl⟩ := hk
    by_cases hid : k0.id = t
    · simp [hid] at hp; exact absurd hp hph
    · simp [hid] at hp hsig ⊢
      exact h.run k0 hk0 hp hsig

theorem report_inv {s : PeerSys} (t : Tid) (h : Inv1 s) (he : enabled s (.taskReport t) = true) :
    Inv1 { s with tasks := s.tasks.filter (·.id ≠ t), log := s.log ++ [.closed] } := by
  simp only [enabled, hasTask, List.any_eq_true] at he
  obtain ⟨k, hk, hk2⟩ := he
  have hid : k.id = t := by simp at hk2; exact hk2.1
  have hs := h.single hk
  refine ⟨?_, by simp [hs, hid], by simp [hs, hid]⟩
  simp only []
  rw [grammar_append, h.g, hs]; simp [hid, gstep]

/-- A step of a connection task; the other labels leave the state alone when no handler runs. -/
theorem task_inv1 {s : PeerSys} (a : Act) (h : Inv1 s) (he : enabled s a = true) : Inv1 (taskStep s a) := by
  cases a
  case taskSeesSignal t => exact setPhase_inv t _ (by simp) s.notices h
  case taskSeesClose t => exact setPhase_inv t _ (by simp) s.notices h
  case taskNotice t => exact setPhase_inv t _ (by simp) _ h
  case taskReport t => exact report_inv t h he
  all_goals exact h

theorem post_inv {r : PeerSys} (a : Act) (h : Inv1 r) : Inv1 (post r a) := by
  cases a <;> first | exact h | exact Inv1.of_sim (b := r) ⟨rfl, rfl, rfl⟩ h

theorem evOf_hsNegotiated {s s1 : PeerSys} {d : Dir} {hs : Hs} {auto : Bool} {t : Tid} {ev : Ev}
    (h : evOf s (.hsNegotiated d hs auto t) = some (s1, ev)) :
    s1 = s ∧ ∃ p, ev = .hsNegotiated d hs p auto t ∧
      (match d with | .outbound => s.hsOut = some p | .inbound => ∃ b, s.hsIn = some (p, b)) := by
  cases d <;> simp only [evOf, Option.map_eq_some_iff, Prod.mk.injEq] at h
  · obtain ⟨⟨p, b⟩, hin, rfl, rfl⟩ := h
    exact ⟨rfl, p, rfl, b, hin⟩
  · obtain ⟨p, hout, rfl, rfl⟩ := h
    exact ⟨rfl, p, rfl, hout⟩

theorem evOf_same {s s1 : PeerSys} {a : Act} {ev : Ev} (h : evOf s a = some (s1, ev)) :
    s1.slot = s.slot ∧ s1.tasks = s.tasks ∧ s1.log = s.log := by
  cases a
  case hsNegotiated d hs auto t =>
    obtain ⟨rfl, -⟩ := evOf_hsNegotiated h
    exact ⟨rfl, rfl, rfl⟩
  all_goals simp only [evOf, Option.some.injEq, Prod.mk.injEq, reduceCtorEq] at h
  all_goals
    obtain ⟨rfl, -⟩ := h
    exact ⟨rfl, rfl, rfl⟩

theorem not_task_of_evOf {s s1 : PeerSys} {a : Act} {ev : Ev} (hev : evOf s a = some (s1, ev)) :
    a.isTask = false := by
  cases a <;> simp [evOf] at hev <;> rfl

theorem prompt_cases {s s1 : PeerSys} {a : Act} {ev : Ev} (hp : prompt s a = true) (hev : evOf s a = some (s1, ev)) :
    ((InClose s || decide (s.notices > 0)) = true ∧ ev = .notice) ∨
    ((InClose s || decide (s.notices > 0)) = false ∧ Busy s = true ∧ quietOuts (handle s1.slot ev).2 = true) ∨
    ((InClose s || decide (s.notices > 0)) = false ∧ Busy s = false) := by
  unfold prompt at hp
  rw [not_task_of_evOf hev] at hp
  split at hp
  · rename_i hc
    refine .inl ⟨hc, ?_⟩
    cases a <;> simp at hp <;> simp [evOf] at hev
    exact hev.2.symm
  · rename_i hc
    split at hp
    · rename_i hb
      exact .inr (.inl ⟨by simpa using hc, hb, by simpa [quietAct, outsOf, hev] using hp⟩)
    · rename_i hb
      exact .inr (.inr ⟨by simpa using hc, by simpa using hb⟩)

theorem prompt_quiet {s s1 : PeerSys} {a : Act} {ev : Ev} (h : Inv1 s) (hp : prompt s a = true)
    (hev : evOf s a = some (s1, ev)) (ho : isOpn s.slot = false) :
    s.tasks = [] ∨ quietOuts (handle s1.slot ev).2 = true := by
  rcases prompt_cases hp hev with ⟨-, rfl⟩ | ⟨-, -, hq⟩ | ⟨-, hb⟩
  · exact .inr (notice_quiet _)
  · exact .inr hq
  · -- every task is running and not signalled: its stream would be the open one
    refine .inl (List.eq_nil_iff_forall_not_mem.mpr fun k hk => ?_)
    simp only [Busy, List.any_eq_false, Bool.or_eq_true, not_or, ne_eq, decide_eq_true_eq, Bool.not_eq_true,
      Decidable.not_not] at hb
    rw [h.run k hk (hb k hk).1 (hb k hk).2] at ho
    cases ho

theorem inv_step {s : PeerSys} (a : Act) (h : Inv1 s) (he : enabled s a = true) (hp : prompt s a = true)
    (sh : ∀ s1 ev, evOf s a = some (s1, ev) → shapeOk s.slot (handle s.slot ev) (evTask ev) = true) :
    Inv1 (step s a) := by
  rcases hev : evOf s a with _ | ⟨s1, ev⟩
  · rw [show step s a = taskStep s a by simp only [step, hev]]
    exact task_inv1 a h he
  · rw [show step s a = post (runHandler s1 ev) a by simp only [step, hev]]
    obtain ⟨e1, e2, e3⟩ := evOf_same hev
    refine post_inv a (handler_inv ev (Inv1.of_sim ⟨e2, congrArg grammar e3, e1⟩ h) (e1 ▸ sh s1 ev hev) fun ho => ?_)
    rw [e1] at ho
    rw [e2]
    exact prompt_quiet h hp hev ho

end Litep2pVerif.Notif
