import Litep2pVerif.Model.Notif.Handshake
/-! The handshake service (`Model/Notif/Handshake.lean`): one entry hands out nothing above the limit and only a whole
frame (`ioLoop_spec`, `entryPoll_spec`, with `read_bounded` / `send_bounded` for the two refusals); the queued results
stay within the limit across polls, insertions and removals (`ReadyBounded`, `poll_bounded`); a removal purges the
results queued for its key (`remove_purges`), and queued results go out before any I/O (`ready_first`). -/
namespace Litep2pVerif.NotifHs
open Litep2pVerif.Notif

/-- What one entry can hand out: nothing above the limit, and either the empty marker of a sent handshake or
exactly the first unread frame of its substream (never a part of it); the frames it writes are the local
handshake, within the limit. -/
theorem ioLoop_spec (maxSize : Nat) (hsLocal : List Nat) : ∀ (n : Nat) (e : Entry),
    (∀ hs, (ioLoop maxSize hsLocal e n).2 = .ready hs →
      hs.length ≤ maxSize ∧ (hs = [] ∨ ∃ rest, e.sub.toLocal = hs :: rest)) ∧
    (∀ f ∈ (ioLoop maxSize hsLocal e n).1.sub.toRemote ++ (ioLoop maxSize hsLocal e n).1.sub.outBuf,
      f ∈ e.sub.toRemote ++ e.sub.outBuf ∨ (f = hsLocal ∧ hsLocal.length ≤ maxSize)) ∧
    (ioLoop maxSize hsLocal e n).1.peer = e.peer ∧ (ioLoop maxSize hsLocal e n).1.dir = e.dir := by
  intro n
  induction n with
  | zero => intro e; unfold ioLoop; exact ⟨by simp, fun f hf => .inl hf, rfl, rfl⟩
  | succ n ih =>
    intro e
    unfold ioLoop
    split
    · -- sendHandshake
      exact ih { e with state := .sinkReady }
    · -- sinkReady
      split
      · exact ⟨by simp, fun f hf => .inl hf, rfl, rfl⟩
      · rename_i hle
        have h := ih { e with state := .handshakeSent, sub := { e.sub with outBuf := e.sub.outBuf ++ [hsLocal] } }
        refine ⟨h.1, ?_, h.2.2⟩
        intro f hf
        rcases h.2.1 f hf with h1 | h1
        · simp only [List.mem_append, List.mem_singleton] at h1
          rcases h1 with h1 | h1 | h1
          · exact .inl (List.mem_append.2 (.inl h1))
          · exact .inl (List.mem_append.2 (.inr h1))
          · exact .inr ⟨h1, by omega⟩
        · exact .inr h1
    · -- handshakeSent
      split
      · exact ⟨by simp, fun f hf => .inl hf, rfl, rfl⟩
      · split
        · have h := ih { e with state := .readHandshake,
                                sub := { e.sub with toRemote := e.sub.toRemote ++ e.sub.outBuf, outBuf := [] } }
          refine ⟨h.1, ?_, h.2.2⟩
          intro f hf
          rcases h.2.1 f hf with h1 | h1
          · simp only [List.append_nil] at h1
            exact .inl h1
          · exact .inr h1
        · refine ⟨?_, ?_, rfl, rfl⟩
          · intro hs h
            cases h
            exact ⟨Nat.zero_le _, .inl rfl⟩
          · intro f hf
            simp only [List.append_nil] at hf
            exact .inl hf
    · -- readHandshake
      split
      · exact ⟨by simp, fun f hf => .inl hf, rfl, rfl⟩
      · split
        · rename_i f rest hl
          split
          · exact ⟨by simp, fun f hf => .inl hf, rfl, rfl⟩
          · rename_i hle
            refine ⟨?_, ?_, rfl, rfl⟩
            · intro hs h
              cases h
              exact ⟨by omega, .inr ⟨rest, hl⟩⟩
            · intro g hg
              exact .inl hg
        · split <;> exact ⟨by simp, fun f hf => .inl hf, rfl, rfl⟩

theorem read_bounded (maxSize : Nat) (hsLocal f : List Nat) (rest : List (List Nat)) (e : Entry)
    (hst : e.state = .readHandshake) (hex : e.expired = false) (hr : e.sub.reset = false)
    (hl : e.sub.toLocal = f :: rest) :
    (f.length > maxSize → entryPoll maxSize hsLocal e = (e, .error)) ∧
    (f.length ≤ maxSize →
      entryPoll maxSize hsLocal e = ({ e with sub := { e.sub with toLocal := rest } }, .ready f)) := by
  constructor
  · intro h
    simp [entryPoll, hex, ioLoop, hst, hr, hl, h]
  · intro h
    have : ¬ f.length > maxSize := by omega
    simp [entryPoll, hex, ioLoop, hst, hr, hl, this]

theorem send_bounded (maxSize : Nat) (hsLocal : List Nat) (e : Entry)
    (hst : e.state = .sendHandshake ∨ e.state = .sinkReady) (hex : e.expired = false)
    (h : hsLocal.length > maxSize) :
    (entryPoll maxSize hsLocal e).2 = .error ∧ (entryPoll maxSize hsLocal e).1.sub = e.sub := by
  rcases hst with hst | hst <;> simp [entryPoll, hex, ioLoop, hst, h]

/-- The timer is looked at first: an expired entry fails without any I/O, whatever its substream holds. -/
theorem expired_fails (maxSize : Nat) (hsLocal : List Nat) (e : Entry) (hex : e.expired = true) :
    entryPoll maxSize hsLocal e = (e, .error) := by
  simp [entryPoll, hex]

theorem entryPoll_spec (maxSize : Nat) (hsLocal : List Nat) (e : Entry) :
    (∀ hs, (entryPoll maxSize hsLocal e).2 = .ready hs →
      hs.length ≤ maxSize ∧ (hs = [] ∨ ∃ rest, e.sub.toLocal = hs :: rest)) ∧
    (entryPoll maxSize hsLocal e).1.key = e.key := by
  unfold entryPoll
  split
  · simp
  · have h := ioLoop_spec maxSize hsLocal 4 e
    exact ⟨h.1, by simp [Entry.key, h.2.2.1, h.2.2.2]⟩

def ReadyBounded (maxSize : Nat) (s : Service) : Prop := ∀ r ∈ s.ready, r.2.length ≤ maxSize

theorem popEvent_spec (maxSize : Nat) (entries : List Entry) : ∀ (ready : List (Key × List Nat)),
    (∀ r ∈ ready, r.2.length ≤ maxSize) →
    ReadyBounded maxSize (popEvent entries ready).1 ∧
    (∀ p d hs, (popEvent entries ready).2 = some (.negotiated p d hs) → hs.length ≤ maxSize) ∧
    (popEvent entries ready).2 ≠ some .bug := by
  intro ready
  induction ready with
  | nil => intro _; simp [popEvent, ReadyBounded]
  | cons x xs ih =>
    intro h
    obtain ⟨k, hs⟩ := x
    unfold popEvent
    split
    · refine ⟨fun r hr => h r (List.mem_cons_of_mem _ hr), ?_, by simp⟩
      intro p d hs' he
      cases he
      exact h (k, hs) (List.mem_cons_self ..)
    · exact ih fun r hr => h r (List.mem_cons_of_mem _ hr)

theorem scan_spec (maxSize : Nat) (hsLocal : List Nat) : ∀ (order : List Key) (s : Service),
    ReadyBounded maxSize s →
    ReadyBounded maxSize (scan maxSize hsLocal s order).1 ∧
    (∀ p d hs, (scan maxSize hsLocal s order).2 ≠ some (.negotiated p d hs)) ∧
    (scan maxSize hsLocal s order).2 ≠ some .bug := by
  intro order
  induction order with
  | nil => intro s h; simp [scan, h]
  | cons k rest ih =>
    intro s h
    unfold scan
    split
    · exact ih s h
    · rename_i e _
      split
      · exact ⟨h, by simp, by simp⟩
      · rename_i hs hres
        apply ih
        intro r hr
        simp only [List.mem_append, List.mem_singleton] at hr
        rcases hr with hr | hr
        · exact h r hr
        · subst hr
          exact ((entryPoll_spec maxSize hsLocal e).1 hs hres).1
      · exact ih _ h

theorem popFront_spec (maxSize : Nat) (s : Service) (h : ReadyBounded maxSize s) :
    ReadyBounded maxSize (popFront s).1 ∧
    (∀ p d hs, (popFront s).2 = some (.negotiated p d hs) → hs.length ≤ maxSize) := by
  unfold popFront
  split
  · exact ⟨h, by simp⟩
  · rename_i k hs rest hr
    split
    · refine ⟨fun r hm => h r (hr ▸ List.mem_cons_of_mem _ hm), ?_⟩
      intro p d hs' he
      cases he
      exact h (k, hs) (hr ▸ List.mem_cons_self ..)
    · exact ⟨fun r hm => h r (hr ▸ List.mem_cons_of_mem _ hm), by simp⟩

/-- Every handshake the service hands to the protocol is within the limit, for every history of polls. -/
theorem poll_bounded (maxSize : Nat) (hsLocal : List Nat) (s : Service) (order : List Key)
    (h : ReadyBounded maxSize s) :
    ReadyBounded maxSize (poll maxSize hsLocal s order).1 ∧
    (∀ p d hs, (poll maxSize hsLocal s order).2 = some (.negotiated p d hs) → hs.length ≤ maxSize) := by
  have hp := popEvent_spec maxSize s.entries s.ready h
  unfold poll
  split
  · rename_i ev hev
    exact ⟨hp.1, fun p d hs he => hp.2.1 p d hs (by rw [hev]; simpa using he)⟩
  · split
    · exact ⟨hp.1, by simp⟩
    · have hs := scan_spec maxSize hsLocal order _ hp.1
      split
      · rename_i ev hev
        refine ⟨hs.1, ?_⟩
        intro p d hs' he
        exact absurd (by rw [hev]; simpa using he) (hs.2.1 p d hs')
      · exact popFront_spec maxSize _ hs.1

theorem insert_bounded (maxSize : Nat) (s : Service) (e : Entry) (h : ReadyBounded maxSize s) :
    ReadyBounded maxSize (s.insert e) := h

theorem remove_bounded (maxSize : Nat) (s : Service) (k : Key) (h : ReadyBounded maxSize s) :
    ReadyBounded maxSize (s.remove k) := fun r hr => h r (List.mem_filter.1 hr).1

/-- The repaired removal leaves no result queued for the removed key. -/
theorem remove_purges (s : Service) (k : Key) : ∀ r ∈ (s.remove k).ready, r.1 ≠ k := by
  intro r hr
  have := (List.mem_filter.1 hr).2
  simpa using this

/-- `pop_event` comes first: while a result is queued for an existing entry, a poll hands it out and does no I/O
on any substream. -/
theorem ready_first (maxSize : Nat) (hsLocal : List Nat) (s : Service) (order : List Key) (ev : Event)
    (h : (popEvent s.entries s.ready).2 = some ev) :
    (poll maxSize hsLocal s order).2 = some ev ∧ subsAfter maxSize hsLocal s order = s.entries := by
  simp [poll, subsAfter, h]

end Litep2pVerif.NotifHs
