import Litep2pVerif.Model.Notif.Handle
/-! Lemmas about the handle's batch commands (Model/Notif/Handle.lean). -/
namespace Litep2pVerif.NotifHandle
open Litep2pVerif.Notif

theorem dedup_aux (l acc : List Nat) :
    (∀ p, p ∈ l.foldl (fun acc p => if acc.contains p then acc else acc ++ [p]) acc ↔ p ∈ acc ∨ p ∈ l) ∧
    (acc.Nodup → (l.foldl (fun acc p => if acc.contains p then acc else acc ++ [p]) acc).Nodup) := by
  induction l generalizing acc with
  | nil => simp
  | cons x xs ih =>
    simp only [List.foldl_cons]
    by_cases hx : acc.contains x = true
    · simp only [hx, if_true]
      have hxa : x ∈ acc := by simpa using hx
      refine ⟨fun p => ?_, (ih acc).2⟩
      rw [(ih acc).1 p]
      grind
    · simp only [hx, Bool.false_eq_true, if_false]
      have hxn : x ∉ acc := by simpa using hx
      refine ⟨fun p => ?_, fun hn => (ih (acc ++ [x])).2 ?_⟩
      · rw [(ih (acc ++ [x])).1 p]
        grind
      · grind

theorem mem_dedup (l : List Nat) (p : Nat) : p ∈ dedup l ↔ p ∈ l := by
  have := (dedup_aux l []).1 p
  simpa [dedup] using this

theorem nodup_dedup (l : List Nat) : (dedup l).Nodup := (dedup_aux l []).2 List.nodup_nil

theorem mem_toAdd (view peers : List Nat) (p : Nat) : p ∈ toAdd view peers ↔ p ∈ peers ∧ p ∉ view := by
  simp [toAdd, mem_dedup]

theorem mem_toIgnore (view peers : List Nat) (p : Nat) : p ∈ toIgnore view peers ↔ p ∈ peers ∧ p ∈ view := by
  simp [toIgnore, mem_dedup]

theorem getP_setP_same (ms : Multi) (p : Nat) (s : PeerSys) : getP (setP ms p s) p = s := by
  simp [getP, setP]

theorem lookup_filter_ne (ms : Multi) (p q : Nat) (h : q ≠ p) :
    (ms.filter (·.1 ≠ p)).lookup q = ms.lookup q := by
  induction ms with
  | nil => rfl
  | cons x xs ih =>
    obtain ⟨a, b⟩ := x
    rw [List.filter_cons]
    split
    · rw [List.lookup_cons, List.lookup_cons, ih]
    · rename_i ha
      have hq : (q == a) = false := by simp_all
      rw [ih, List.lookup_cons, hq]

theorem getP_setP_other (ms : Multi) (p q : Nat) (s : PeerSys) (h : q ≠ p) : getP (setP ms p s) q = getP ms q := by
  have hb : (q == p) = false := by simpa using h
  simp only [getP, setP, List.lookup, hb]
  rw [lookup_filter_ne ms p q h]

theorem batchOpen_other (order : List (Nat × OpenArgs)) : ∀ (ms : Multi) (q : Nat),
    q ∉ order.map (·.1) → getP (batchOpen ms order) q = getP ms q := by
  induction order with
  | nil => intro ms q _; rfl
  | cons x xs ih =>
    intro ms q hq
    obtain ⟨p, a⟩ := x
    simp only [List.map_cons, List.mem_cons, not_or] at hq
    simp only [batchOpen]
    rw [ih _ q hq.2, getP_setP_other _ _ _ _ hq.1]

theorem batchOpen_each (order : List (Nat × OpenArgs)) : ∀ (ms : Multi) (p : Nat) (a : OpenArgs),
    (order.map (·.1)).Nodup → (p, a) ∈ order → getP (batchOpen ms order) p = step (getP ms p) a.act := by
  induction order with
  | nil => intro ms p a _ h; cases h
  | cons x xs ih =>
    intro ms p a hn hm
    obtain ⟨p0, a0⟩ := x
    simp only [List.map_cons, List.nodup_cons] at hn
    simp only [batchOpen]
    rcases List.mem_cons.1 hm with h | h
    · cases h
      rw [batchOpen_other xs _ p hn.1, getP_setP_same]
    · have hne : p ≠ p0 := fun e => hn.1 (List.mem_map.2 ⟨(p, a), h, e⟩)
      rw [ih _ p a hn.2 h, getP_setP_other _ _ _ _ hne]

theorem batchClose_other (order : List Nat) : ∀ (ms : Multi) (q : Nat),
    q ∉ order → getP (batchClose ms order) q = getP ms q := by
  induction order with
  | nil => intro ms q _; rfl
  | cons p xs ih =>
    intro ms q hq
    simp only [List.mem_cons, not_or] at hq
    simp only [batchClose]
    rw [ih _ q hq.2, getP_setP_other _ _ _ _ hq.1]

theorem batchClose_each (order : List Nat) : ∀ (ms : Multi) (p : Nat),
    order.Nodup → p ∈ order → getP (batchClose ms order) p = step (getP ms p) .cmdClose := by
  induction order with
  | nil => intro ms p _ h; cases h
  | cons p0 xs ih =>
    intro ms p hn hm
    simp only [List.nodup_cons] at hn
    simp only [batchClose]
    rcases List.mem_cons.1 hm with h | h
    · subst h
      rw [batchClose_other xs _ p hn.1, getP_setP_same]
    · have hne : p ≠ p0 := fun e => hn.1 (e ▸ h)
      rw [ih _ p hn.2 h, getP_setP_other _ _ _ _ hne]

/-- A batch keeps every peer's world inside the restricted system as long as each single command does. -/
theorem batchOpen_reachP (order : List (Nat × OpenArgs)) (ms : Multi) (hn : (order.map (·.1)).Nodup)
    (hr : ∀ p, ReachP (getP ms p))
    (he : ∀ x ∈ order, enabled (getP ms x.1) x.2.act = true ∧ prompt (getP ms x.1) x.2.act = true) :
    ∀ p, ReachP (getP (batchOpen ms order) p) := by
  intro p
  by_cases hp : p ∈ order.map (·.1)
  · obtain ⟨⟨p', a⟩, hm, rfl⟩ := List.mem_map.1 hp
    rw [batchOpen_each order ms p' a hn hm]
    exact .step _ (hr p') (he _ hm).1 (he _ hm).2 rfl
  · rw [batchOpen_other order ms p hp]
    exact hr p

end Litep2pVerif.NotifHandle
