import Litep2pVerif.Proofs.Notif.Env
import Litep2pVerif.Proofs.Notif.Inv
/-!
The consistency invariant of the restricted transition system of C11: the per-peer slot determines the
connected flag, the pending and requested substream ids and the handshake entries; the validation future of
the substream under validation exists; while a shutdown notice of a connection task is due the peer has no
negotiation (a task that was merely signalled and not polled yet puts no constraint on the slot); no
`bug` output was produced; and the two ledgers kept on the user channel (request/answer, acceptance/opened)
are in the state the slot says.
-/
namespace Litep2pVerif.Notif

/-- Is the id kept in `Closed{pending_open}` still tracked in `pending_outbound`? -/
def liveFn (slot : Slot) (pd : List Sid) : Bool :=
  match slot with
  | some (.closed (some x)) => pd.contains x
  | _ => true

def liveOf (s : PeerSys) : Bool := liveFn s.slot s.pending

theorem pendOf_fix (slot : Slot) (l : Bool) : pendOf slot (liveFn slot (pendOf slot l)) = pendOf slot l := by
  rcases slot with _ | st
  · rfl
  · cases st <;> try rfl
    rename_i pend
    cases pend <;> cases l <;> simp [pendOf, liveFn, isClosedSome, slotSid]

theorem pendOf_mem {slot : Slot} {l : Bool} {x : Sid} (h : x ∈ pendOf slot l) : pendOf slot l = [x] := by
  unfold pendOf at h ⊢
  split at h
  · simp at h
  · rename_i hc
    rw [if_neg hc]
    rcases hs : slotSid slot with _ | y
    · rw [hs] at h; simp at h
    · rw [hs] at h; simp at h; simp [h]

/-- A shutdown notice is on its way to the protocol: a task is inside `close_connection` with
`NotifyProtocol::Yes` and has not sent it yet, or one is in the channel. -/
def NoticeDue (s : PeerSys) : Bool :=
  s.tasks.any (fun k => k.phase = .closing true) || decide (s.notices > 0)

structure Inv2 (s : PeerSys) : Prop where
  i1 : Inv1 s
  c : s.connected = slotConn s.slot
  rq : s.requested = pendOf s.slot (liveOf s)
  pd : s.pending = pendOf s.slot (liveOf s)
  ho : s.hsOut.isSome = outNeg s.slot
  hi : s.hsIn.map (·.2) = inbEntry s.slot
  vl : ∀ q, slotVal s.slot = some q → q ∈ s.validations
  wf : slotWf s.slot = true
  bz : NoticeDue s = true → idle s.slot = true
  nb : UEv.bug ∉ s.log
  lg : lfold s.log = some (owes s.slot)
  ac : afold s.log = some (accOf s.slot s.hsIn)


theorem owed_cases (slot : Slot) : owed slot = 0 ∨ owed slot = 1 := by
  rcases slot with _ | st
  · exact .inl rfl
  · cases st <;> simp only [owed] <;> (try split) <;> simp

theorem takesUp_iff (slot : Slot) (r : Res) :
    takesUp slot r = true ↔
      ((owed slot = 0 ∧ owed r.1 = 1) ∨
       (owed slot = 0 ∧ owed r.1 = 0 ∧
        (r.2.any fun o => match o with | .opened .. => true | .fail _ => true | _ => false) = true)) := by
  rcases owed_cases slot with h1 | h1 <;> rcases owed_cases r.1 with h2 | h2 <;>
    simp only [takesUp, owes, h1, h2] <;> simp <;> exact Iff.rfl

theorem runHandler_eq (s : PeerSys) (ev : Ev) :
    runHandler s ev = (handle s.slot ev).2.foldl applyOut
      { s with slot := (handle s.slot ev).1,
               log := if takesUp s.slot (handle s.slot ev) = true then s.log ++ [.request] else s.log } := by
  have key := takesUp_iff s.slot (handle s.slot ev)
  unfold runHandler
  simp only []
  split
  · rename_i hc
    have h : takesUp s.slot (handle s.slot ev) = true := key.mpr hc
    simp only [h, if_true]
  · rename_i hc
    have h : ¬ takesUp s.slot (handle s.slot ev) = true := fun x => hc (key.mp x)
    simp only [h]
    rfl

theorem rh_slot (s : PeerSys) (ev : Ev) : (runHandler s ev).slot = (handle s.slot ev).1 := by
  rw [runHandler_eq]; exact fold_const (·.slot) (fun _ o => by cases o <;> rfl) _ _

theorem rh_connected (s : PeerSys) (ev : Ev) : (runHandler s ev).connected = s.connected := by
  rw [runHandler_eq]; exact fold_const (·.connected) (fun _ o => by cases o <;> rfl) _ _

theorem rh_notices (s : PeerSys) (ev : Ev) : (runHandler s ev).notices = s.notices := by
  rw [runHandler_eq]; exact fold_const (·.notices) (fun _ o => by cases o <;> rfl) _ _

theorem rh_pending (s : PeerSys) (ev : Ev) :
    (runHandler s ev).pending = (handle s.slot ev).2.foldl pendF s.pending := by
  rw [runHandler_eq]; exact fold_proj (·.pending) pendF (fun _ o => by cases o <;> rfl) _ _

theorem rh_requested (s : PeerSys) (ev : Ev) :
    (runHandler s ev).requested = (handle s.slot ev).2.foldl reqF s.requested := by
  rw [runHandler_eq]; exact fold_proj (·.requested) reqF (fun _ o => by cases o <;> rfl) _ _

theorem rh_hsOut (s : PeerSys) (ev : Ev) :
    (runHandler s ev).hsOut = (handle s.slot ev).2.foldl hsOutF s.hsOut := by
  rw [runHandler_eq]; exact fold_proj (·.hsOut) hsOutF (fun _ o => by cases o <;> rfl) _ _

theorem rh_hsIn (s : PeerSys) (ev : Ev) :
    (runHandler s ev).hsIn = (handle s.slot ev).2.foldl hsInF s.hsIn := by
  rw [runHandler_eq]; exact fold_proj (·.hsIn) hsInF (fun _ o => by cases o <;> rfl) _ _

theorem rh_validations (s : PeerSys) (ev : Ev) :
    (runHandler s ev).validations = (handle s.slot ev).2.foldl valF s.validations := by
  rw [runHandler_eq]; exact fold_proj (·.validations) valF (fun _ o => by cases o <;> rfl) _ _

theorem rh_tl (s : PeerSys) (ev : Ev) :
    ((runHandler s ev).tasks, (runHandler s ev).log) = (handle s.slot ev).2.foldl tlF
      (s.tasks, if takesUp s.slot (handle s.slot ev) = true then s.log ++ [.request] else s.log) := by
  rw [runHandler_eq]; exact fold_proj (fun s => (s.tasks, s.log)) tlF (fun _ o => by cases o <;> rfl) _ _

theorem rh_tasks (s : PeerSys) (ev : Ev) :
    (runHandler s ev).tasks = ((handle s.slot ev).2.foldl tlF (s.tasks, [])).1 := by
  refine (congrArg Prod.fst (rh_tl s ev)).trans ?_
  rw [tl_append]

theorem rh_log (s : PeerSys) (ev : Ev) :
    (runHandler s ev).log =
      (if takesUp s.slot (handle s.slot ev) = true then s.log ++ [.request] else s.log) ++
        newEvs s.tasks (handle s.slot ev).2 := by
  refine (congrArg Prod.snd (rh_tl s ev)).trans ?_
  rw [tl_append]
  rfl


theorem calm_fold (outs : List Out) : ∀ (ts : List Task) (lg : List UEv),
    (∀ k ∈ ts, k.phase = .running ∧ k.signalled = false) → (∀ t, Out.shutdown t ∉ outs) →
    ∀ k ∈ (outs.foldl tlF (ts, lg)).1, k.phase = .running ∧ k.signalled = false := by
  intro ts lg h hn
  refine List.foldlRecOn (motive := fun x => ∀ k ∈ x.1, k.phase = .running ∧ k.signalled = false) outs tlF (b := (ts, lg)) h
    fun x hx o ho => ?_
  cases o
  case shutdown t => exact absurd ho (hn t)
  case spawn t pi po =>
    intro k hk
    simp only [tlF, List.mem_append, List.mem_singleton] at hk
    rcases hk with hk | rfl
    · exact hx k hk
    · exact ⟨rfl, rfl⟩
  all_goals exact hx

theorem bug_fold (outs : List Out) (ts : List Task) (lg : List UEv) :
    UEv.bug ∈ (outs.foldl tlF (ts, lg)).2 → UEv.bug ∈ lg ∨ Out.bug ∈ outs := by
  refine List.foldlRecOn (motive := fun x => UEv.bug ∈ x.2 → UEv.bug ∈ lg ∨ Out.bug ∈ outs) outs tlF (b := (ts, lg)) .inl
    fun x hx o ho h => ?_
  cases o <;> simp_all [tlF]

theorem lfold_append (a b : List UEv) : lfold (a ++ b) = b.foldl lstep (lfold a) := by
  simp [lfold, List.foldl_append]

theorem afold_append (a b : List UEv) : afold (a ++ b) = b.foldl astep (afold a) := by
  simp [afold, List.foldl_append]

theorem afold_request (l : List UEv) : afold (l ++ [.request]) = afold l := by
  rw [afold_append]
  cases afold l with
  | none => rfl
  | some c => cases c <;> rfl


def isConnClosed : Ev → Bool
  | .connClosed => true
  | _ => false

def isValidation : Ev → Bool
  | .validation .. => true
  | _ => false

/-- What the bookkeeping before the handler (`evOf`) leaves alone. -/
structure Before (s s1 : PeerSys) (ev : Ev) : Prop where
  slot : s1.slot = s.slot
  tasks : s1.tasks = s.tasks
  log : s1.log = s.log
  pending : s1.pending = s.pending
  hsOut : s1.hsOut = s.hsOut
  hsIn : s1.hsIn = s.hsIn
  connected : s1.connected = s.connected
  notices : s1.notices ≤ s.notices
  requested : isConnClosed ev = false → s1.requested = reqBefore s.slot (liveOf s) ev
  validations : isValidation ev = false → s1.validations = s.validations

/-- What the bookkeeping after the handler (`post`) does. -/
structure After (r s2 : PeerSys) (ev : Ev) : Prop where
  slot : s2.slot = r.slot
  tasks : s2.tasks = r.tasks
  log : s2.log = r.log
  pending : s2.pending = r.pending
  hsOut : s2.hsOut = r.hsOut
  hsIn : s2.hsIn = r.hsIn
  notices : s2.notices = r.notices
  validations : s2.validations = r.validations
  connected : s2.connected = connAfter r.connected ev
  requested : s2.requested = if isConnClosed ev = true then [] else r.requested

theorem connClosed_leaves (slot : Slot) :
    (handle slot .connClosed).1 = none ∨ (handle slot .connClosed).1 = some (.valPending .clo) := by
  rcases slot with _ | st
  · exact .inl rfl
  · cases st <;> simp only [handle, onConnClosed, true_or, or_true]
    rename_i out inb dir
    cases out <;> cases inb <;> simp

theorem not_opn_of_validating {slot : Slot} (h : isValidating slot = true) : isOpn slot = false := by
  rcases slot with _ | st
  · rfl
  · cases st <;> first | rfl | cases h

theorem pendOf_connClosed (slot : Slot) (l : Bool) : pendOf (handle slot .connClosed).1 l = [] := by
  rcases connClosed_leaves slot with h | h <;> rw [h] <;> rfl

theorem run_fold (outs : List Out) (ts : List Task) (lg : List UEv) (h : ∀ k ∈ ts, k.phase = .running) :
    ∀ k ∈ (outs.foldl tlF (ts, lg)).1, k.phase = .running := by
  refine List.foldlRecOn (motive := fun x => ∀ k ∈ x.1, k.phase = .running) outs tlF (b := (ts, lg)) h fun x hx o _ => ?_
  cases o
  case shutdown t =>
    intro k hk
    simp only [tlF, signalTask, List.mem_map] at hk
    obtain ⟨k0, hk0, rfl⟩ := hk
    have := hx k0 hk0
    split <;> simpa using this
  case spawn t pi po =>
    intro k hk
    simp only [tlF, List.mem_append, List.mem_singleton] at hk
    rcases hk with hk | rfl
    · exact hx k hk
    · rfl
  all_goals exact hx

theorem tl_quiet (outs : List Out) : ∀ (ts ts' : List Task) (lg : List UEv), quietOuts outs = true →
    (outs.foldl tlF (ts, lg)).2 = (outs.foldl tlF (ts', lg)).2 := by
  induction outs with
  | nil => intro ts ts' lg _; rfl
  | cons o r ih =>
    intro ts ts' lg hq
    simp only [quietOuts, List.all_cons, Bool.and_eq_true] at hq
    have hr : quietOuts r = true := hq.2
    rw [List.foldl_cons, List.foldl_cons]
    cases o
    case opened d hs t => simp at hq
    all_goals exact ih _ _ _ hr

theorem handler_inv2 {s s1 s2 : PeerSys} {ev : Ev} (h : Inv2 s) (hi1 : Inv1 s2)
    (hpre : Pre s.slot (liveOf s) ev = true)
    (hbz : (InClose s || decide (s.notices > 0)) = true → ev = .notice)
    (hq : isOpn s.slot = false → s.tasks = [] ∨ quietOuts (handle s.slot ev).2 = true)
    (hpipe : ∀ p, evPipe ev = some p → s.hsIn.map (·.1) = some p)
    (B : Before s s1 ev) (A : After (runHandler s1 ev) s2 ev) : Inv2 s2 := by
  have hm := handle_move hpre
  have hslot : s2.slot = (handle s.slot ev).1 := by rw [A.slot, rh_slot, B.slot]
  have hlog : s2.log = (if takesUp s.slot (handle s.slot ev) = true then s.log ++ [.request] else s.log) ++
      newEvs s.tasks (handle s.slot ev).2 := by
    rw [A.log, rh_log, B.slot, B.log, B.tasks]
  have hpend : s2.pending = pendOf s2.slot (liveAfter s.slot ev (liveOf s)) := by
    rw [A.pending, rh_pending, B.slot, B.pending, h.pd, hslot, hm.pend]
  have hlive : pendOf s2.slot (liveOf s2) = pendOf s2.slot (liveAfter s.slot ev (liveOf s)) := by
    rw [liveOf, hpend, pendOf_fix]
  refine ⟨hi1, ?_, ?_, ?_, ?_, ?_, ?_, ?_, ?_, ?_, ?_, ?_⟩
  · rw [A.connected, rh_connected, B.connected, h.c, hslot, hm.conn]
  · rw [hlive, A.requested, hslot]
    by_cases hc : isConnClosed ev = true
    · rw [if_pos hc]
      have : ev = .connClosed := by cases ev <;> simp_all [isConnClosed]
      subst this
      rw [pendOf_connClosed]
    · rw [if_neg hc, rh_requested, B.slot, B.requested (by simpa using hc), hm.req]
  · rw [hlive]; exact hpend
  · rw [A.hsOut, rh_hsOut, B.slot, B.hsOut, hslot]
    exact hm.hsOut _ h.ho
  · rw [A.hsIn, rh_hsIn, B.slot, B.hsIn, hslot]
    exact hm.hsIn _ h.hi
  · rw [A.validations, rh_validations, B.slot, hslot]
    by_cases hv : isValidation ev = true
    · obtain ⟨a, r, rfl⟩ : ∃ a r, ev = .validation a r := by
        cases ev <;> simp_all [isValidation]
      intro q hq
      rw [hm.answered] at hq; cases hq
    · rw [B.validations (by simpa using hv)]
      exact fun q hq => (mem_foldl_valF ..).2 ((hm.val hq).imp_left (h.vl q))
  · rw [hslot]; exact hm.wf h.wf
  · -- a notice is due
    intro hb2
    rw [hslot]
    by_cases hn : ev = .notice
    · subst hn
      exact idle_notice _ (by simpa [Pre] using hpre)
    · -- not the notice: no task was inside `close_connection` and the channel was empty; still so afterwards
      exfalso
      have hb : ¬ (InClose s || decide (s.notices > 0)) = true := fun hc => hn (hbz hc)
      simp only [Bool.or_eq_true, not_or, Bool.not_eq_true, decide_eq_true_eq] at hb
      have hn2 : s2.notices = 0 := by
        have := B.notices
        rw [A.notices, rh_notices]; omega
      have hrun : ∀ k ∈ s.tasks, k.phase = .running := by
        intro k hk
        have := hb.1
        simp only [InClose, List.any_eq_false] at this
        simpa using this k hk
      have hrun2 := run_fold (handle s.slot ev).2 s.tasks [] hrun
      have ht2 : s2.tasks = ((handle s.slot ev).2.foldl tlF (s.tasks, [])).1 := by
        rw [A.tasks, rh_tasks, B.slot, B.tasks]
      rw [← ht2] at hrun2
      simp only [NoticeDue, Bool.or_eq_true, List.any_eq_true, decide_eq_true_eq] at hb2
      rcases hb2 with ⟨k, hk, hk2⟩ | hb2
      · rw [hrun2 k hk] at hk2; cases hk2
      · omega
  · rw [hlog]
    intro hbug
    rw [List.mem_append] at hbug
    rcases hbug with hbug | hbug
    · split at hbug
      · rw [List.mem_append] at hbug
        rcases hbug with hbug | hbug
        · exact h.nb hbug
        · simp at hbug
      · exact h.nb hbug
    · rcases bug_fold _ _ _ hbug with h1 | h1
      · simp at h1
      · exact hm.nobug h1
  · rw [hlog, lfold_append, apply_ite lfold, lfold_append, h.lg, hslot]
    exact cond_eq_ite _ _ _ ▸ hm.ledger s.tasks
  · -- acceptance ledger: the `request` marker does not move it, and the new events are those of a handler run
    -- without tasks unless an `opened` is among them
    obtain ⟨ts, hts, hnew⟩ : ∃ ts, (isValidating s.slot = true → ts = []) ∧
        newEvs s.tasks (handle s.slot ev).2 = newEvs ts (handle s.slot ev).2 := by
      by_cases hv : isValidating s.slot = true
      · rcases hq (not_opn_of_validating hv) with ht | hq
        · exact ⟨s.tasks, fun _ => ht, rfl⟩
        · exact ⟨[], fun _ => rfl, tl_quiet _ _ _ [] hq⟩
      · exact ⟨s.tasks, fun h => absurd h hv, rfl⟩
    rw [hlog, hnew, afold_append, apply_ite afold, afold_request, ite_self, h.ac, hslot, A.hsIn, rh_hsIn, B.slot, B.hsIn]
    exact hm.acc h.wf ts hts s.hsIn h.hi hpipe


theorem req_mem {s : PeerSys} (h : Inv2 s) {sid : Sid} (hm : s.requested.contains sid = true) :
    pendOf s.slot (liveOf s) = [sid] :=
  pendOf_mem (h.rq ▸ List.contains_iff_mem.mp hm)

theorem pre_of {s s1 : PeerSys} {ev : Ev} {a : Act} (h : Inv2 s) (he : enabled s a = true)
    (hev : evOf s a = some (s1, ev)) : Pre s.slot (liveOf s) ev = true := by
  have hc := h.c
  have hho := h.ho
  have hhi := h.hi
  cases a
  case hsNegotiated d hs auto t =>
    obtain ⟨-, p, rfl, hp⟩ := evOf_hsNegotiated hev
    cases d
    · obtain ⟨b, hb⟩ := hp
      simp only [Pre]; rw [← hhi, hb]; rfl
    · simp only [Pre]; rw [← hho, hp]; rfl
  all_goals simp only [evOf, Option.some.injEq, Prod.mk.injEq, reduceCtorEq] at hev
  all_goals obtain ⟨-, rfl⟩ := hev
  case connEst | connClosed | subInbound => simp_all [Pre, enabled]
  case subOpened | subFailed =>
    simp only [enabled, Bool.and_eq_true] at he
    simp [Pre, req_mem h he.2, h.pd]
  case hsError d =>
    simp only [Pre]
    rcases hsl : s.slot with _ | st
    · rw [hsl] at hho hhi; cases d <;> simp_all [enabled, outNeg, inbEntry]
    · rw [hsl] at hho hhi
      cases st <;> first | rfl | (cases d <;> simp_all [enabled, outNeg, inbEntry])
  case notice =>
    simp only [enabled, decide_eq_true_eq] at he
    exact h.bz (by simp [NoticeDue, he])
  case cmdOpen sd dk ok sid =>
    simp only [Pre, liveOf, liveFn]
    rcases hsl : s.slot with _ | st
    · rfl
    · cases st <;> try rfl
      rename_i pend
      cases pend <;> simp [isClosedSome]
  all_goals rfl

theorem bookkeeping_of {s s1 : PeerSys} {ev : Ev} {a : Act} (h : Inv2 s) (he : enabled s a = true)
    (hev : evOf s a = some (s1, ev)) :
    Before s s1 ev ∧ (∀ r, After r (post r a) ev) ∧ ∀ p, evPipe ev = some p → s.hsIn.map (·.1) = some p := by
  have hrq := h.rq
  cases a
  case hsNegotiated d hs auto t =>
    obtain ⟨rfl, p, rfl, hp⟩ := evOf_hsNegotiated hev
    refine ⟨⟨rfl, rfl, rfl, rfl, rfl, rfl, rfl, Nat.le_refl _, fun _ => hrq, fun _ => rfl⟩,
      fun _ => ⟨rfl, rfl, rfl, rfl, rfl, rfl, rfl, rfl, rfl, rfl⟩, fun q hq => ?_⟩
    cases d
    · obtain ⟨b, hb⟩ := hp
      cases hq
      rw [hb]
      rfl
    · cases hq
  all_goals simp only [evOf, Option.some.injEq, Prod.mk.injEq, reduceCtorEq] at hev
  all_goals obtain ⟨rfl, rfl⟩ := hev
  all_goals refine ⟨?_, fun _ => ⟨rfl, rfl, rfl, rfl, rfl, rfl, rfl, rfl, rfl, rfl⟩, nofun⟩
  case subOpened | subFailed =>
    simp only [enabled, Bool.and_eq_true] at he
    refine ⟨rfl, rfl, rfl, rfl, rfl, rfl, rfl, Nat.le_refl _, fun _ => ?_, fun _ => rfl⟩
    simp [reqBefore, hrq, req_mem h he.2]
  case notice =>
    exact ⟨rfl, rfl, rfl, rfl, rfl, rfl, rfl, Nat.sub_le _ _, fun _ => hrq, fun _ => rfl⟩
  case validation p acc ok sid =>
    exact ⟨rfl, rfl, rfl, rfl, rfl, rfl, rfl, Nat.le_refl _, fun _ => hrq, fun hv => by simp [isValidation] at hv⟩
  case connClosed =>
    exact ⟨rfl, rfl, rfl, rfl, rfl, rfl, rfl, Nat.le_refl _, fun hc => by simp [isConnClosed] at hc, fun _ => rfl⟩
  all_goals exact ⟨rfl, rfl, rfl, rfl, rfl, rfl, rfl, Nat.le_refl _, fun _ => hrq, fun _ => rfl⟩

theorem any_setPhase_closing {t : Tid} {ph : TaskPhase} (hph : ph ≠ .closing true) (ts : List Task)
    (h : (setPhase t ph ts).any (fun k => k.phase = .closing true) = true) :
    ts.any (fun k => k.phase = .closing true) = true := by
  simp only [setPhase, List.any_map, List.any_eq_true, Function.comp, decide_eq_true_eq] at h ⊢
  obtain ⟨k, hk, hk2⟩ := h
  refine ⟨k, hk, ?_⟩
  by_cases hid : k.id = t
  · simp [hid] at hk2; exact absurd hk2 hph
  · simpa [hid] using hk2

/-- A task step leaves everything but the tasks, the notice count and the log (a `closed` report) alone: what is
left to show is that a notice becomes due only for the open stream. -/
theorem task_inv2 {s : PeerSys} {a : Act} (h : Inv2 s) (hi1 : Inv1 (taskStep s a)) (he : enabled s a = true)
    (ht : a.isTask = true) : Inv2 (taskStep s a) := by
  have hbz : NoticeDue (taskStep s a) = true → idle s.slot = true := by
    intro hd
    cases a <;> simp [Act.isTask] at ht
    case taskSeesSignal t =>
      apply h.bz
      simp only [taskStep, NoticeDue, Bool.or_eq_true] at hd ⊢
      exact hd.imp (any_setPhase_closing (by simp) _) id
    case taskSeesClose t =>
      -- the task was running and had not been signalled: its stream is the open one
      simp only [enabled, hasTask, List.any_eq_true, Bool.and_eq_true, decide_eq_true_eq,
        Bool.not_eq_true'] at he
      obtain ⟨k, hk, -, hrun, hns⟩ := he
      rw [h.i1.run k hk hrun hns]
      rfl
    case taskNotice t =>
      apply h.bz
      simp only [taskStep, NoticeDue, Bool.or_eq_true, decide_eq_true_eq] at hd ⊢
      rcases hd with hd | hd
      · exact .inl (any_setPhase_closing (by simp) _ hd)
      · by_cases hn : (s.tasks.any fun k => k.id = t ∧ k.phase = .closing true) = true
        · left
          simp only [List.any_eq_true, decide_eq_true_eq] at hn ⊢
          obtain ⟨k, hk, -, hk2⟩ := hn
          exact ⟨k, hk, hk2⟩
        · right
          simp only [hn] at hd
          simpa using hd
    case taskReport t =>
      apply h.bz
      simp only [taskStep, NoticeDue, Bool.or_eq_true, List.any_eq_true, decide_eq_true_eq] at hd ⊢
      rcases hd with ⟨k, hk, hk2⟩ | hd
      · exact .inl ⟨k, (List.mem_filter.mp hk).1, hk2⟩
      · exact .inr (by simpa using hd)
  cases a <;> simp [Act.isTask] at ht
  case taskReport t =>
    refine ⟨hi1, h.c, h.rq, h.pd, h.ho, h.hi, h.vl, h.wf, hbz, ?_, ?_, ?_⟩
    · simp only [taskStep, List.mem_append, List.mem_singleton, reduceCtorEq, or_false]; exact h.nb
    · simp only [taskStep]; rw [lfold_append, h.lg]; cases owes s.slot <;> rfl
    · simp only [taskStep]; rw [afold_append, h.ac]; cases accOf s.slot s.hsIn <;> rfl
  all_goals exact ⟨hi1, h.c, h.rq, h.pd, h.ho, h.hi, h.vl, h.wf, hbz, h.nb, h.lg, h.ac⟩

theorem inv2_step {s : PeerSys} (a : Act) (h : Inv2 s) (he : enabled s a = true) (hp : prompt s a = true) :
    Inv2 (step s a) := by
  have hi1 := inv_step a h.i1 he hp fun _ _ hev => (handle_move (pre_of h he hev)).shape
  rcases hev : evOf s a with _ | ⟨s1, ev⟩
  · have hst : step s a = taskStep s a := by simp only [step, hev]
    rw [hst] at hi1 ⊢
    by_cases ht : a.isTask = true
    · exact task_inv2 h hi1 he ht
    · -- a handshake event without an entry is not enabled
      cases a <;> simp [Act.isTask] at ht <;> simp [evOf] at hev
      rename_i d hs auto t
      cases d <;> simp_all [enabled]
  · have hst : step s a = post (runHandler s1 ev) a := by simp only [step, hev]
    rw [hst] at hi1 ⊢
    have hpre := pre_of h he hev
    obtain ⟨hB, hA, hpipe⟩ := bookkeeping_of h he hev
    refine handler_inv2 h hi1 hpre ?_ (fun ho => hB.slot ▸ prompt_quiet h.i1 hp hev ho) hpipe hB (hA _)
    intro hc
    rcases prompt_cases hp hev with ⟨-, hn⟩ | ⟨hc', -⟩ | ⟨hc', -⟩
    · exact hn
    · rw [hc] at hc'; cases hc'
    · rw [hc] at hc'; cases hc'

theorem inv2_init : Inv2 {} :=
  ⟨⟨rfl, by simp, by intro k hk; simp at hk⟩, rfl, rfl, rfl, rfl, rfl,
    by intro q hq; simp [slotVal] at hq, rfl,
    by intro _; rfl, by simp, rfl, rfl⟩

theorem inv2_reach {s : PeerSys} (h : ReachP s) : Inv2 s := by
  induction h with
  | init => exact inv2_init
  | step a _ he hp _ ih => exact inv2_step a ih he hp

end Litep2pVerif.Notif
