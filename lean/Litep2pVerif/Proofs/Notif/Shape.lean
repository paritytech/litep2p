import Litep2pVerif.Model.Notif.Sys
/-! Helper lemmas for C11: the user-channel grammar; the shapes a handler's effects on the connection tasks and the
user channel may have (`shapeOk`); and the case analysis of `handle slot ev` along the code (`handler_cases`, `slot_cases`)
by which the transition table is checked (`handle_move`) and, as `handler_simp`, the facts about the handlers on unguarded
inputs are proved. -/
namespace Litep2pVerif.Notif

/-- User-channel grammar: `some b` = well-formed so far and a stream is open iff `b`; an `opened` while
open, a `closed` while closed or an open failure while open break it. -/
def gstep (st : Option Bool) (e : UEv) : Option Bool :=
  match st, e with
  | some false, .opened .. => some true
  | some true, .opened .. => none
  | some true, .closed => some false
  | some false, .closed => none
  | some true, .fail _ => none
  | st, _ => st

def grammar (log : List UEv) : Option Bool := log.foldl gstep (some false)

theorem grammar_append (l : List UEv) (e : UEv) : grammar (l ++ [e]) = gstep (grammar l) e := by
  simp [grammar, List.foldl_append]

def relevant : Out → Bool
  | .opened .. | .fail _ | .spawn .. | .shutdown _ => true
  | _ => false

def isOpn : Slot → Bool
  | some (.opn _) => true
  | _ => false

def evTask : Ev → Tid
  | .hsNegotiated _ _ _ _ t => t
  | _ => 0

def shapeRest (r : Res) (nt : Tid) : Bool :=
  let g := r.2.filter relevant
  (!(isOpn r.1) && (match g with | [] => true | [.fail _] => true | _ => false)) ||
  (match r.1, g with
   | some (.opn t), [.spawn t' _ _, .opened _ _ t''] => t == t' && t == t'' && t == nt
   | _, _ => false)

/-- What a handler may do to the connection tasks and to the user channel: nothing; report one open
failure (never while `Open`); fire/drop the shutdown oneshot of the `Open` state it leaves; or enter `Open`
by spawning the task and reporting the stream opened. -/
def shapeOk (slot : Slot) (r : Res) (nt : Tid) : Bool :=
  match slot with
  | some (.opn t) =>
    (r.1 == some (.opn t) && r.2.filter relevant == []) || (!(isOpn r.1) && r.2.filter relevant == [.shutdown t])
  | _ => shapeRest r nt

set_option hygiene false in
/-- Case analysis along the code: the event selects the handler, then one goal per branch of the handler's
own `match`es and `if`s. (Destructuring the slot completely first gives many times as many goals.) -/
macro "handler_cases" : tactic => `(tactic| (
  cases ev
  all_goals simp only [handle, onConnEstablished, onConnClosed, onOutboundSubstream, onInboundSubstream,
      onSubstreamOpenFailure, onOpenSubstream, onCloseSubstream, onValidationResult, onHsNegotiated,
      onHsError, onDialFailure, onShutdownNotice, onTimer, hsFinal, PState.dropped, OutSt.pendingOpen]
  all_goals (repeat' split)))

set_option hygiene false in
/-- Where a handler falls through without looking at (part of) the slot, that part is still a variable after
`handler_cases`, under the name of the handler's own pattern variable if `tactic.hygienic` is off (`val` is the
payload of an `Option`). Forget each such variable if the goal no longer mentions it, split it otherwise. -/
macro "slot_cases" : tactic => `(tactic| (
  all_goals first | clear slot | cases slot | skip
  all_goals first | clear val | cases val | skip
  all_goals first | clear st | cases st | skip
  all_goals first | clear out | cases out | skip
  all_goals first | clear inb | cases inb | skip
  all_goals first | clear pend | cases pend | skip
  all_goals first | clear d | cases d | skip))

set_option hygiene false in
/-- A fact about `handle slot ev` that holds by computing the handler, branch by branch (`slot_cases` only for the
fall-through branches that are left). -/
macro "handler_simp" "[" ls:Lean.Parser.Tactic.simpLemma,* "]" : tactic => `(tactic|
  set_option tactic.hygienic false in (
  handler_cases
  all_goals try (intros; rfl)
  all_goals try (intro h; cases h; done)
  all_goals try (simp_all [$ls,*]; done)
  slot_cases
  all_goals simp_all [$ls,*]))

theorem shapeOk_same (slot : Slot) (outs : List Out) (nt : Tid) (h : outs.filter relevant = []) :
    shapeOk slot (slot, outs) nt = true := by
  rcases slot with _ | st
  · simp [shapeOk, shapeRest, isOpn, h]
  · cases st <;> simp [shapeOk, shapeRest, isOpn, h]

end Litep2pVerif.Notif
