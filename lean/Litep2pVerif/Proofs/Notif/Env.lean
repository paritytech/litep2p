import Litep2pVerif.Proofs.Notif.Shape
/-!
Behind the consistency invariant of C11: the views through which the slot determines the environment components; the guard
`Pre` under which a handler runs in the transition system; the handlers' transition table on guarded inputs (`Move`, checked
against `handle` once: `handle_move`); and what a row of the table does to each component.
-/
namespace Litep2pVerif.Notif

def slotConn : Slot → Bool
  | none | some .dialing | some (.valPending .clo) => false
  | _ => true

/-- The outbound substream request the slot is waiting for. -/
def slotSid : Slot → Option Sid
  | some (.closed (some s)) | some (.outInit s) | some (.validating (.init s) _ _) => some s
  | _ => none

def outNeg : Slot → Bool
  | some (.validating .neg _ _) => true
  | _ => false

/-- The inbound handshake entry the slot expects: reading (`false`) or sending (`true`). -/
def inbEntry : Slot → Option Bool
  | some (.validating _ .reading _) => some false
  | some (.validating _ .sending _) => some true
  | _ => none

def slotVal : Slot → Option Pipe
  | some (.validating _ (.validating p) _) => some p
  | _ => none

/-- The slots a peer can be in while one of its connection tasks is closing. -/
def idle : Slot → Bool
  | none | some (.closed none) | some (.opn _) => true
  | _ => false

def isValidating : Slot → Bool
  | some (.validating ..) => true
  | _ => false

/-- Both substreams open is not a resting state (the stream is reported at once), and the inbound handshake
is sent only when an outbound substream exists or has been requested. -/
def slotWf : Slot → Bool
  | some (.validating (.opn ..) (.opn _) _) => false
  | some (.validating .closed .sending _) | some (.validating .closed (.opn _) _) => false
  | _ => true

def owes (slot : Slot) : Bool := owed slot == 1

/-- The inbound substream that has been accepted in the current negotiation round. -/
def accOf (slot : Slot) (hsIn : Option (Pipe × Bool)) : Option Pipe :=
  match slot with
  | some (.validating _ .sending _) => hsIn.map (·.1)
  | some (.validating _ (.opn p) _) => some p
  | _ => none

def isClosedSome : Slot → Bool
  | some (.closed (some _)) => true
  | _ => false

/-- The `pending_outbound` ids of the peer — equally the requests the transport still has to answer — as the
slot determines them. `live`: the id kept in `Closed{pending_open}` is still being opened (it is dead, and
forgotten by `pending_outbound`, after a `SubstreamOpenFailure` in `Validating{OutboundInitiated}`). -/
def pendOf (slot : Slot) (live : Bool) : List Sid :=
  if isClosedSome slot && !live then [] else (slotSid slot).toList

/-- Is the id of a `Closed{pending_open}` the handler leaves behind still being opened? -/
def liveAfter (slot : Slot) (ev : Ev) (live : Bool) : Bool :=
  if isValidating slot then (match ev with | .openFailure .. => false | _ => true) else live

/-- What the guards of the transition system and the invariant guarantee about the state a handler is
called in. -/
def Pre (slot : Slot) (live : Bool) : Ev → Bool
  | .connEst _ => !slotConn slot
  | .connClosed => slotConn slot
  | .outbound sid _ ok => pendOf slot live == [sid] && ok
  | .inbound _ => slotConn slot
  | .openFailure sid f => pendOf slot live == [sid] && f
  | .hsNegotiated .outbound _ _ _ _ => outNeg slot
  | .hsNegotiated .inbound _ _ _ _ => (inbEntry slot).isSome
  | .hsError => isValidating slot
  | .notice => idle slot
  | .cmdOpen _ _ ph _ => ph == (isClosedSome slot && live)
  | _ => true

def pendF (l : List Sid) : Out → List Sid
  | .pendIns sid => if sid ∈ l then l else l ++ [sid]
  | .pendRm sid => l.filter (· ≠ sid)
  | .pendRetain => []
  | _ => l

def reqF (l : List Sid) : Out → List Sid
  | .callOpen sid => l ++ [sid]
  | _ => l

def hsOutF (h : Option Pipe) : Out → Option Pipe
  | .negOut p => some p
  | .rmOut => none
  | _ => h

def hsInF (h : Option (Pipe × Bool)) : Out → Option (Pipe × Bool)
  | .readHs p => some (p, false)
  | .sendHs p => some (p, true)
  | .rmIn => none
  | _ => h

def valF (l : List Pipe) : Out → List Pipe
  | .validation p => l ++ [p]
  | _ => l

def dialF (b : Bool) : Out → Bool
  | .callDial => true
  | _ => b

/-- The connection tasks and the user log, folded together because an `opened` entry looks its task up. -/
def tlF (x : List Task × List UEv) : Out → List Task × List UEv
  | .opened d hs t =>
    (x.1, x.2 ++ [.opened d hs t (match x.1.find? (·.id = t) with | some k => k.inPipe | none => 0)])
  | .fail e => (x.1, x.2 ++ [.fail e])
  | .validate hs p => (x.1, x.2 ++ [.validate hs p])
  | .spawn t pi po => (x.1 ++ [{ id := t, inPipe := pi, outPipe := po }], x.2)
  | .shutdown t => (signalTask t x.1, x.2)
  | .bug => (x.1, x.2 ++ [.bug])
  | .accepted p => (x.1, x.2 ++ [.accepted p])
  | .autoAccepted p => (x.1, x.2 ++ [.autoAccepted p])
  | .rejected p => (x.1, x.2 ++ [.rejected p])
  | _ => x

theorem fold_proj {α : Type} (π : PeerSys → α) (f : α → Out → α) (hf : ∀ s o, π (applyOut s o) = f (π s) o)
    (outs : List Out) : ∀ s : PeerSys, π (outs.foldl applyOut s) = outs.foldl f (π s) := by
  induction outs with
  | nil => intro s; rfl
  | cons o r ih => intro s; rw [List.foldl_cons, List.foldl_cons, ih, hf]

theorem fold_const {α : Type} (π : PeerSys → α) (hf : ∀ s o, π (applyOut s o) = π s) (outs : List Out) (s : PeerSys) :
    π (outs.foldl applyOut s) = π s := by
  induction outs generalizing s with
  | nil => rfl
  | cons o r ih => rw [List.foldl_cons, ih, hf]

theorem fold_dialing (outs : List Out) : ∀ s : PeerSys, (outs.foldl applyOut s).dialing = outs.foldl dialF s.dialing :=
  fold_proj (·.dialing) dialF (fun _ o => by cases o <;> rfl) outs

theorem mem_foldl_valF (outs : List Out) : ∀ (v : List Pipe) (q : Pipe),
    q ∈ outs.foldl valF v ↔ q ∈ v ∨ Out.validation q ∈ outs := by
  induction outs with
  | nil => simp
  | cons o r ih => intro v q; rw [List.foldl_cons, ih]; cases o <;> simp [valF, or_assoc]

theorem tl_append (outs : List Out) : ∀ (ts : List Task) (lg : List UEv),
    outs.foldl tlF (ts, lg) = ((outs.foldl tlF (ts, [])).1, lg ++ (outs.foldl tlF (ts, [])).2) := by
  induction outs with
  | nil => intro ts lg; simp
  | cons o r ih =>
    intro ts lg
    rw [List.foldl_cons, List.foldl_cons]
    cases o <;> simp only [tlF, List.nil_append] <;> first
      | exact ih _ _
      | (rw [ih ts (lg ++ _), ih ts [_]]; simp [List.append_assoc])

/-- The user events a handler's outputs append to the log (`ts`: the connection tasks before). -/
def newEvs (ts : List Task) (outs : List Out) : List UEv := (outs.foldl tlF (ts, [])).2

/-- Request/answer ledger: `some b` = every `request` marker so far was followed by exactly one answer
(`opened` or open failure) before the next marker — or by the user's own Reject of the peer's inbound
substream, which ends the negotiation silently (mod.rs, `ValidationResult::Reject`) —, no answer came without a
marker, and an answer is outstanding iff `b`. -/
def lstep (st : Option Bool) (e : UEv) : Option Bool :=
  match st, e with
  | some false, .request => some true
  | some true, .request => none
  | some true, .opened .. => some false
  | some true, .fail _ => some false
  | some false, .opened .. => none
  | some false, .fail _ => none
  | some _, .rejected _ => some false
  | st, _ => st

def lfold (log : List UEv) : Option Bool := log.foldl lstep (some false)

/-- Acceptance ledger: `some c` = every `opened` so far was preceded, within its negotiation round (no other
`opened` and no open failure in between), by the marker `accepted p`/`autoAccepted p` of exactly its inbound
substream `p`; `c` = the substream accepted in the current round, if any. -/
def astep (st : Option (Option Pipe)) (e : UEv) : Option (Option Pipe) :=
  match st, e with
  | some _, .accepted p => some (some p)
  | some _, .autoAccepted p => some (some p)
  | some (some q), .opened _ _ _ ip => if ip = q then some none else none
  | some none, .opened .. => none
  | some _, .fail _ => some none
  | some _, .rejected _ => some none
  | st, _ => st

def afold (log : List UEv) : Option (Option Pipe) := log.foldl astep (some none)

/-- `runHandler` logs a `request` marker. -/
def takesUp (slot : Slot) (r : Res) : Bool :=
  (!owes slot && owes r.1) ||
  (!owes slot && !owes r.1 && r.2.any fun o => match o with | .opened .. => true | .fail _ => true | _ => false)

attribute [local simp] Pre pendOf isClosedSome slotConn slotSid outNeg inbEntry isValidating idle slotVal OutSt.pendingOpen

/-- The protocol's transition table on the inputs the guards allow (`Pre`): `Move slot live ev r` lists, row by row,
what `handle slot ev` can be. The first rows allow more than the code does (an input is ignored in some states, not
in all); what is proved of a row holds of them as they stand. -/
inductive Move : Slot → Bool → Ev → Res → Prop
  | openIgnored : Move slot live (.cmdOpen sd dk ph r) (slot, [])
  | closeIgnored : Move slot live .cmdClose (slot, [])
  | answerIgnored (h : slotVal slot = none) : Move slot live (.validation a r) (slot, [])
  | dialFailIgnored : Move slot live .dialFailure (slot, [])
  | noticeIgnored : Move slot live .notice (slot, [])
  | timerIgnored : Move slot live .timer (slot, [])
  | drop : Move slot live (.inbound p) (slot, [.closePipe p])
  -- `on_connection_established`
  | estNew : Move none live (.connEst r) (some (.closed none), [])
  | estDialed : Move (some .dialing) live (.connEst (some s)) (some (.outInit s), [.callOpen s, .pendIns s])
  | estDialedErr : Move (some .dialing) live (.connEst none) (some (.closed none), [.fail .noconn])
  | estVal : Move (some (.valPending .clo)) live (.connEst r) (some (.valPending .opn), [])
  -- `on_connection_closed`
  | cloInit : Move (some (.outInit s)) live .connClosed (none, [.pendRetain, .rmOut, .rmIn, .fail .rejected])
  | cloOpn : Move (some (.opn t)) live .connClosed (none, [.pendRetain, .rmOut, .rmIn, .shutdown t])
  | cloVal : Move (some (.validating .closed (.validating p) dir)) live .connClosed
      (some (.valPending .clo), [.pendRetain, .rmOut, .rmIn])
  | cloIn (h : ∀ p, inb ≠ .validating p) : Move (some (.validating .closed inb dir)) live .connClosed
      (none, [.pendRetain, .rmOut, .rmIn])
  | cloOut (h : out ≠ .closed) : Move (some (.validating out inb dir)) live .connClosed
      (none, [.pendRetain, .rmOut, .rmIn, .fail .rejected])
  | cloPend : Move (some (.valPending c)) live .connClosed (some (.valPending .clo), [.pendRetain, .rmOut, .rmIn])
  | cloPoisoned : Move (some .poisoned) live .connClosed (none, [.pendRetain, .rmOut, .rmIn])
  | cloClosed : Move (some (.closed pend)) live .connClosed (none, [.pendRetain, .rmOut, .rmIn])
  -- `on_outbound_substream`
  | outInit : Move (some (.outInit sid)) live (.outbound sid p true)
      (some (.validating .neg .closed .outbound), [.pendRm sid, .negOut p])
  | outVal : Move (some (.validating (.init sid) inb dir)) live (.outbound sid p true)
      (some (.validating .neg inb dir), [.pendRm sid, .negOut p])
  | outLate : Move (some (.closed (some sid))) true (.outbound sid p true)
      (some (.closed none), [.pendRm sid, .closePipe p])
  -- `on_inbound_substream`
  | inNew : Move (some (.closed none)) live (.inbound p) (some (.validating .closed .reading .inbound), [.readHs p])
  | inVal : Move (some (.validating out .closed dir)) live (.inbound p)
      (some (.validating out .reading dir), [.readHs p])
  | inInit : Move (some (.outInit s)) live (.inbound p)
      (some (.validating (.init s) .reading .outbound), [.readHs p])
  | inSecond : Move (some (.validating .closed (.validating p0) dir)) live (.inbound p)
      (some (.valPending .opn), [.closePipe p, .closePipe p0])
  -- `on_substream_open_failure`
  | failInit : Move (some (.outInit sid)) live (.openFailure sid true)
      (some (.closed none), [.pendRm sid, .fail .rejected])
  | failVal : Move (some (.validating (.init sid) inb dir)) live (.openFailure sid true)
      (some (.closed (some sid)), [.pendRm sid, .rmIn, .rmOut, .fail .rejected])
  | failLate : Move (some (.closed (some sid))) true (.openFailure sid true) (some (.closed none), [.pendRm sid])
  -- `on_open_substream`
  | openNoDial : Move none live (.cmdOpen false dk ph r) (none, [.fail .dialfail])
  | openDialErr : Move none live (.cmdOpen true false ph r) (none, [.callDial, .fail .dialfail])
  | openDial : Move none live (.cmdOpen true true ph r) (some .dialing, [.callDial])
  | openReuse : Move (some (.closed (some s))) true (.cmdOpen sd dk true r) (some (.outInit s), [.pendIns s])
  | openNew : Move (some (.closed none)) live (.cmdOpen sd dk false (some s))
      (some (.outInit s), [.callOpen s, .pendIns s])
  | openErr : Move (some (.closed none)) live (.cmdOpen sd dk false none)
      (some (.closed none), [.fail .noconn])
  | openAgain : Move (some (.closed (some s0))) false (.cmdOpen sd dk false (some s))
      (some (.outInit s), [.callOpen s, .pendIns s])
  | openAgainErr : Move (some (.closed (some s0))) false (.cmdOpen sd dk false none)
      (some (.closed none), [.fail .noconn])
  | openVal : Move (some (.valPending c)) live (.cmdOpen sd dk ph r)
      (some (.valPending c), [.fail .valpending])
  -- `on_close_substream`, the shutdown notice
  | close : Move (some (.opn t)) live .cmdClose (some (.closed none), [.shutdown t])
  | notice : Move (some (.opn t)) live .notice (some (.closed none), [.shutdown t])
  -- `on_validation_result`
  | reject : Move (some (.validating out (.validating p) dir)) live (.validation false r)
      (some (.closed out.pendingOpen), [.rejected p, .closePipe p, .rmOut, .rmIn])
  | acceptOpen : Move (some (.validating .closed (.validating p) dir)) live (.validation true (some s))
      (some (.validating (.init s) .sending dir), [.accepted p, .callOpen s, .sendHs p, .pendIns s])
  | acceptErr : Move (some (.validating .closed (.validating p) dir)) live (.validation true none)
      (some (.closed none), [.accepted p, .closePipe p, .fail .rejected])
  | accept (h : out ≠ .closed) : Move (some (.validating out (.validating p) dir)) live (.validation true r)
      (some (.validating out .sending dir), [.accepted p, .sendHs p])
  | lateAccept : Move (some (.valPending .opn)) live (.validation true r) (some (.closed none), [.fail .rejected])
  | lateReject : Move (some (.valPending .opn)) live (.validation false r) (some (.closed none), [])
  | lostAccept : Move (some (.valPending .clo)) live (.validation true r) (none, [.fail .noconn])
  | lostReject : Move (some (.valPending .clo)) live (.validation false r) (none, [])
  -- `on_handshake_event`
  | negOutOpen : Move (some (.validating .neg (.opn pi) dir)) live (.hsNegotiated .outbound hs p a t)
      (some (.opn t), [.rmOut, .spawn t pi p, .opened dir hs t])
  | negOut (h : ∀ pi, inb ≠ .opn pi) :
      Move (some (.validating .neg inb dir)) live (.hsNegotiated .outbound hs p a t)
      (some (.validating (.opn hs p) inb dir), [.rmOut, .timer])
  | negInAuto (h : out ≠ .closed) :
      Move (some (.validating out .reading dir)) live (.hsNegotiated .inbound hs p true t)
      (some (.validating out .sending dir), [.rmIn, .autoAccepted p, .sendHs p])
  | negInAsk (h : ¬(out ≠ .closed ∧ a = true)) :
      Move (some (.validating out .reading dir)) live (.hsNegotiated .inbound hs p a t)
      (some (.validating out (.validating p) dir), [.rmIn, .validation p, .validate hs p, .timer])
  | negInOpen :
      Move (some (.validating (.opn hs0 po) .sending dir)) live (.hsNegotiated .inbound hs p a t)
      (some (.opn t), [.rmIn, .spawn t p po, .opened dir hs0 t])
  | negIn (h : ∀ hs0 po, out ≠ .opn hs0 po) :
      Move (some (.validating out .sending dir)) live (.hsNegotiated .inbound hs p a t)
      (some (.validating out (.opn p) dir), [.rmIn, .timer])
  | hsErr (h : out ≠ .closed) : Move (some (.validating out inb dir)) live .hsError
      (some (.closed out.pendingOpen), [.rmOut, .rmIn, .fail .rejected])
  | hsErrIn : Move (some (.validating .closed inb dir)) live .hsError
      (some (.closed none), [.rmOut, .rmIn, .timer])
  -- `on_dial_failure`, a negotiation timer
  | dialFail : Move (some .dialing) live .dialFailure (none, [.fail .dialfail])
  | timeout : Move (some (.validating (.opn hs po) .closed dir)) live .timer
      (some (.closed none), [.closePipe po, .fail .rejected, .forceClose])

theorem handle_move {slot : Slot} {live : Bool} {ev : Ev} (h : Pre slot live ev = true) :
    Move slot live ev (handle slot ev) := by
  revert h
  -- branch by branch along the code: the guard evaluates to `false`; or the branch is a row of the table as it stands,
  -- or once `simp_all` has used the guard's equations; a fall-through branch only after the slot is split
  set_option tactic.hygienic false in (
  handler_cases
  all_goals try (intro h; cases h; done)
  all_goals try (intros; constructor; done)
  all_goals try (intros; simp_all; first | done | (constructor <;> simp_all; done))
  slot_cases
  all_goals try (intro h; cases h; done)
  all_goals try (intros; simp_all; first | done | (constructor <;> simp_all; done))
  -- left: the id kept in `Closed{pending_open}` is not the one answered (it is, if live); both substreams open: the
  -- fall-through of `hsFinal` is dead (`x`: what `split` records of it, that the state is not of the first pattern)
  all_goals first | exact absurd rfl (x _ _ _ _) | cases live
  all_goals simp_all)

/-- Whether the kept id is live matters only in `Closed{pending_open}`, and there the handler leaves `live` as it is. -/
theorem pendOf_liveAfter (slot : Slot) (ev : Ev) (live : Bool) :
    pendOf slot (liveAfter slot ev live) = pendOf slot live := by
  unfold liveAfter
  split
  · rename_i hv
    rcases slot with _ | st
    · cases hv
    · cases st <;> first | (cases hv; done) | simp [pendOf, isClosedSome]
  · rfl

set_option hygiene false in
/-- A fact `h : Move slot live ev r → …` that holds by computing every row of the table, once what the row leaves open of
the negotiation state is split: by evaluation, or by `simp` with the given definitions. (`simp` before the split is
much slower to check: most of what is spent is spent on attempts that fail.) -/
macro "move_simp" "[" ls:Lean.Parser.Tactic.simpLemma,* "]" : tactic => `(tactic|
  set_option tactic.hygienic false in (
  cases h
  all_goals try (intros; rfl)
  all_goals first | cases out | skip
  all_goals first | cases inb | skip
  all_goals try (intros; rfl)
  all_goals simp_all [$ls,*]))

def connAfter (b : Bool) : Ev → Bool
  | .connEst _ => true
  | .connClosed => false
  | _ => b

/-- The requested ids before the handler runs (the transport's answer removes the id it answers). -/
def reqBefore (slot : Slot) (live : Bool) : Ev → List Sid
  | .outbound .. | .openFailure .. | .connClosed => []
  | _ => pendOf slot live

def evPipe : Ev → Option Pipe
  | .hsNegotiated .inbound _ p _ _ => some p
  | _ => none

namespace Move
variable {slot : Slot} {live : Bool} {ev : Ev} {r : Res}

theorem shape (h : Move slot live ev r) : shapeOk slot r (evTask ev) = true := by
  cases h
  all_goals first
    | exact shapeOk_same _ _ _ rfl
    | rfl
    | simp [shapeOk, shapeRest, relevant, isOpn, evTask, List.filter]

theorem conn (h : Move slot live ev r) : slotConn r.1 = connAfter (slotConn slot) ev := by
  move_simp [connAfter]

theorem nobug (h : Move slot live ev r) : Out.bug ∉ r.2 := by
  move_simp []

theorem req (h : Move slot live ev r) :
    r.2.foldl reqF (reqBefore slot live ev) = pendOf r.1 (liveAfter slot ev live) := by
  move_simp [reqF, reqBefore, liveAfter, ↓pendOf_liveAfter]

theorem pend (h : Move slot live ev r) : r.2.foldl pendF (pendOf slot live) = pendOf r.1 (liveAfter slot ev live) := by
  move_simp [pendF, liveAfter, ↓pendOf_liveAfter]

theorem hsOut (h : Move slot live ev r) (v : Option Pipe) (hv : v.isSome = outNeg slot) :
    (r.2.foldl hsOutF v).isSome = outNeg r.1 := by
  revert hv
  move_simp [hsOutF]

theorem hsIn (h : Move slot live ev r) (v : Option (Pipe × Bool)) (hv : v.map (·.2) = inbEntry slot) :
    (r.2.foldl hsInF v).map (·.2) = inbEntry r.1 := by
  revert hv
  move_simp [hsInF]

theorem val (h : Move slot live ev r) {q : Pipe} (hq : slotVal r.1 = some q) :
    slotVal slot = some q ∨ Out.validation q ∈ r.2 := by
  revert hq
  move_simp [slotVal]

theorem answered {a : Bool} {o : Option Sid} (h : Move slot live (.validation a o) r) : slotVal r.1 = none := by
  move_simp [slotVal]

theorem wf (h : Move slot live ev r) (hw : slotWf slot = true) : slotWf r.1 = true := by
  revert hw
  move_simp [slotWf]

theorem idle (h : Move slot live ev r) (t : Tid) (ht : Out.shutdown t ∈ r.2) : idle r.1 = true := by
  revert ht
  move_simp []

/-- Every handler keeps the request/answer ledger: it answers exactly when it owes an answer and stops
owing it, or when it takes a request up and answers it at once. -/
theorem ledger (h : Move slot live ev r) (ts : List Task) :
    (newEvs ts r.2).foldl lstep (bif takesUp slot r then lstep (some (owes slot)) .request else some (owes slot))
      = some (owes r.1) := by
  move_simp [newEvs, tlF, lstep, takesUp, owes, owed]

/-- Every handler keeps the acceptance ledger. -/
theorem acc (h : Move slot live ev r) (hw : slotWf slot = true) (ts : List Task)
    (hts : isValidating slot = true → ts = []) (v : Option (Pipe × Bool)) (hv : v.map (·.2) = inbEntry slot)
    (hp : ∀ p, evPipe ev = some p → v.map (·.1) = some p) :
    (newEvs ts r.2).foldl astep (some (accOf slot v)) = some (accOf r.1 (r.2.foldl hsInF v)) := by
  revert hw hts hv hp
  move_simp [newEvs, tlF, astep, accOf, slotWf, hsInF, evPipe]

end Move

theorem idle_pure (slot : Slot) (ev : Ev) (live : Bool) (h : Pre slot live ev = true) (t : Tid)
    (ht : Out.shutdown t ∈ (handle slot ev).2) : idle (handle slot ev).1 = true :=
  (handle_move h).idle t ht

theorem idle_notice (slot : Slot) (h : idle slot = true) : idle (handle slot .notice).1 = true := by
  rcases slot with _ | st
  · rfl
  · cases st <;> simp_all [idle, handle, onShutdownNotice]

theorem accepted_pure (slot : Slot) (ev : Ev) (q : Pipe) (h : Out.accepted q ∈ (handle slot ev).2) :
    slotVal slot = some q ∧ ∃ r, ev = .validation true r := by
  revert h
  handler_simp [slotVal]

/-- The marker `autoAccepted q` is produced only when the handshake of inbound substream `q` has been read,
auto-accept is configured and the user has itself asked for a stream to that peer. -/
theorem auto_pure (slot : Slot) (ev : Ev) (q : Pipe) (h : Out.autoAccepted q ∈ (handle slot ev).2) :
    inbEntry slot = some false ∧ owes slot = true ∧ ∃ hs t, ev = .hsNegotiated .inbound hs q true t := by
  revert h
  handler_simp [owes, owed]

end Litep2pVerif.Notif
