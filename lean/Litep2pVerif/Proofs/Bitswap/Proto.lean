import Litep2pVerif.Model.Bitswap.Proto
/-! The bitswap event loop (C20): no handler invents a queued action and every call of `send_*` writes a prefix of
the frames of the action it was made for (`step_spec`, `run_spec`); the flush of a queue over a fresh substream
(`runActions_spec`); a slow but timely link loses nothing (`attempt_timely`, `runActions_timely`); a failed cached
substream requeues the action whole (`enqueue_lookup`). -/
namespace Litep2pVerif.Bitswap.Proto
open Litep2pVerif.Bitswap

variable {α : Type}

theorem alookup_ainsert_self (k : Nat) (v : α) (l : List (Nat × α)) : alookup k (ainsert k v l) = some v := by
  simp [alookup, ainsert]

theorem alookup_aerase_self (k : Nat) (l : List (Nat × α)) : alookup k (aerase k l) = none := by
  simp only [alookup, aerase, Option.map_eq_none_iff, List.find?_eq_none, List.mem_filter]
  intro x hx
  simp only [bne_iff_ne, ne_eq] at hx
  simp [hx.2]

theorem mem_of_alookup {k : Nat} {v : α} {l : List (Nat × α)} (h : alookup k l = some v) : (k, v) ∈ l := by
  simp only [alookup, Option.map_eq_some_iff] at h
  obtain ⟨e, he, hv⟩ := h
  have hm := List.mem_of_find?_eq_some he
  have hk := List.find?_some he
  simp only [beq_iff_eq] at hk
  cases e with
  | mk a b => simp only at hk hv; subst hk; subst hv; exact hm

theorem mem_aerase {k : Nat} {e : Nat × α} {l : List (Nat × α)} (h : e ∈ aerase k l) : e ∈ l := by
  simp only [aerase, List.mem_filter] at h
  exact h.1

/-- every action waiting in `pending_outbound` -/
def queuedIn (po : List (Nat × List Action)) : List Action := po.flatMap (·.2)

def St.queued (st : St) : List Action := queuedIn st.pendingOutbound

theorem mem_queuedIn {x : Action} {po : List (Nat × List Action)} :
    x ∈ queuedIn po ↔ ∃ p q, (p, q) ∈ po ∧ x ∈ q := by
  simp only [queuedIn, List.mem_flatMap]
  constructor
  · rintro ⟨⟨p, q⟩, hm, hx⟩
    exact ⟨p, q, hm, hx⟩
  · rintro ⟨p, q, hm, hx⟩
    exact ⟨(p, q), hm, hx⟩

theorem queuedIn_aerase {x : Action} {k : Nat} {po : List (Nat × List Action)} (h : x ∈ queuedIn (aerase k po)) :
    x ∈ queuedIn po := by
  obtain ⟨p, q, hm, hx⟩ := mem_queuedIn.mp h
  exact mem_queuedIn.mpr ⟨p, q, mem_aerase hm, hx⟩

theorem queuedIn_ainsert {x : Action} {k : Nat} {v : List Action} {po : List (Nat × List Action)}
    (h : x ∈ queuedIn (ainsert k v po)) : x ∈ v ∨ x ∈ queuedIn po := by
  obtain ⟨p, q, hm, hx⟩ := mem_queuedIn.mp h
  simp only [ainsert, List.mem_cons, Prod.mk.injEq] at hm
  rcases hm with ⟨_, hq⟩ | hm
  · subst hq
    exact Or.inl hx
  · exact Or.inr (mem_queuedIn.mpr ⟨p, q, mem_aerase hm, hx⟩)

theorem queued_of_alookup {st : St} {p : Nat} {q : List Action} (h : alookup p st.pendingOutbound = some q)
    {x : Action} (hx : x ∈ q) : x ∈ st.queued :=
  mem_queuedIn.mpr ⟨p, q, mem_of_alookup h, hx⟩

theorem dropQueue_queued {st : St} {p : Nat} {x : Action} (h : x ∈ (dropQueue st p).queued) : x ∈ st.queued :=
  queuedIn_aerase h

theorem openSubstream_some {st st1 : St} {p s : Nat} (h : openSubstream st p = some (st1, s)) :
    st1.pendingOutbound = st.pendingOutbound ∧ st1.outbound = st.outbound := by
  unfold openSubstream at h
  split at h
  · rw [← (Prod.mk.inj (Option.some.inj h)).1]
    exact ⟨rfl, rfl⟩
  · cases h

/-- `open_substream_or_dial` writes nothing; it drops the peer's queue when no substream can be had at all. -/
theorem openSubstreamOrDial_spec (st : St) (p : Nat) :
    (openSubstreamOrDial st p).2.attempts = [] ∧ (openSubstreamOrDial st p).1.outbound = st.outbound ∧
    ((openSubstreamOrDial st p).1.pendingOutbound = st.pendingOutbound ∨
      (openSubstreamOrDial st p).1.pendingOutbound = aerase p st.pendingOutbound ∧ openSubstream st p = none ∧
        (dialResult st p = .alreadyConnected ∨ dialResult st p = .error)) := by
  unfold openSubstreamOrDial
  split
  · rename_i heq
    exact ⟨rfl, (openSubstream_some heq).2, Or.inl (openSubstream_some heq).1⟩
  · rename_i heq
    split
    · exact ⟨rfl, rfl, Or.inl rfl⟩
    · exact ⟨rfl, rfl, Or.inl rfl⟩
    · exact ⟨rfl, rfl, Or.inr ⟨rfl, heq, Or.inl ‹_›⟩⟩
    · exact ⟨rfl, rfl, Or.inr ⟨rfl, heq, Or.inr ‹_›⟩⟩

theorem openSubstreamOrDial_queued {st : St} {p : Nat} {x : Action}
    (h : x ∈ (openSubstreamOrDial st p).1.queued) : x ∈ st.queued := by
  rw [St.queued] at h
  rcases (openSubstreamOrDial_spec st p).2.2 with e | ⟨e, _⟩ <;> rw [e] at h
  · exact h
  · exact queuedIn_aerase h

theorem enqueue_queued {st : St} {p : Nat} {a x : Action} (h : x ∈ (enqueue st p a).1.queued) :
    x = a ∨ x ∈ st.queued := by
  unfold enqueue at h
  split at h
  · rename_i y ys heq
    rcases queuedIn_ainsert h with h | h
    · simp only [List.mem_append, List.mem_cons, List.not_mem_nil, or_false] at h
      rcases h with h | h
      · exact Or.inr (queued_of_alookup heq (by simpa using h))
      · exact Or.inl h
    · exact Or.inr h
  · have h := openSubstreamOrDial_queued h
    rcases queuedIn_ainsert h with h | h
    · simp only [List.mem_cons, List.not_mem_nil, or_false] at h
      exact Or.inl h
    · exact Or.inr h

theorem enqueue_quiet (st : St) (p : Nat) (a : Action) :
    (enqueue st p a).2.attempts = [] ∧ (enqueue st p a).1.outbound = st.outbound := by
  unfold enqueue
  split
  · exact ⟨rfl, rfl⟩
  · exact ⟨(openSubstreamOrDial_spec _ p).1, (openSubstreamOrDial_spec _ p).2.1⟩

theorem setFar_pending (st : St) (s : Nat) (f : Far) : (st.setFar s f).pendingOutbound = st.pendingOutbound := rfl

theorem dropSub_pending (st : St) (s : Nat) : (st.dropSub s).pendingOutbound = st.pendingOutbound := rfl

theorem attempt_action (L : Limits) (s : Nat) (f : Far) (a : Action) : (attempt L s f a).1.action = a := rfl

theorem attempt_sub (L : Limits) (s : Nat) (f : Far) (a : Action) : (attempt L s f a).1.sub = s := rfl

theorem onCommand_queued {L : Limits} {st : St} {p : Nat} {a x : Action}
    (h : x ∈ (onCommand L st p a).1.queued) : x = a ∨ x ∈ st.queued := by
  unfold onCommand at h
  split at h
  · split at h
    · exact Or.inr h
    · exact (enqueue_queued h :)
  · exact enqueue_queued h

theorem onCommand_attempts {L : Limits} {st : St} {p : Nat} {a : Action} {t : Attempt}
    (h : t ∈ (onCommand L st p a).2.attempts) : ∃ s f, t = (attempt L s f a).1 := by
  unfold onCommand at h
  split at h
  · split at h
    · exact ⟨_, _, List.mem_singleton.1 h⟩
    · rw [Out.append, (enqueue_quiet _ _ _).1, List.append_nil] at h
      exact ⟨_, _, List.mem_singleton.1 h⟩
  · rw [(enqueue_quiet _ _ _).1] at h
    nomatch h

theorem onOutboundSubstream_none {L : Limits} {st : St} {p s : Nat} {f : Far} (hq : alookup p st.pendingOutbound = none) :
    (onOutboundSubstream L st p s f).1.pendingOutbound = st.pendingOutbound ∧
    (onOutboundSubstream L st p s f).2.attempts = [] := by
  unfold onOutboundSubstream
  simp only [hq, and_self]

/-- The queue is taken whole and run on the fresh substream, which is cached iff the run succeeds. -/
theorem onOutboundSubstream_some {L : Limits} {st : St} {p s : Nat} {f : Far} {q : List Action}
    (hq : alookup p st.pendingOutbound = some q) :
    (onOutboundSubstream L st p s f).2.attempts = (runActions L s f q).1 ∧
    (onOutboundSubstream L st p s f).1.pendingOutbound = aerase p st.pendingOutbound ∧
    (alookup p (onOutboundSubstream L st p s f).1.outbound = some s ↔
      alookup p st.outbound = some s ∨ (runActions L s f q).2.2 = true) := by
  unfold onOutboundSubstream
  simp only [hq]
  split
  · rename_i hok
    refine ⟨rfl, rfl, ?_⟩
    simp only [hok, or_true, iff_true]
    exact alookup_ainsert_self _ _ _
  · rename_i hok
    refine ⟨rfl, rfl, ?_⟩
    simp only [hok, Bool.false_eq_true, or_false]

theorem onConnectionEstablished_queued {st : St} {p : Nat} {x : Action}
    (h : x ∈ (onConnectionEstablished st p).1.queued) : x ∈ st.queued := by
  unfold onConnectionEstablished at h
  split at h
  · split at h
    · rename_i st1 s heq
      simp only [St.queued] at h ⊢
      rw [(openSubstream_some heq).1] at h
      exact h
    · exact dropQueue_queued h
  · exact h

theorem onConnectionEstablished_attempts (st : St) (p : Nat) : (onConnectionEstablished st p).2.attempts = [] := by
  unfold onConnectionEstablished
  split
  · split <;> rfl
  · rfl

theorem onConnectionClosed_queued {st : St} {p : Nat} {x : Action}
    (h : x ∈ (onConnectionClosed st p).queued) : x ∈ st.queued :=
  queuedIn_aerase h

theorem onDialFailure_queued {st : St} {p : Nat} {x : Action}
    (h : x ∈ (onDialFailure st p).queued) : x ∈ st.queued := by
  unfold onDialFailure at h
  split at h
  · exact dropQueue_queued h
  · exact h

theorem onSubstreamOpenFailure_queued {st : St} {s : Nat} {x : Action}
    (h : x ∈ (onSubstreamOpenFailure st s).queued) : x ∈ st.queued := by
  unfold onSubstreamOpenFailure at h
  split at h
  · exact h
  · exact dropQueue_queued h

/-- the actions an operation hands to the protocol -/
def handedOf : Op → List Action
  | .command _ a => [a]
  | _ => []

theorem handed_cons (op : Op) (ops : List Op) : handed (op :: ops) = handedOf op ++ handed ops := by
  cases op <;> rfl

def Attempt.WellFormed (L : Limits) (t : Attempt) : Prop :=
  t.written = (actionFrames L t.action).1.take t.written.length ∧
  (t.ok = true → t.written = (actionFrames L t.action).1) ∧
  (t.ok = false → t.written.length < (actionFrames L t.action).1.length ∨ (actionFrames L t.action).2 = false)

theorem timely_le (wt n : Nat) (ds : List Nat) : timely wt ds n ≤ n := by
  fun_induction timely wt ds n with
  | case1 => exact Nat.le_refl _
  | case2 _ _ _ ih => exact Nat.succ_le_succ ih
  | case3 => exact Nat.zero_le _

theorem Far.take_spec (wt : Nat) (f : Far) (n : Nat) :
    (f.take wt n).1 ≤ n ∧ (f.take wt n).2 = ((f.take wt n).1 == n) := by
  have hle := timely_le wt n f.delays
  unfold Far.take
  split
  · exact ⟨hle, rfl⟩
  · split
    · exact ⟨hle, rfl⟩
    · rename_i k _ _
      have hlt : min k (timely wt f.delays n) < n := by omega
      exact ⟨Nat.le_of_lt hlt, (beq_eq_false_iff_ne.2 (Nat.ne_of_lt hlt)).symm⟩

theorem attempt_wf (L : Limits) (s : Nat) (f : Far) (a : Action) : (attempt L s f a).1.WellFormed L := by
  obtain ⟨hle, hok⟩ := Far.take_spec L.writeTimeout f (actionFrames L a).1.length
  refine ⟨?_, fun h => ?_, fun h => ?_⟩
  · simp only [attempt, List.length_take, Nat.min_eq_left hle]
  · simp only [attempt, Bool.and_eq_true, hok, beq_iff_eq] at h ⊢
    rw [h.1, List.take_length]
  · simp only [attempt, Bool.and_eq_false_iff, hok, beq_eq_false_iff_ne] at h ⊢
    refine h.imp_left fun h => ?_
    rw [List.length_take]
    omega

theorem runActions_spec (L : Limits) (s : Nat) (q : List Action) (f : Far) :
    (runActions L s f q).1.map (·.action) = q.take (runActions L s f q).1.length ∧
    (∀ t ∈ (runActions L s f q).1, ∃ a ∈ q, ∃ f', t = (attempt L s f' a).1) ∧
    (∀ t ∈ (runActions L s f q).1.dropLast, t.ok = true) ∧
    ((runActions L s f q).2.2 = true ↔
      ((runActions L s f q).1.length = q.length ∧ ∀ t ∈ (runActions L s f q).1, t.ok = true)) := by
  fun_induction runActions L s f q with
  | case1 f => exact ⟨rfl, nofun, nofun, by simp⟩
  | case2 f a rest hok ih =>
    obtain ⟨i1, i2, i3, i4⟩ := ih
    refine ⟨?_, ?_, fun t ht => ?_, ?_⟩
    · simp only [List.map_cons, List.length_cons, List.take_succ_cons, ← i1, attempt_action]
    · simp only [List.mem_cons, forall_eq_or_imp, exists_eq_or_imp]
      exact ⟨Or.inl ⟨f, rfl⟩, fun t ht => Or.inr (i2 t ht)⟩
    · cases hr : (runActions L s (attempt L s f a).2 rest).1 with
      | nil => rw [hr] at ht; nomatch ht
      | cons y ys =>
        rw [hr, List.dropLast_cons_cons, List.mem_cons] at ht
        rcases ht with rfl | ht
        · exact hok
        · exact i3 t (hr ▸ ht)
    · simp only [List.length_cons, Nat.add_right_cancel_iff, List.mem_cons, forall_eq_or_imp, hok, true_and, i4]
  | case3 f a rest hok =>
    refine ⟨rfl, ?_, nofun, ?_⟩
    · simp only [List.mem_singleton, forall_eq]
      exact ⟨a, List.mem_cons_self, f, rfl⟩
    · simp only [List.mem_singleton, forall_eq, hok]
      exact ⟨nofun, nofun⟩

/-- The operations that neither hand an action over nor reach a handler that touches `pending_outbound`. -/
def Op.quiet : Op → Prop
  | .view _ _ | .conndead _ | .plan _ _ _ _ | .insub _ | .inmsg _ _ | .inhold _ | .inrest _ _ | .inend _ => True
  | _ => False

theorem step_quiet (L : Limits) (st : St) {op : Op} (h : op.quiet) :
    (step L st op).1.pendingOutbound = st.pendingOutbound ∧ (step L st op).2.2.attempts = [] := by
  cases op with
  | view p v => exact ⟨rfl, rfl⟩
  | conndead p => simp only [step]; split <;> exact ⟨rfl, rfl⟩
  | plan s b o ds =>
    simp only [step]
    split
    · exact ⟨rfl, rfl⟩
    · split <;> exact ⟨rfl, rfl⟩
  | insub p => simp only [step]; split <;> exact ⟨rfl, rfl⟩
  | inmsg k d =>
    simp only [step]
    split
    · exact ⟨rfl, rfl⟩
    · split
      · exact ⟨rfl, rfl⟩
      · split <;> exact ⟨rfl, rfl⟩
  | inhold k =>
    simp only [step]
    split
    · exact ⟨rfl, rfl⟩
    · split <;> exact ⟨rfl, rfl⟩
  | inrest k d =>
    simp only [step]
    split
    · exact ⟨rfl, rfl⟩
    · split
      · split <;> exact ⟨rfl, rfl⟩
      · exact ⟨rfl, rfl⟩
  | inend k => simp only [step]; split <;> exact ⟨rfl, rfl⟩
  | _ => exact h.elim

theorem step_spec (L : Limits) (st : St) (op : Op) :
    (∀ x ∈ (step L st op).1.queued, x ∈ st.queued ∨ x ∈ handedOf op) ∧
    (∀ t ∈ (step L st op).2.2.attempts,
      (t.action ∈ st.queued ∨ t.action ∈ handedOf op) ∧ t.WellFormed L) := by
  have quiet (hq : op.quiet) : (∀ x ∈ (step L st op).1.queued, x ∈ st.queued ∨ x ∈ handedOf op) ∧
      (∀ t ∈ (step L st op).2.2.attempts,
        (t.action ∈ st.queued ∨ t.action ∈ handedOf op) ∧ t.WellFormed L) := by
    obtain ⟨hp, ha⟩ := step_quiet L st hq
    rw [ha, St.queued, hp]
    exact ⟨fun x h => Or.inl h, nofun⟩
  cases op with
  | conn p alive =>
    simp only [step]
    split
    · exact ⟨fun x h => Or.inl h, nofun⟩
    · rw [onConnectionEstablished_attempts]
      exact ⟨fun x h => Or.inl (onConnectionEstablished_queued h :), nofun⟩
  | disc p =>
    simp only [step]
    split
    · exact ⟨fun x h => Or.inl h, nofun⟩
    · exact ⟨fun x h => Or.inl (onConnectionClosed_queued h :), nofun⟩
  | dialfail p =>
    simp only [step]
    refine ⟨fun x h => Or.inl ?_, nofun⟩
    have h := onDialFailure_queued h
    split at h <;> exact h
  | subopen s budget off delays =>
    simp only [step]
    split
    · exact ⟨fun x h => Or.inl h, nofun⟩
    · cases hq : alookup _ (St.pendingOutbound { st with opens := aerase s st.opens }) with
      | none =>
        obtain ⟨hp, ha⟩ := onOutboundSubstream_none (L := L) (s := s) (f := ⟨budget, off, false, delays⟩) hq
        rw [St.queued, hp, ha]
        exact ⟨fun x h => Or.inl h, nofun⟩
      | some q =>
        obtain ⟨ha, hp, _⟩ := onOutboundSubstream_some (L := L) (s := s) (f := ⟨budget, off, false, delays⟩) hq
        rw [St.queued, hp, ha]
        refine ⟨fun x h => Or.inl (queuedIn_aerase h), fun t ht => ?_⟩
        obtain ⟨a, ha, f', rfl⟩ := (runActions_spec L _ q _).2.1 t ht
        exact ⟨Or.inl (queued_of_alookup hq ha), attempt_wf L _ f' a⟩
  | subfail s =>
    simp only [step]
    split
    · exact ⟨fun x h => Or.inl h, nofun⟩
    · exact ⟨fun x h => Or.inl (onSubstreamOpenFailure_queued h :), nofun⟩
  | command p a =>
    simp only [step]
    refine ⟨fun x h => (onCommand_queued h).symm.imp_right List.mem_singleton.2, fun t h => ?_⟩
    obtain ⟨s, f, rfl⟩ := onCommand_attempts h
    exact ⟨Or.inr (List.mem_singleton.2 rfl), attempt_wf L s f a⟩
  | _ => exact quiet trivial

theorem run_spec (L : Limits) : ∀ (ops : List Op) (st : St) (t : Attempt),
    t ∈ (run L st ops).2 → (t.action ∈ st.queued ∨ t.action ∈ handed ops) ∧ t.WellFormed L := by
  intro ops
  induction ops with
  | nil => exact fun st t h => nomatch h
  | cons op ops ih =>
    intro st t h
    obtain ⟨hq, ha⟩ := step_spec L st op
    rw [handed_cons]
    rcases List.mem_append.1 h with h | h
    · exact ⟨(ha t h).1.imp_right (List.mem_append_left _), (ha t h).2⟩
    · refine ⟨?_, (ih _ t h).2⟩
      rcases (ih _ t h).1 with h | h
      · exact (hq _ h).imp_right (List.mem_append_left _)
      · exact Or.inr (List.mem_append_right _ h)

/-! ## time: each frame has its own `WRITE_TIMEOUT`, nothing bounds the whole -/

/-- A slow but healthy link: the far end refuses nothing and takes at most `wt` for every frame. -/
def Far.Timely (wt : Nat) (f : Far) : Prop := f.budget = none ∧ ∀ d ∈ f.delays, d ≤ wt

theorem delayHead_le {wt : Nat} {ds : List Nat} (h : ∀ d ∈ ds, d ≤ wt) : delayHead ds ≤ wt := by
  cases ds with
  | nil => simp [delayHead]
  | cons d t => exact h d (by simp)

theorem mem_delayTail {d : Nat} {ds : List Nat} (h : d ∈ delayTail ds) : d ∈ ds := by
  match ds, h with
  | [x], h => simpa [delayTail] using h
  | _ :: _ :: _, h => exact List.mem_cons_of_mem _ (by simpa [delayTail] using h)

theorem mem_delaysAfter {d : Nat} : ∀ (n : Nat) {ds : List Nat}, d ∈ delaysAfter n ds → d ∈ ds := by
  intro n
  induction n with
  | zero => intro ds h; simpa [delaysAfter] using h
  | succ n ih => intro ds h; exact mem_delayTail (ih (by simpa [delaysAfter] using h))

theorem timely_all {wt : Nat} (n : Nat) {ds : List Nat} (h : ∀ d ∈ ds, d ≤ wt) : timely wt ds n = n := by
  fun_induction timely wt ds n with
  | case1 => rfl
  | case2 ds n _ ih => rw [ih fun d hd => h d (mem_delayTail hd)]
  | case3 ds n hd => exact absurd (delayHead_le h) hd

/-- the first frame slower than the timeout ends the call: exactly the frames before it are accepted -/
theorem timely_late {wt : Nat} : ∀ (j : Nat) {ds : List Nat} {n : Nat}, timely wt ds j = j →
    wt < delayHead (delaysAfter j ds) → j < n → timely wt ds n = j := by
  intro j
  induction j with
  | zero =>
    intro ds n _ hl hn
    cases n with
    | zero => omega
    | succ n =>
      unfold timely
      simp only [delaysAfter] at hl
      rw [if_neg (by omega)]
  | succ j ih =>
    intro ds n hj hl hn
    cases n with
    | zero => omega
    | succ n =>
      unfold timely at hj ⊢
      split at hj
      · rename_i hd
        rw [if_pos hd, ih (by omega) (by simpa [delaysAfter] using hl) (by omega)]
      · omega

theorem Far.take_timely {wt : Nat} {f : Far} (h : f.Timely wt) (n : Nat) : f.take wt n = (n, true) := by
  unfold Far.take
  rw [h.1]
  simp only [timely_all n h.2, beq_self_eq_true]

theorem Far.after_timely {wt : Nat} {f : Far} (h : f.Timely wt) (n : Nat) : (f.after wt n).Timely wt := by
  have hb := h.1
  unfold Far.after
  split
  · exact ⟨hb, fun d hd => h.2 d (mem_delaysAfter _ hd)⟩
  · rename_i k hk
    rw [hb] at hk
    cases hk

/-- `send_*` over a slow but healthy link: every frame of the action is written, the call returns what
the codec says, the time is the sum of the frames' times — no bound on it —, and the link stays as it is. -/
theorem attempt_timely (L : Limits) (s : Nat) (f : Far) (a : Action) (h : f.Timely L.writeTimeout) :
    (attempt L s f a).1.written = (actionFrames L a).1 ∧
    (attempt L s f a).1.ok = (actionFrames L a).2 ∧
    (attempt L s f a).1.partialBytes = 0 ∧
    (attempt L s f a).1.elapsed = elapsedOf f.delays (actionFrames L a).1.length ∧
    (attempt L s f a).2.Timely L.writeTimeout := by
  refine ⟨?_, ?_, ?_, ?_, Far.after_timely h _⟩
  · simp only [attempt, Far.take_timely h, List.take_length]
  · simp only [attempt, Far.take_timely h, Bool.true_and]
  · simp only [attempt, Far.partialOf, h.1]
  · simp only [attempt, Far.take_timely h]

/-- the loop of `on_outbound_substream` over a slow but healthy link: every queued action is sent
completely, in order -/
theorem runActions_timely (L : Limits) (s : Nat) (q : List Action) (f : Far) (hf : f.Timely L.writeTimeout)
    (hc : ∀ a ∈ q, (actionFrames L a).2 = true) :
    (runActions L s f q).1.map (fun t => (t.action, t.written, t.ok)) =
      q.map (fun a => (a, (actionFrames L a).1, true)) ∧
    (runActions L s f q).2.2 = true := by
  fun_induction runActions L s f q with
  | case1 f => exact ⟨rfl, rfl⟩
  | case2 f a rest hok ih =>
    obtain ⟨h1, _, _, _, h5⟩ := attempt_timely L s f a hf
    obtain ⟨i1, i2⟩ := ih h5 fun b hb => hc b (List.mem_cons_of_mem _ hb)
    refine ⟨?_, i2⟩
    simp only [List.map_cons, i1, h1, hok]
    rfl
  | case3 f a rest hok =>
    rw [(attempt_timely L s f a hf).2.1, hc a List.mem_cons_self] at hok
    exact absurd rfl hok

/-- `enqueue`: afterwards the action is the last of the peer's queue, unless no substream can be had
at all (`open_substream` failed and `dial` answered `AlreadyConnected` or an error): then the peer's
whole queue is dropped. -/
theorem enqueue_lookup (st : St) (p : Nat) (a : Action) :
    (∃ q, alookup p (enqueue st p a).1.pendingOutbound = some (q ++ [a])) ∨
    (alookup p (enqueue st p a).1.pendingOutbound = none ∧
      openSubstream { st with pendingOutbound := ainsert p [a] st.pendingOutbound } p = none ∧
      (dialResult { st with pendingOutbound := ainsert p [a] st.pendingOutbound } p = .alreadyConnected ∨
       dialResult { st with pendingOutbound := ainsert p [a] st.pendingOutbound } p = .error)) := by
  unfold enqueue
  split
  · rename_i x xs heq
    left
    exact ⟨x :: xs, alookup_ainsert_self _ _ _⟩
  · rcases (openSubstreamOrDial_spec { st with pendingOutbound := ainsert p [a] st.pendingOutbound } p).2.2 with
      e | ⟨e, hn⟩ <;> rw [e]
    · exact Or.inl ⟨[], alookup_ainsert_self _ _ _⟩
    · exact Or.inr ⟨alookup_aerase_self _ _, hn⟩

end Litep2pVerif.Bitswap.Proto
