import Litep2pVerif.Model.Bitswap.Batch
import Litep2pVerif.Proofs.Common.List
/-! The block loop of `send_response` (C20), over any `Sized` / `PSized` and any limits (Props/C20 puts in the node's
constants): the planned batches partition the fitting blocks, how large an encoded batch can be, and what `send_response`
writes under limits where every batch is sent. -/
namespace Litep2pVerif.Bitswap

variable {β : Type} (S : Sized β) (m cap : Nat)

def Sized.fits (S : Sized β) (m : Nat) (b : β) : Bool := decide (S.dataLen b ≤ m)

theorem dropOversized_spec (l : List β) :
    (dropOversized S m l).filter (S.fits m) = l.filter (S.fits m) ∧
    (dropOversized S m l).length ≤ l.length ∧ ∀ b ∈ (dropOversized S m l).head?, S.dataLen b ≤ m := by
  fun_induction dropOversized S m l with
  | case1 => exact ⟨rfl, Nat.le_refl _, nofun⟩
  | case2 b rest h ih =>
    have : S.fits m b = false := decide_eq_false (by omega)
    rw [List.filter_cons, this]
    exact ⟨ih.1, Nat.le_succ_of_le ih.2.1, ih.2.2⟩
  | case3 b rest h => exact ⟨rfl, Nat.le_refl _, fun x hx => by cases hx; omega⟩

/-- `k`: the longest prefix within both limits (last conjunct: one more block would exceed one of them). `t` and `c`, the
loop's accumulators, are arbitrary for the induction, so the two bounds are claimed only when they hold on entry. -/
theorem countFit_spec (l : List β) (t c : Nat) : ∃ k, countFit S m cap l t c = c + k ∧ k ≤ l.length ∧
    (c ≤ cap → c + k ≤ cap) ∧ (t ≤ m → t + ((l.take k).map S.dataLen).sum ≤ m) ∧
    (k < l.length → c + k = cap ∨ m < t + ((l.take (k + 1)).map S.dataLen).sum) := by
  fun_induction countFit S m cap l t c with
  | case1 => exact ⟨0, rfl, Nat.zero_le _, id, id, nofun⟩
  | case2 b rest t c h => exact ⟨0, rfl, Nat.zero_le _, id, id, fun _ => .inr (by simpa using h)⟩
  | case3 => exact ⟨0, rfl, Nat.zero_le _, id, id, fun _ => .inl rfl⟩
  | case4 b rest t c _ _ ih =>
    obtain ⟨k, hk, hlen, hcap, hsum, hmax⟩ := ih
    refine ⟨k + 1, by omega, Nat.succ_le_succ hlen, by omega, fun _ => ?_, fun h => ?_⟩
    · rw [List.take_succ_cons, List.map_cons, List.sum_cons]
      have := hsum (by omega)
      omega
    · rw [List.take_succ_cons, List.map_cons, List.sum_cons]
      have := hmax (Nat.lt_of_succ_lt_succ h)
      omega

theorem extract_none {blocks : List β} (h : extractNextBatch S m cap blocks = none) :
    blocks.filter (S.fits m) = [] := by
  unfold extractNextBatch at h
  split at h
  · rename_i hd
    rw [← (dropOversized_spec S m blocks).1, hd]; rfl
  · simp at h

theorem extract_some {blocks batch rest : List β} (hcap : 1 ≤ cap)
    (h : extractNextBatch S m cap blocks = some (batch, rest)) :
    batch ≠ [] ∧ (batch.map S.dataLen).sum ≤ m ∧ batch.length ≤ cap ∧
    batch ++ rest.filter (S.fits m) = blocks.filter (S.fits m) ∧ rest.length < blocks.length := by
  unfold extractNextBatch at h
  split at h
  · simp at h
  · rename_i b tl hd
    obtain ⟨hfilter, hdl, hhead⟩ := dropOversized_spec S m blocks
    rw [hd] at hfilter hdl hhead
    obtain ⟨n, hn, hlen, hle, hsum, hmax⟩ := countFit_spec S m cap (b :: tl) 0 0
    rw [hn, Nat.zero_add] at h
    rw [Nat.zero_add] at hsum hle
    obtain ⟨rfl, rfl⟩ := h
    replace hsum := hsum (Nat.zero_le _)
    -- the longest prefix within both limits has at least the head, which is within them
    have hpos : n ≠ 0 := fun h0 => by
      have := hhead b rfl
      have := hmax (h0 ▸ Nat.succ_pos _)
      rw [h0] at this
      change _ ∨ m < 0 + (S.dataLen b + 0) at this
      omega
    refine ⟨?_, hsum, ?_, ?_, ?_⟩
    · intro h0
      have : ((b :: tl).take n).length = 0 := by rw [h0]; rfl
      rw [List.length_take] at this
      omega
    · rw [List.length_take]
      have := hle (Nat.zero_le _)
      omega
    · rw [← hfilter]
      conv => rhs; rw [← List.take_append_drop n (b :: tl), List.filter_append]
      rw [(List.filter_eq_self (p := S.fits m)).mpr fun x hx =>
        decide_eq_true (Nat.le_trans (le_sum_map_of_mem S.dataLen _ x hx) hsum)]
    · rw [List.length_drop]
      omega

theorem extract_all {blocks : List β} (hne : blocks ≠ []) (hsum : (blocks.map S.dataLen).sum ≤ m)
    (hlen : blocks.length ≤ cap) : extractNextBatch S m cap blocks = some (blocks, []) := by
  obtain ⟨b, tl, rfl⟩ := List.exists_cons_of_ne_nil hne
  obtain ⟨k, hk, hkl, _, _, hmax⟩ := countFit_spec S m cap (b :: tl) 0 0
  have hall : k = (b :: tl).length := by
    refine Nat.le_antisymm hkl (Nat.le_of_not_lt fun h => ?_)
    have := sum_map_take_le S.dataLen (b :: tl) (k + 1)
    have := hmax h
    omega
  have hd : ¬ S.dataLen b > m := by
    rw [List.map_cons, List.sum_cons] at hsum
    omega
  simp only [extractNextBatch, dropOversized, if_neg hd, hk, hall, Nat.zero_add, List.take_length, List.drop_length]

theorem mkStep_batch (maxMsg : Nat) (batch : List β) : (mkStep S maxMsg batch).batch = batch := by
  unfold mkStep; split <;> rfl

theorem mkStep_sent (maxMsg : Nat) (batch : List β) :
    (mkStep S maxMsg batch).sent = match blocksMessageLen S batch with
      | none => false
      | some len => decide (len ≤ maxMsg) := by
  unfold mkStep
  split <;> rename_i h <;> rw [h]

theorem sendLoop_spec (hcap : 1 ≤ cap) (maxMsg fuel : Nat) (blocks : List β) (hlen : blocks.length < fuel) :
    (sendLoop S m cap maxMsg fuel blocks).2 = true ∧
    ((sendLoop S m cap maxMsg fuel blocks).1.map (·.batch)).flatten = blocks.filter (S.fits m) ∧
    ∀ st ∈ (sendLoop S m cap maxMsg fuel blocks).1,
      st.batch ≠ [] ∧ (st.batch.map S.dataLen).sum ≤ m ∧ st.batch.length ≤ cap ∧
      st = mkStep S maxMsg st.batch := by
  fun_induction sendLoop S m cap maxMsg fuel blocks with
  | case1 => omega
  | case2 fuel blocks hn => exact ⟨rfl, by simp [extract_none S m cap hn], nofun⟩
  | case3 fuel blocks batch rest hs ih =>
    obtain ⟨hne, hsum, hl, hpart, hlt⟩ := extract_some S m cap hcap hs
    obtain ⟨i1, i2, i3⟩ := ih (by omega)
    refine ⟨i1, ?_, fun st hst => ?_⟩
    · simp only [List.map_cons, List.flatten_cons, i2, mkStep_batch, hpart]
    · rcases List.mem_cons.1 hst with rfl | hst
      · rw [mkStep_batch]
        exact ⟨hne, hsum, hl, rfl⟩
      · exact i3 st hst

theorem pbVarintLen_small {n : Nat} (h : n < 128) : pbVarintLen n = 1 := by
  simp [pbVarintLen, h]

/-- `268435456 = 2^28`, the first length whose varint takes five bytes. -/
theorem pbVarintLen_le4 {n : Nat} (h : n < 268435456) : pbVarintLen n ≤ 4 := by
  simp only [pbVarintLen, h, if_true]
  repeat' split
  all_goals decide

theorem le_ite {c : Prop} [Decidable c] {a x y : Nat} (hx : a ≤ x) (hy : a ≤ y) : a ≤ if c then x else y := by
  split <;> assumption

theorem pbVarintLen_pos (n : Nat) : 1 ≤ pbVarintLen n := by
  unfold pbVarintLen
  iterate 9 refine le_ite (by decide) ?_
  decide

theorem blockEntryLen_le {p d : Nat} (hp : p ≤ 23) (hd : d + 30 < 268435456) :
    blockEntryLen p d ≤ 35 + d := by
  have hbody : blockBodyLen p d ≤ 30 + d := by
    unfold blockBodyLen pbBytesField
    have h1 := pbVarintLen_small (n := p) (by omega)
    have h2 := pbVarintLen_le4 (n := d) (by omega)
    split <;> split <;> omega
  unfold blockEntryLen
  have := pbVarintLen_le4 (n := blockBodyLen p d) (by omega)
  omega

theorem entries_sum_le (batch : List β)
    (h : ∀ b ∈ batch, S.prefixLen b ≤ 23 ∧ S.dataLen b + 30 < 268435456) :
    (batch.map S.entryLen).sum ≤ 35 * batch.length + (batch.map S.dataLen).sum := by
  induction batch with
  | nil => simp
  | cons b rest ih =>
    have hb := h b (by simp)
    have := blockEntryLen_le hb.1 hb.2
    have := ih (fun x hx => h x (by simp [hx]))
    simp only [List.map_cons, List.sum_cons, List.length_cons, Sized.entryLen] at *
    omega

/-- The batching counts data bytes only; the overhead (35 bytes per block, `blockEntryLen_le`, and 2 for the empty
`wantlist`) is bounded through the number of blocks. `m + 30 < 2^28` keeps every length varint at four bytes at most: 30 is
what the body of one entry has beside its data (1 + 1 + 23 for the prefix field, 1 + 4 for the header of the data field). -/
theorem blocksMessageLen_le {maxMsg n : Nat} {batch : List β} (hp : ∀ b ∈ batch, S.prefixLen b ≤ 23)
    (hsum : (batch.map S.dataLen).sum ≤ m) (hlen : batch.length ≤ n) (hm : m + 30 < 268435456)
    (hbound : m + 35 * n + 2 ≤ maxMsg) {len : Nat} (henc : blocksMessageLen S batch = some len) : len ≤ maxMsg := by
  unfold blocksMessageLen at henc
  split at henc
  · cases henc
  · cases henc
    have := entries_sum_le S batch (fun b hb =>
      ⟨hp b hb, by have := le_sum_map_of_mem S.dataLen _ b hb; omega⟩)
    have : 35 * batch.length ≤ 35 * n := Nat.mul_le_mul_left 35 hlen
    omega

theorem blocksMessageLen_of_ne_nil {batch : List β} (h : batch ≠ []) :
    blocksMessageLen S batch = some (2 + (batch.map S.entryLen).sum) :=
  if_neg (by simpa using h)

/-- `hm`, `hbound`: limits under which every batch fits a message; `hp`: what `toPrefix_length_le` gives for a CID. -/
theorem sendResponse_sent (hcap : 1 ≤ cap) {maxMsg : Nat} (hm : m + 30 < 268435456)
    (hbound : m + 35 * cap + 2 ≤ maxMsg) (blocks : List β) (hp : ∀ b ∈ blocks, S.prefixLen b ≤ 23) :
    (∀ st ∈ (sendResponse S m cap maxMsg blocks).1, ∃ len, st.enc = some len ∧ len ≤ maxMsg ∧ st.sent = true) ∧
    (sendResponse S m cap maxMsg blocks).2 = true ∧
    (sentBatches (sendResponse S m cap maxMsg blocks).1).flatten = blocks.filter (S.fits m) := by
  obtain ⟨hterm, hflat, hall⟩ := sendLoop_spec S m cap hcap maxMsg (blocks.length + 1) blocks (Nat.lt_succ_self _)
  have hsent : ∀ st ∈ (sendResponse S m cap maxMsg blocks).1,
      ∃ len, st.enc = some len ∧ len ≤ maxMsg ∧ st.sent = true := by
    intro st hst
    obtain ⟨hne, hsum, hlen, hmk⟩ := hall st hst
    have hsub : ∀ b ∈ st.batch, S.prefixLen b ≤ 23 := fun b hb => hp b
      (List.mem_filter.1 (hflat ▸ List.mem_flatten.2 ⟨st.batch, List.mem_map_of_mem hst, hb⟩)).1
    have henc := blocksMessageLen_of_ne_nil S hne
    have hle := blocksMessageLen_le S m hsub hsum hlen hm hbound henc
    rw [hmk, mkStep, henc]
    exact ⟨_, rfl, hle, decide_eq_true hle⟩
  refine ⟨hsent, hterm, ?_⟩
  rw [sentBatches, List.filter_eq_self.2 fun st hst => have ⟨_, _, _, h⟩ := hsent st hst; h]
  exact hflat

theorem sendResponse_single (maxMsg : Nat) {blocks : List β} (hne : blocks ≠ [])
    (hsum : (blocks.map S.dataLen).sum ≤ m) (hlen : blocks.length ≤ cap) :
    sendResponse S m cap maxMsg blocks = ([mkStep S maxMsg blocks], true) := by
  have he := extract_all S m cap hne hsum hlen
  obtain ⟨b, tl, rfl⟩ := List.exists_cons_of_ne_nil hne
  simp only [sendResponse, List.length_cons, sendLoop, he]
  rfl

theorem sendResponse_replicate (maxMsg n : Nat) (b : β) (hn : 1 ≤ n)
    (h1 : n * S.dataLen b ≤ m) (h2 : n ≤ cap) :
    sendResponse S m cap maxMsg (List.replicate n b) =
      ([⟨List.replicate n b, some (2 + n * S.entryLen b), decide (2 + n * S.entryLen b ≤ maxMsg)⟩], true) := by
  have hne : List.replicate n b ≠ [] := fun h => by rw [List.replicate_eq_nil_iff] at h; omega
  rw [sendResponse_single S m cap maxMsg hne (by rwa [List.map_replicate, List.sum_replicate_nat])
    (by rwa [List.length_replicate]), mkStep, blocksMessageLen_of_ne_nil S hne, List.map_replicate,
    List.sum_replicate_nat]

variable {π : Type}

/-- `hcodec`: the codec accepts everything the size guard lets through, so no write fails. -/
theorem respondLoop_spec (maxMsg codecMax : Nat) (hcodec : maxMsg ≤ codecMax) (fuel : Nat) (blocks : List β) :
    blockBatches (respondLoop π S m cap maxMsg codecMax fuel blocks).1 =
      sentBatches (sendLoop S m cap maxMsg fuel blocks).1 ∧
    (respondLoop π S m cap maxMsg codecMax fuel blocks).2 =
      (if (sendLoop S m cap maxMsg fuel blocks).2 then SendResult.ok else SendResult.outOfFuel) := by
  fun_induction respondLoop π S m cap maxMsg codecMax fuel blocks with
  | case1 blocks => exact ⟨rfl, rfl⟩
  | case2 fuel blocks hn => simp only [sendLoop, hn]; exact ⟨rfl, rfl⟩
  | case3 fuel blocks batch rest hs hn ih =>
    simp only [sendLoop, hs]
    refine ⟨?_, ih.2⟩
    simp only [ih.1, sentBatches, List.filter_cons, mkStep_sent, hn, Bool.false_eq_true, if_false]
  | case4 fuel blocks batch rest hs len hl hle hw ih =>
    simp only [sendLoop, hs]
    refine ⟨?_, ih.2⟩
    simp only [blockBatches, ih.1, sentBatches, List.filter_cons, mkStep_sent, hl, decide_eq_true hle, if_true,
      List.map_cons, mkStep_batch]
  | case5 fuel blocks batch rest hs len hl hle hw =>
    exact absurd (decide_eq_true (Nat.le_trans hle hcodec)) hw
  | case6 fuel blocks batch rest hs len hl hle ih =>
    simp only [sendLoop, hs]
    refine ⟨?_, ih.2⟩
    simp only [ih.1, sentBatches, List.filter_cons, mkStep_sent, hl, decide_eq_false hle, Bool.false_eq_true, if_false]

theorem respondLoop_frames (maxMsg codecMax fuel : Nat) (blocks : List β) :
    ∀ f ∈ (respondLoop π S m cap maxMsg codecMax fuel blocks).1,
      f.len ≤ maxMsg ∧ ∃ batch, f = Frame.blocks batch f.len ∧ blocksMessageLen S batch = some f.len := by
  fun_induction respondLoop π S m cap maxMsg codecMax fuel blocks with
  | case1 | case2 | case5 => nofun
  | case3 _ _ _ _ _ _ ih | case6 _ _ _ _ _ _ _ _ ih => exact ih
  | case4 _ _ batch _ _ len hl hle _ ih =>
    intro f hf
    rcases List.mem_cons.1 hf with rfl | hf
    · exact ⟨hle, batch, rfl, hl⟩
    · exact ih f hf

theorem blocksOf_map_block (l : List β) : blocksOf (l.map (Entry.block (π := π))) = l := by
  induction l with
  | nil => rfl
  | cons b rest ih => simp only [List.map_cons, blocksOf, ih]

theorem presencesOf_map_block (l : List β) : presencesOf (l.map (Entry.block (π := π))) = [] := by
  induction l with
  | nil => rfl
  | cons b rest ih => simp only [List.map_cons, presencesOf, ih]

theorem respond_blocks_only (P : PSized π) (maxMsg codecMax : Nat) (l : List β) :
    respond P S m cap maxMsg codecMax (l.map Entry.block) =
      respondLoop π S m cap maxMsg codecMax (l.length + 1) l := by
  unfold respond
  rw [presencesOf_map_block, blocksOf_map_block]
  rfl

/-- Left: no presence, or a presence message above `maxMsg` (skipped); last: the presence write rejected, nothing sent. -/
theorem respond_cases (P : PSized π) (maxMsg codecMax : Nat) (entries : List (Entry π β)) :
    respond P S m cap maxMsg codecMax entries =
      respondLoop π S m cap maxMsg codecMax ((blocksOf entries).length + 1) (blocksOf entries) ∨
    ∃ len, presencesMessageLen P (presencesOf entries) = some len ∧ len ≤ maxMsg ∧
      (len ≤ codecMax ∧ respond P S m cap maxMsg codecMax entries =
        (Frame.presences (presencesOf entries) len ::
          (respondLoop π S m cap maxMsg codecMax ((blocksOf entries).length + 1) (blocksOf entries)).1,
         (respondLoop π S m cap maxMsg codecMax ((blocksOf entries).length + 1) (blocksOf entries)).2) ∨
       codecMax < len ∧ respond P S m cap maxMsg codecMax entries = ([], SendResult.writeError)) := by
  unfold respond
  split
  · exact .inl rfl
  · rename_i len hl
    by_cases hle : len ≤ maxMsg
    · by_cases hc : len ≤ codecMax
      · exact .inr ⟨len, hl, hle, .inl ⟨hc, by simp [hle, sendFramed, hc]⟩⟩
      · exact .inr ⟨len, hl, hle, .inr ⟨by omega, by simp [hle, sendFramed, hc]⟩⟩
    · exact .inl (by simp [hle])

theorem respond_presence (P : PSized π) (maxMsg codecMax : Nat) (entries : List (Entry π β)) (ps : List π) (len : Nat)
    (h : Frame.presences ps len ∈ (respond P S m cap maxMsg codecMax entries).1) :
    len ≤ maxMsg ∧ ps = presencesOf entries ∧ ps ≠ [] ∧ presencesMessageLen P ps = some len ∧
    ∃ rest, (respond P S m cap maxMsg codecMax entries).1 = Frame.presences ps len :: rest ∧
      ∀ f ∈ rest, ∃ batch l, f = Frame.blocks batch l := by
  have hblk := respondLoop_frames (π := π) S m cap maxMsg codecMax ((blocksOf entries).length + 1) (blocksOf entries)
  have hno := fun hmem => (nomatch hblk (Frame.presences ps len) hmem : False)
  rcases respond_cases S m cap P maxMsg codecMax entries with he | ⟨l, hl, hle, ⟨_, he⟩ | ⟨_, he⟩⟩ <;> rw [he] at h ⊢
  · exact absurd h hno
  · rcases List.mem_cons.1 h with h | h
    · cases h
      refine ⟨hle, rfl, fun h0 => ?_, hl, _, rfl, fun f hf => have ⟨_, batch, h, _⟩ := hblk f hf; ⟨batch, _, h⟩⟩
      rw [h0] at hl
      cases hl
    · exact absurd h hno
  · nomatch h

/-- `hcodec` as in `respondLoop_spec`: the loop writes what the plan marks as sent; `hm`, `hbound`, `hp` as in
`sendResponse_sent`: the plan sends every batch. -/
theorem respond_spec (P : PSized π) (hcap : 1 ≤ cap) {maxMsg codecMax : Nat} (hcodec : maxMsg ≤ codecMax)
    (hm : m + 30 < 268435456) (hbound : m + 35 * cap + 2 ≤ maxMsg) (entries : List (Entry π β))
    (hp : ∀ b ∈ blocksOf entries, S.prefixLen b ≤ 23) :
    (respond P S m cap maxMsg codecMax entries).2 = SendResult.ok ∧
    (∃ pre, (respond P S m cap maxMsg codecMax entries).1 =
        pre ++ (respond P S m cap maxMsg codecMax ((blocksOf entries).map Entry.block)).1 ∧
      (pre = [] ∨ ∃ len, pre = [Frame.presences (presencesOf entries) len])) ∧
    (blockBatches (respond P S m cap maxMsg codecMax entries).1).flatten = (blocksOf entries).filter (S.fits m) ∧
    ∀ f ∈ (respond P S m cap maxMsg codecMax entries).1, f.len ≤ maxMsg := by
  obtain ⟨i1, i2⟩ := respondLoop_spec (π := π) S m cap maxMsg codecMax hcodec ((blocksOf entries).length + 1)
    (blocksOf entries)
  have i3 := fun f hf =>
    (respondLoop_frames (π := π) S m cap maxMsg codecMax ((blocksOf entries).length + 1) (blocksOf entries) f hf).1
  obtain ⟨_, hterm, hflat⟩ := sendResponse_sent S m cap hcap hm hbound (blocksOf entries) hp
  unfold sendResponse at hterm hflat
  rw [hterm, if_pos rfl] at i2
  replace i1 := (congrArg List.flatten i1).trans hflat
  rw [respond_blocks_only]
  rcases respond_cases S m cap P maxMsg codecMax entries with he | ⟨l, _, hle, ⟨_, he⟩ | ⟨hgt, _⟩⟩
  · rw [he]; exact ⟨i2, ⟨[], rfl, .inl rfl⟩, i1, i3⟩
  · rw [he]
    exact ⟨i2, ⟨[_], rfl, .inr ⟨l, rfl⟩⟩, i1, fun f hf => (List.mem_cons.1 hf).elim (fun e => e ▸ hle) (i3 f)⟩
  · omega

end Litep2pVerif.Bitswap
