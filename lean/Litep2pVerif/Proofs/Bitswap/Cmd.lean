import Litep2pVerif.Model.Bitswap.Cmd
import Litep2pVerif.Proofs.Kad.Events
/-! The schedule behind the bitswap command channel (`Model/Bitswap/Cmd.lean`): events pushed while the loop is not
polled and drained afterwards (`heldThenDrained`, for any payload type), as a schedule of the bounded channel of
`Proofs/Kad/Events.lean`. -/
namespace Litep2pVerif.Bitswap.Cmd
open Litep2pVerif.Bitswap Litep2pVerif.Bitswap.Proto Litep2pVerif.Kad.Events

variable {α : Type}

theorem pushed_eq (es : List α) (c : Chan α) :
    es.foldl (fun c e => (c.emit e).runOne) c =
      (es.flatMap fun e => [Kad.Events.Step.emit e, .run]).foldl Chan.step c := by
  rw [List.foldl_flatMap]; rfl

theorem emitted_pushed (es : List α) : emitted (es.flatMap fun e => [Kad.Events.Step.emit e, .run]) = es := by
  induction es with
  | nil => rfl
  | cons e r ih => simp only [List.flatMap_cons, List.cons_append, List.nil_append, emitted, ih]

/-- Whatever the capacity (at least 1), the consumer that keeps reading receives exactly what was pushed, in order. -/
theorem heldThenDrained_got (cap : Nat) (hcap : 0 < cap) (es : List α) :
    (heldThenDrained ({ cap := cap } : Chan α) es).got = es ∧
    (heldThenDrained ({ cap := cap } : Chan α) es).pending = 0 := by
  unfold heldThenDrained
  simp only [pushed_eq]
  obtain ⟨h0, hg⟩ := drain_all _ _ (steps_wf (es.flatMap fun e => [Kad.Events.Step.emit e, .run])
    (fresh_wf (α := α) cap hcap)) (Nat.le_succ _)
  refine ⟨?_, h0⟩
  rw [hg, steps_all, emitted_pushed]
  simp [Chan.all]

end Litep2pVerif.Bitswap.Cmd
