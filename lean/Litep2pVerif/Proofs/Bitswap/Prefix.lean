import Litep2pVerif.Model.Bitswap.Prefix
import Litep2pVerif.Proofs.Id.Groups
import Mathlib.Tactic.Ring
/-! The bitswap CID prefix (C20): the unsigned-varint codec round-trips for every `u64` (`uvarDec_enc`), a prefix
has at most 23 bytes (`toPrefix_length_le`), and what `block_to_response` delivers (`blockToResponse_some`). -/
namespace Litep2pVerif.Bitswap

theorem uvarEncAux_eq (f n : Nat) (h : (Groups.enc n).length ≤ f) : uvarEncAux f n = Groups.enc n :=
  (Groups.enc_loop (byte := id) (L := uvarEncAux) (fun _ _ => rfl) f n h).trans (List.map_id _)

theorem uvarDec_enc (n : Nat) (rest : Bytes) (h : n < 2 ^ 64) :
    uvarDec (uvarEnc n ++ rest) = .ok (n, rest) := by
  rw [uvarEnc, uvarEncAux_eq 10 n (Groups.enc_length_le (Nat.lt_of_lt_of_le h (by decide)) (by decide))]
  simpa [uvarDec] using Groups.decode_enc (byte := fun b => b) (D := uvarDecAux) (ret := fun v r => .ok (v, r))
    (bits := 64) (maxBytes := 9) (by decide)
    (fun i acc b rest _ _ hb hz hfit => by
      rw [Nat.mul_comm 7 i] at hfit ⊢
      rw [uvarDecAux, if_pos hb, if_neg (fun h => hz h.2 h.1), uvarAcc, Nat.mod_eq_of_lt hb, Nat.mod_eq_of_lt hfit])
    (fun i acc g rest hi _ hg hfit => by
      rw [Nat.mul_comm 7 i] at hfit ⊢
      rw [uvarDecAux, if_neg (by omega), if_neg (by omega), uvarAcc, Nat.add_mod_right, Nat.mod_eq_of_lt hg,
        Nat.mod_eq_of_lt hfit])
    h rest

theorem uvarDec_enc_nil (n : Nat) (h : n < 2 ^ 64) : uvarDec (uvarEnc n) = .ok (n, []) := by
  simpa using uvarDec_enc n [] h

theorem uvarEncAux_length_le (f n : Nat) : (uvarEncAux f n).length ≤ f := by
  induction f generalizing n with
  | zero => simp [uvarEncAux]
  | succ k ih =>
    unfold uvarEncAux
    split
    · simp
    · simp only [List.length_cons]; have := ih (n / 128); omega

theorem uvarEnc_length_le (n : Nat) : (uvarEnc n).length ≤ 10 := uvarEncAux_length_le 10 n

theorem uvarEnc_length_of_lt (k : Nat) {n : Nat} (hn : n < 128 ^ k) (hk : 0 < k) (hk' : k ≤ 10) : (uvarEnc n).length ≤ k := by
  have := Groups.enc_length_le hn hk
  rwa [uvarEnc, uvarEncAux_eq 10 n (Nat.le_trans this hk')]

/-- 23 = 1 + 10 + 10 + 2 (version, codec, hash code, digest length). -/
theorem toPrefix_length_le (c : Cid) (hv : c.version ≤ 1) (hd : c.digest.length ≤ 255) :
    c.toPrefix.toBytes.length ≤ 23 := by
  simp only [Cid.toPrefix, Prefix.toBytes, List.length_append]
  have h1 := uvarEnc_length_of_lt 1 (n := c.version) (by omega) (by decide) (by decide)
  have h2 := uvarEnc_length_le c.codec
  have h3 := uvarEnc_length_le c.hashCode
  have h4 := uvarEnc_length_of_lt 2 (n := c.digest.length) (by omega) (by decide) (by decide)
  omega

theorem cidNew_some {version codec code : Nat} {d : Bytes} {c : Cid}
    (h : cidNew version codec code d = some c) (hv : version ≤ 1) :
    c.version = version ∧ c.codec = codec ∧ c.hashCode = code ∧ c.digest = d := by
  unfold cidNew at h
  split at h
  · split at h
    · simp at h
    · split at h
      · simp at h
      · rename_i hv0 hc _
        simp only [Option.some.injEq] at h
        subst h
        simp only [ne_eq, Decidable.not_not] at hc
        exact ⟨hv0.symm, hc.symm, rfl, rfl⟩
  · simp only [Option.some.injEq] at h
    subst h
    exact ⟨by simp only; omega, rfl, rfl, rfl⟩

theorem fromBytes_version_le {bs : Bytes} {p : Prefix} (h : Prefix.fromBytes bs = some p) :
    p.version ≤ 1 := by
  unfold Prefix.fromBytes at h
  iterate 7 (split at h; cases h)
  cases h
  exact Nat.le_of_not_lt (by assumption)

theorem blockToResponse_some {H : HashFamily} {pfx data : Bytes} {c : Cid} {d : Bytes}
    (h : blockToResponse H pfx data = some (c, d)) :
    d = data ∧ ∃ p, Prefix.fromBytes pfx = some p ∧ H.supported p.mhType = true ∧
      c.version = p.version ∧ c.codec = p.codec ∧ c.hashCode = p.mhType ∧
      c.digest = H.digest p.mhType data ∧ c.digest.length ≤ MH_ALLOC := by
  unfold blockToResponse at h
  split at h
  · simp at h
  · rename_i p hp
    split at h
    · simp at h
    · rename_i hs
      split at h
      · simp at h
      · rename_i hl
        split at h
        · rename_i cid hc
          obtain ⟨rfl, rfl⟩ := h
          have := cidNew_some hc (fromBytes_version_le hp)
          refine ⟨rfl, p, hp, by simpa using hs, this.1, this.2.1, this.2.2.1, this.2.2.2, ?_⟩
          rw [this.2.2.2]; omega
        · simp at h

end Litep2pVerif.Bitswap
