import Litep2pVerif.Model.Tcp.Poll
/-! The `poll_next` model of the TCP transport (`Model/Tcp/Poll.lean`): each polling pass returns the first event due
and leaves the rest due; `Pending` leaves no ready result behind; what the future of `open` resolves to. -/
namespace Litep2pVerif.Tcp.Poll

theorem pollRaw_spec : ∀ (raw : List RawRes) (hs : List (Id × Bool)) (op : List Id),
    let r := pollRaw raw hs op
    rawEvs raw hs = r.1.toList ++ rawEvs r.2.1 r.2.2.1 ∧ (r.1 = none → r.2.1 = []) ∧
      (r.1 ≠ none → r.2.1.length < raw.length)
  | [], hs, op => by simp [pollRaw, rawEvs]
  | r :: rest, hs, op => by
    have skip : ∀ hs'', let r' := pollRaw rest hs'' op
        rawEvs rest hs'' = r'.1.toList ++ rawEvs r'.2.1 r'.2.2.1 ∧ (r'.1 = none → r'.2.1 = []) ∧
          (r'.1 ≠ none → r'.2.1.length < (r :: rest).length) := fun hs'' =>
      have := pollRaw_spec rest hs'' op
      ⟨this.1, this.2.1, fun he => Nat.lt_succ_of_lt (this.2.2 he)⟩
    cases r with
    | canceled id => exact skip _
    | connected id | failed id =>
      simp only [pollRaw, rawEvs]
      cases lookupH hs id with
      | none => exact skip _
      | some aborted =>
        cases aborted
        · simp
        · exact skip _

theorem pollConns_spec : ∀ (cs : List ConnRes) (ds po : List Id),
    let r := pollConns cs ds po
    connEvs cs ds = r.1.toList ++ connEvs r.2.1 r.2.2.1 ∧ (r.1 = none → r.2.1 = []) ∧
      (r.1 ≠ none → r.2.1.length < cs.length)
  | [], ds, po => by simp [pollConns, connEvs]
  | .ok id :: rest, ds, po => by simp [pollConns, connEvs]
  | .err id :: rest, ds, po => by
    simp only [pollConns, connEvs]
    split
    · simp
    · have := pollConns_spec rest ds po
      exact ⟨this.1, this.2.1, fun he => Nat.lt_succ_of_lt (this.2.2 he)⟩

theorem pollNext_spec (t : T) :
    let r := pollNext t
    due t = r.1.toList ++ due r.2 ∧ (r.1 = none → r.2.accepted = 0 ∧ r.2.raw = [] ∧ r.2.conns = []) ∧
      (r.1 ≠ none → size r.2 < size t) := by
  unfold pollNext
  split
  · rename_i hacc
    obtain ⟨n, hn⟩ : ∃ n, t.accepted = n + 1 := ⟨t.accepted - 1, by omega⟩
    simp only [due, size, hn, inboundEvs, Nat.add_sub_cancel, Option.toList, List.cons_append, List.nil_append]
    exact ⟨trivial, nofun, fun _ => by omega⟩
  · rename_i hacc
    have hacc : t.accepted = 0 := by omega
    obtain ⟨hr1, hr2, hr3⟩ := pollRaw_spec t.raw t.handles t.opened
    split
    · rename_i e raw hs op hr
      simp only [hr, ne_eq, reduceCtorEq, not_false_eq_true, forall_const] at hr1 hr3
      simp only [due, size, hacc, inboundEvs, hr1, List.nil_append, Option.toList, List.cons_append]
      exact ⟨trivial, nofun, fun _ => by omega⟩
    · rename_i raw hs op hr
      simp only [hr, forall_const] at hr1 hr2
      obtain ⟨hc1, hc2, hc3⟩ := pollConns_spec t.conns t.dials t.pendingOpen
      split
      rename_i e conns ds po hc
      simp only [hc] at hc1 hc2 hc3
      simp only [due, size, hacc, inboundEvs, hr1, hr2, hc1, rawEvs, List.nil_append, List.length_nil]
      exact ⟨rfl, fun he => ⟨trivial, trivial, hc2 he⟩, fun he => by have := hc3 he; omega⟩

theorem dialFailure_mem_connEvs {id : Id} (post : List ConnRes) : ∀ (pre : List ConnRes) (ds : List Id), id ∈ ds →
    (∀ r ∈ pre, r ≠ .ok id ∧ r ≠ .err id) → Ev.dialFailure id ∈ connEvs (pre ++ .err id :: post) ds := by
  intro pre
  induction pre with
  | nil => intro ds hd _; simp [connEvs, hd]
  | cons r pre ih =>
    intro ds hd hpre
    have hr := hpre r (List.mem_cons_self ..)
    have hrest : ∀ r ∈ pre, r ≠ .ok id ∧ r ≠ .err id := fun x hx => hpre x (List.mem_cons_of_mem _ hx)
    have keep : ∀ j, j ≠ id → id ∈ eraseId ds j := fun j hj => by
      simp only [eraseId, List.mem_filter, hd, true_and]; simpa using fun h => hj h.symm
    cases r with
    | ok j =>
      have hj : j ≠ id := fun e => hr.1 (by rw [e])
      simp only [List.cons_append, connEvs, List.mem_cons]
      exact Or.inr (ih _ (keep j hj) hrest)
    | err j =>
      have hj : j ≠ id := fun e => hr.2 (by rw [e])
      simp only [List.cons_append, connEvs]
      split
      · simp only [List.mem_cons]; exact Or.inr (ih _ (keep j hj) hrest)
      · exact ih _ hd hrest

theorem openRun_res (id : Id) (timeout deadline : Nat) (addrs : List AddrKind) (el : Nat) :
    ((openRun id timeout deadline addrs el).1 = .failed id ∨ (openRun id timeout deadline addrs el).1 = .connected id) ∧
    (AddrKind.answer ∉ addrs → (openRun id timeout deadline addrs el).1 = .failed id) := by
  induction addrs generalizing el with
  | nil => simp [openRun]
  | cons a rest ih =>
    cases a with
    | stall =>
      simp only [openRun]
      split
      · simp
      · have := ih (el + timeout)
        simp only [List.mem_cons, reduceCtorEq, false_or]
        exact this
    | refuse =>
      simp only [openRun, List.mem_cons, reduceCtorEq, false_or]
      exact ih el
    | answer => simp [openRun]

theorem drain_failed (id : Id) :
    drain 2 { raw := [.failed id], handles := [(id, false)] } = ([.openFailure id], {}) := by
  simp [drain, pollNext, pollRaw, lookupH, eraseH, pollConns]

theorem drain_connected (id : Id) :
    drain 2 { raw := [.connected id], handles := [(id, false)] } = ([.opened id], { opened := [id] }) := by
  simp [drain, pollNext, pollRaw, lookupH, eraseH, pollConns, insertId]

theorem drain_canceled (id : Id) :
    drain 2 { raw := [.canceled id], handles := [(id, true)] } = ([], {}) := by
  simp [drain, pollNext, pollRaw, eraseH, pollConns]

theorem openFuture_canceled (id : Id) (timeout mult : Nat) (addrs : List AddrKind) (c : Option Nat)
    (h : openFuture id timeout mult addrs c = .canceled id) :
    ∃ at_, c = some at_ ∧ at_ < (openRun id timeout (mult * timeout) addrs 0).2 := by
  have hne : (openRun id timeout (mult * timeout) addrs 0).1 ≠ .canceled id := by
    rcases (openRun_res id timeout (mult * timeout) addrs 0).1 with h' | h' <;> rw [h'] <;> nofun
  cases c with
  | none => exact absurd h hne
  | some a =>
    simp only [openFuture] at h
    split at h
    · exact ⟨a, rfl, by assumption⟩
    · exact absurd h hne

end Litep2pVerif.Tcp.Poll
