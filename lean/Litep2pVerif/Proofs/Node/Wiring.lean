import Litep2pVerif.Model.Node.Wiring
import Litep2pVerif.Proofs.Common.List
/-! The wiring model (`Model/Node/Wiring.lean`): `register_protocol` accepts a list of registrations iff the names they
claim are free and pairwise apart (`registerAll_ok_iff`), so whatever the order; every claimed name then resolves to its
own registration (`protocolSet_of_claim`). Around them, what `registrations`, `notes` and the setter folds contain, for
the `Wiring` theorems of the Props files. -/
namespace Litep2pVerif.Node

theorem keepAlive_of_mem_registrations (b : Built) {r : Registration} (h : r ∈ registrations b) :
    r.keepAliveMs = b.keepAliveMs := by
  revert r
  -- the configured protocols are mapped to registrations carrying `b.keepAliveMs`; ping, identify, bitswap remain
  simp only [registrations, List.forall_mem_append, List.forall_mem_map, implies_true, and_true, true_and]
  refine ⟨⟨?_, ?_⟩, ?_⟩ <;> split <;> simp

theorem notif_mem_registrations (b : Built) {p : NotifCfg} (h : p ∈ b.notif) :
    (⟨p.name, p.fallback, .varint (some p.max), b.keepAliveMs, true⟩ : Registration) ∈ registrations b := by
  unfold registrations
  simp only [List.mem_append, List.mem_map]
  exact Or.inl (Or.inl (Or.inl (Or.inl (Or.inl (Or.inl ⟨p, h, rfl⟩)))))

theorem rr_mem_registrations (b : Built) {p : RrCfg} (h : p ∈ b.rr) :
    (⟨p.name, p.fallback, .varint (some p.max), b.keepAliveMs, true⟩ : Registration) ∈ registrations b := by
  unfold registrations
  simp only [List.mem_append, List.mem_map]
  exact Or.inl (Or.inl (Or.inl (Or.inl (Or.inl (Or.inr ⟨p, h, rfl⟩)))))

theorem user_mem_registrations (b : Built) {p : UserCfg} (h : p ∈ b.user) :
    (⟨p.name, [], p.codec, b.keepAliveMs, true⟩ : Registration) ∈ registrations b := by
  unfold registrations
  simp only [List.mem_append, List.mem_map]
  exact Or.inl (Or.inl (Or.inl (Or.inl (Or.inr ⟨p, h, rfl⟩))))

theorem wire_ok {b : Built} {w : Wired} (h : wire b = .ok w) :
    registerAll [] (registrations b) ≠ none ∧ b.tcp = true ∧
    w = { regs := registrations b, limits := b.limits, listen := b.listen.map (fun o => (o, true)),
          known := b.known.map (fun (j, ks) => (j, ks.filter AddrKind.stored)),
          identifyProtocols := (registrations b).map (·.name), spawned := (registrations b).length } := by
  unfold wire at h
  cases hr : registerAll [] (registrations b) with
  | none => simp [hr] at h
  | some t =>
    simp only [hr] at h
    cases ht : b.tcp with
    | false => simp [ht] at h
    | true =>
      simp only [ht, Bool.not_true, Bool.false_eq_true, if_false] at h
      injection h with h
      exact ⟨by simp, rfl, h.symm⟩

def Apart (a b : Registration) : Prop := ∀ x ∈ a.claims, x ∉ b.claims

theorem Apart.symm {a b : Registration} (h : Apart a b) : Apart b a :=
  fun x hb ha => h x ha hb

/-- One call of `register_protocol`: its two checks say that no claimed name is taken; then all of them are. -/
theorem registerAll_cons (taken : List String) (r : Registration) (rs : List Registration) :
    registerAll taken (r :: rs) ≠ none ↔
      (∀ x ∈ r.claims, x ∉ taken) ∧ registerAll (r.claims ++ taken) rs ≠ none := by
  rw [registerAll, Registration.claims, List.forall_mem_cons]
  split
  · rename_i h1
    simp [List.contains_iff_mem.1 h1]
  · rename_i h1
    have h1' : r.name ∉ taken := fun h => h1 (List.contains_iff_mem.2 h)
    split
    · rename_i h2
      obtain ⟨f, hf, hc⟩ := List.any_eq_true.1 h2
      simp only [ne_eq, not_true_eq_false, false_iff, not_and]
      exact fun h => absurd (List.contains_iff_mem.1 hc) (h.2 f hf)
    · rename_i h2
      have h2' : ∀ f ∈ r.fallback, f ∉ taken := fun f hf hc =>
        h2 (List.any_eq_true.2 ⟨f, hf, List.contains_iff_mem.2 hc⟩)
      exact ⟨fun h => ⟨⟨h1', h2'⟩, h⟩, fun h => h.2⟩

/-- A registration's own fallback list is not checked against itself. -/
theorem registerAll_ok_iff (taken : List String) (regs : List Registration) :
    registerAll taken regs ≠ none ↔
      (∀ r ∈ regs, ∀ x ∈ r.claims, x ∉ taken) ∧ regs.Pairwise Apart := by
  induction regs generalizing taken with
  | nil => simp [registerAll]
  | cons r rs ih =>
    rw [registerAll_cons, ih]
    simp only [List.pairwise_cons, List.forall_mem_cons, List.mem_append, not_or, Apart]
    constructor
    · rintro ⟨ha, hb, hp⟩
      exact ⟨⟨ha, fun r' hr' x hx => (hb r' hr' x hx).2⟩, fun r' hr' x hx hx' => (hb r' hr' x hx').1 hx, hp⟩
    · rintro ⟨⟨ha, hb⟩, hd, hp⟩
      exact ⟨ha, fun r' hr' x hx => ⟨fun hx' => hd r' hr' x hx' hx, hb r' hr' x hx⟩, hp⟩

theorem registerAll_names {taken : List String} {regs : List Registration} {t : List String}
    (h : registerAll taken regs = some t) :
    (regs.map (·.name)).Nodup ∧ ∀ r ∈ regs, r.name ∉ taken := by
  obtain ⟨ht, hp⟩ := (registerAll_ok_iff taken regs).1 (by rw [h]; exact Option.some_ne_none t)
  exact ⟨List.pairwise_map.2 (hp.imp (S := fun a b => a.name ≠ b.name) fun ha he =>
      ha _ List.mem_cons_self (he ▸ List.mem_cons_self)),
    fun r hr => ht r hr _ List.mem_cons_self⟩

theorem unique_by_name {regs : List Registration} (hn : (regs.map (·.name)).Nodup)
    {r r' : Registration} (hr : r ∈ regs) (hr' : r' ∈ regs) (he : r'.name = r.name) : r' = r :=
  eq_of_nodup_map _ _ hn r' hr' r hr he

/-- The order in which `Litep2p::new` happens to register the protocols (it iterates over `HashMap`s) does not
decide whether registration succeeds. -/
theorem clashFree_perm {regs regs' : List Registration} (p : regs.Perm regs') :
    registerAll [] regs ≠ none ↔ registerAll [] regs' ≠ none := by
  rw [registerAll_ok_iff, registerAll_ok_iff]
  -- nothing is taken at the start, and being pairwise apart is symmetric
  exact and_congr (by simp) (p.pairwise_iff Apart.symm)

theorem apart_unique {regs : List Registration} (hp : regs.Pairwise Apart) {r r' : Registration}
    (hr : r ∈ regs) (hr' : r' ∈ regs) {x : String} (hx : x ∈ r.claims) (hx' : x ∈ r'.claims) : r = r' :=
  List.Pairwise.forall_of_forall_of_flip (R := fun a b => ∀ x, x ∈ a.claims → x ∈ b.claims → a = b)
    (fun _ _ _ _ _ => rfl) (hp.imp fun ha x hx hx' => absurd hx' (ha x hx))
    (hp.imp fun ha x hx hx' => absurd hx (ha x hx')) hr hr' x hx hx'

theorem unique_of_registered {regs : List Registration} (h : registerAll [] regs ≠ none) {r r' : Registration}
    (hr : r ∈ regs) (hr' : r' ∈ regs) (he : r'.name = r.name) : r' = r :=
  apart_unique ((registerAll_ok_iff [] regs).mp h).2 hr' hr List.mem_cons_self (he ▸ List.mem_cons_self)

/-- The name `ProtocolSet` looks a negotiated name up under: the main name of the registration that claims it. -/
theorem fallbackOwner_getD {regs : List Registration} (hp : regs.Pairwise Apart) {r : Registration} (hr : r ∈ regs)
    {x : String} (hx : x ∈ r.claims) : (fallbackOwner regs x).getD x = r.name := by
  unfold fallbackOwner
  cases hf : regs.find? (fun r => r.fallback.contains x) with
  | some r1 =>
    have hm := List.mem_of_find?_eq_some hf
    have hc := List.find?_some hf
    have hx1 : x ∈ r1.claims := by
      simp only [Registration.claims, List.mem_cons]
      exact Or.inr (by simpa using hc)
    have := apart_unique hp hm hr hx1 hx
    simp [this]
  | none =>
    have hn := List.find?_eq_none.mp hf r hr
    simp only [Registration.claims, List.mem_cons] at hx
    rcases hx with rfl | hx
    · simp
    · exact absurd (by simpa using hx) hn

theorem find_by_claim {regs : List Registration} (hp : regs.Pairwise Apart) {r : Registration} (hr : r ∈ regs)
    {x : String} (hx : x ∈ r.claims) :
    regs.find? (fun r' => r'.name = (fallbackOwner regs x).getD x) = some r := by
  rw [fallbackOwner_getD hp hr hx]
  cases hf : regs.find? (fun r' => r'.name = r.name) with
  | none =>
    have := List.find?_eq_none.mp hf r hr
    simp at this
  | some r2 =>
    have hm := List.mem_of_find?_eq_some hf
    have hc : r2.name = r.name := by simpa using List.find?_some hf
    have h2 : r.name ∈ r2.claims := by simp [Registration.claims, hc]
    have h1 : r.name ∈ r.claims := by simp [Registration.claims]
    rw [apart_unique hp hm hr h2 h1]

theorem protocolSet_of_claim {regs : List Registration} (h : registerAll [] regs ≠ none) {r : Registration}
    (hr : r ∈ regs) {x : String} (hx : x ∈ r.claims) :
    protocolCodec regs x = some r.codec ∧ nameKeepAlive regs x = some r.keepAlive := by
  have hp := ((registerAll_ok_iff [] regs).mp h).2
  unfold protocolCodec nameKeepAlive
  rw [find_by_claim hp hr hx]
  exact ⟨rfl, rfl⟩

theorem kadBuild_append (sets : List KadSet) (s : KadSet) : kadBuild (sets ++ [s]) = s.apply (kadBuild sets) := by
  simp [kadBuild, List.foldl_append]

theorem notes_kad_mem (b : Built) {k : KadCfg} (h : k ∈ b.kad) : Note.kad (kadBuild k.sets) ∈ notes b := by
  unfold notes
  simp only [List.mem_append, List.mem_map]
  exact Or.inl (Or.inl (Or.inr ⟨k, h, rfl⟩))

theorem notes_rr_mem (b : Built) {p : RrCfg} (h : p ∈ b.rr) : Note.rr p.name p.timeoutMs p.maxInbound ∈ notes b := by
  unfold notes
  simp only [List.mem_append, List.mem_map]
  exact Or.inl (Or.inl (Or.inl (Or.inl (Or.inr ⟨p, h, rfl⟩))))

theorem notes_notif_mem (b : Built) {p : NotifCfg} (h : p ∈ b.notif) :
    Note.notif p.name (p.sync.getD Consts.NODE_NOTIF_SYNC_CHANNEL_SIZE) (p.async.getD Consts.NODE_NOTIF_ASYNC_CHANNEL_SIZE)
      (p.mode == 'a') (p.dial.getD true) p.handshake ∈ notes b := by
  unfold notes
  simp only [List.mem_append, List.mem_map]
  exact Or.inl (Or.inl (Or.inl (Or.inl (Or.inl ⟨p, h, rfl⟩))))

theorem notes_bitswap_mem (b : Built) (h : b.bitswap = true) : Note.bitswap ∈ notes b := by
  unfold notes
  simp [h]

theorem bitswap_mem_registrations (b : Built) (h : b.bitswap = true) :
    (⟨bitswapName, [], .varint (some Consts.BITSWAP_MAX_MESSAGE_SIZE), b.keepAliveMs, true⟩ : Registration) ∈
      registrations b := by
  unfold registrations
  simp [h]

theorem tcpHeld_append (b : Built) (sets : List TcpSet) (s : TcpSet) (hb : b.tcpSets = sets ++ [s]) :
    tcpHeld b = { s.apply (sets.foldl TcpSet.apply {}) with maxParallelDials := b.maxParallelDials } := by
  simp [tcpHeld, hb, List.foldl_append]

end Litep2pVerif.Node
